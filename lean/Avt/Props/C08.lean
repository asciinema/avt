/-
  Avt.Props.C08 — SGR attributes and colours reach the printed cells unchanged.

  One theorem per arrow of text (`parseSgrText`) → parser → decoder (`sgrRefOps`) → pen (`penRef`,
  observed through the nine accessors `Pen.obs`) → cells (`noForeignCells`, `printedCell`); then: only
  SGR, the restores and the resets change the pen.  Specification: `Avt.Spec.C08`.  All statements are
  unbounded.
-/
import Avt.Lemmas.C08Pen
import Avt.Lemmas.C08Decode
import Avt.Lemmas.C08Cells
import Avt.Lemmas.C08Text
import Avt.Lemmas.Persist

namespace Avt.Props.C08
open Avt Avt.Spec.C08

/-- **Decoder = reference.**  On every well-formed register file (any number of registers, any
    sub-parameter counts, any 16-bit values) the register machine `SgrOps::next` never panics and
    yields exactly the operations the reference decoder reads off the written parameters. -/
theorem C08_decode {ps : List Param} (h : ∀ q ∈ ps, Param.ok q = true) :
    Parser.sgrOps ps = some (sgrRefOps (paramsOf ps)) := sgrOps_eq_ref ps h

/-- the same, at the point where the parser dispatches `CSI … m`: the registers in use are decoded -/
theorem C08_decode_dispatch {p : Parser} (h : PInv p = true) :
    ∃ ps, p.activeParams = some ps ∧ Parser.sgrOps ps = some (sgrRefOps (paramsOf ps)) :=
  sgrOps_active h

/-- **Text = parser = reference.**  Feeding the text of one complete SGR sequence (7-bit `ESC [` or
    8-bit `0x9b` introducer; digits, ';', ':'; final `m`; any number of parameters and sub-parameters,
    with the register caps 32 / 6 / 16 bit applied as the code applies them)
    makes the table-driven parser (`Gen.feedArms`, `Gen.csiArms` — regenerated from `parser.rs`)
    emit exactly one function, `.sgr ops`, with `ops` the reference decoding of the parameters as
    they are written in the text; the parser is in the ground state afterwards.  The state before does
    not matter: both introducers are taken from any state. -/
theorem C08_text {p : Parser} (hi : PInv p = true) (hs : p.state = .Ground) {txt : List Nat}
    {ws : List (List Nat)} (h : parseSgrText txt = some ws) :
    ∃ p', emit p txt = some (p', [.sgr (sgrRefOps ws)]) ∧ p'.state = .Ground :=
  text_spec hi h

/-- **The whole path for one sequence**: text → parser → decoder → pen.  `Vt::feed` over the
    characters of the sequence changes nothing but the parser registers and the pen, and the pen is
    the reference pen for the parameters as written. -/
theorem C08_sequence {v : Vt} (hi : PInv v.parser = true) (hs : v.parser.state = .Ground)
    (hp : v.terminal.pen.attrs < 32) {txt : List Nat} {ws : List (List Nat)}
    (h : parseSgrText txt = some ws) :
    ∃ p', v.feedAll txt
        = some { parser := p', terminal := { v.terminal with pen := penRef v.terminal.pen (sgrRefOps ws) } }
      ∧ p'.state = .Ground := by
  obtain ⟨p', he, hg⟩ := text_spec hi h
  refine ⟨p', ?_, hg⟩
  rw [Run.feedAll_of_run (emit_eq_run txt _ ▸ he) rfl]
  simp only [Terminal.sgr]
  rw [foldl_eq_penRef _ _ hp]

/-- **Fold.**  `Terminal::sgr` is the left fold of `applySgr` over the operations, touches nothing
    but the pen, and the resulting pen is the reference pen (the one whose nine accessors report the
    reference observations). -/
theorem C08_fold (t : Terminal) (ops : List SgrOp) :
    t.execute (.sgr ops) = some { t with pen := ops.foldl Terminal.applySgr t.pen }
    ∧ (t.sgr ops).pen = ops.foldl Terminal.applySgr t.pen
    ∧ (t.pen.attrs < 32 → (t.sgr ops).pen = penRef t.pen ops)
    ∧ (t.pen.attrs < 32 → Pen.obs (t.sgr ops).pen = obsRef (Pen.obs t.pen) ops) :=
  ⟨rfl, rfl, fun h => foldl_eq_penRef t.pen ops h, fun _ => obs_foldl ops t.pen⟩

/-- **Independence.**  For every operation and every pen (attribute byte inside the five bits in
    use), the nine accessors after `applySgr` are what `obsStep` — one line per operation, touching
    only the accessors the property names — says; the proof goes through the generated masks
    `Gen.italicMask … Gen.inverseMask` (`mask_set`, `mask_unset`). -/
theorem C08_independent (p : Pen) (op : SgrOp) (h : p.attrs < 32) :
    Pen.obs (Terminal.applySgr p op) = obsStep (Pen.obs p) op ∧ (Terminal.applySgr p op).attrs < 32 :=
  ⟨obs_applySgr p op, attrs_applySgr p op h⟩

/-- the invariant `attrs < 32` holds for the default pen and along every fold -/
theorem C08_attrs_inv :
    Pen.default.attrs < 32 ∧ (∀ (p : Pen) (ops : List SgrOp), p.attrs < 32 → (ops.foldl Terminal.applySgr p).attrs < 32) :=
  ⟨by decide, fun p ops h => attrs_foldl ops p h⟩

/-- spelled out for two representative pairs: setting blink leaves the other eight accessors alone,
    and bold / faint exclude each other -/
theorem C08_independent_examples (p : Pen) (h : p.attrs < 32) :
    (let q := Terminal.applySgr p .setBlink
     q.isBlink = true ∧ q.isInverse = p.isInverse ∧ q.isItalic = p.isItalic ∧ q.isUnderline = p.isUnderline
       ∧ q.isStrikethrough = p.isStrikethrough ∧ q.isBold = p.isBold ∧ q.isFaint = p.isFaint
       ∧ q.fg = p.fg ∧ q.bg = p.bg)
    ∧ (let q := Terminal.applySgr p .setFaint
       q.isFaint = true ∧ q.isBold = false ∧ q.isBlink = p.isBlink ∧ q.fg = p.fg) := by
  have h1 := obs_applySgr p .setBlink
  have h2 := obs_applySgr p .setFaint
  simp only [Pen.obs, obsStep, Prod.mk.injEq] at h1 h2
  obtain ⟨a1, a2, a3, a4, a5, a6, a7, a8, a9⟩ := h1
  obtain ⟨b1, b2, b3, b4, b5, b6, b7, b8, b9⟩ := h2
  exact ⟨⟨a8, a9, a5, a6, a7, a3, a4, a1, a2⟩, ⟨b4, b3, b8, b1⟩⟩

/-- **The accessors determine the pen**, so "reports exactly that pen" is meaningful. -/
theorem C08_obs_injective {p q : Pen} (hp : p.attrs < 32) (hq : q.attrs < 32) (h : Pen.obs p = Pen.obs q) :
    p = q := obs_injective p q hp hq h

/-- **Cells, primitives.**  A blank carries the pen it is made with; `Line.blank` consists of such
    blanks; `Line.clear` stores them in the whole range. -/
theorem C08_cells_primitives (pen : Pen) :
    (Cell.blank pen).pen = pen
    ∧ (∀ cols, ∀ c ∈ (Line.blank cols pen).cells, c = Cell.blank pen)
    ∧ (∀ (l l' : Line) (a b : Nat), l.clear a b pen = some l' →
        ∀ i, a ≤ i → i < b → l'.cells[i]? = some (Cell.blank pen)) := by
  refine ⟨rfl, ?_, ?_⟩
  · intro cols c hc
    simp only [Line.blank, List.mem_replicate] at hc
    exact hc.2
  · intro l l' a b h i h1 h2
    exact lineClear_get h i h1 h2

/-- **Cells.**  After a printing or blanking function (`print`, `rep`, `ich`, `dch`, `ech`, `ed`,
    `el`, `il`, `dl`, `su`, `sd`, `lf`, `nel`, `ri` — every place where the model calls `Cell.blank`,
    `Line.blank`, `Line.clear`, `Line.print`, `Line.insert`, `Line.delete` from `Terminal.execute`,
    except DECALN, which fills with the default pen by definition) every cell of the view either
    carries the current pen or is a cell that was already in the view; the pen itself is unchanged.
    This is the predicate the oracle evaluates (`noForeignCells`). -/
theorem C08_cells {t t' : Terminal} {f : Function} (hw : writesWithPen f = true)
    (h : t.execute f = some t') :
    noForeignCells t.pen t.buffer.view t'.buffer.view = true ∧ t'.pen = t.pen := by
  have hs : St (fun c => c.pen = t.pen ∨ ∃ l0 ∈ t.buffer.view, c ∈ l0.cells) (fun _ => True) t.pen t :=
    ⟨rfl, fun _ _ _ _ => .inr trivial, fun l hl c hc => Or.inr ⟨l, hl, hc⟩⟩
  have := writes_ok hw (fun _ => Or.inl rfl) hs h
  exact ⟨(noForeignCells_iff _ _ _).mpr this.2.2, this.1⟩

/-- **The printed cell.**  A single `print` stores a cell carrying the current pen at the position
    the oracle inspects (`printedCell`: the column left of the new cursor, or the last column when
    auto-wrap is off and the cursor is already there), in replace and in insert mode, with or without
    a pending wrap / scroll before it. -/
theorem C08_print_cell {t t' : Terminal} {ch : Nat} (hi : TInv t = true) (h : t.execute (.print ch) = some t') :
    ∃ c, printedCell t t' = some c ∧ c.pen = t.pen :=
  print_cell (TOK.of_TInv hi).bcols h

/-- **REP.**  The repeated character is re-printed with the *current* pen, not with the pen of the
    cell it is copied from: the last copy (left of the new cursor, auto-wrap on) carries `t.pen`. -/
theorem C08_rep_cell {t t' : Terminal} {n : Nat} (hi : TInv t = true) (haw : t.autoWrapMode = true)
    (hc : t.cursor.col > 0) (h : t.execute (.rep n) = some t') :
    ∃ c, printedCell t t' = some c ∧ c.pen = t.pen :=
  rep_cell (TOK.of_TInv hi).bcols haw hc h

/-- the same for any predicate: whatever holds for every cell of the view and for every cell carrying
    the current pen still holds for every cell of the view afterwards -/
theorem C08_cells_general {Q : Cell → Prop} {t t' : Terminal} {f : Function} (hw : writesWithPen f = true)
    (hQ : ∀ c, Q ⟨c, t.pen⟩) (hv : ∀ l ∈ t.buffer.view, ∀ c ∈ l.cells, Q c) (h : t.execute f = some t') :
    ∀ l ∈ t'.buffer.view, ∀ c ∈ l.cells, Q c :=
  (writes_ok (W := fun _ => True) hw hQ ⟨rfl, fun _ _ _ _ => .inr trivial, hv⟩ h).2.2

/-! ### the hypotheses are satisfiable on concrete non-trivial data -/

/-- registers after `CSI 1;38;5;200;48:2::1:2:300;38;2;7 m` (the last colour is truncated) -/
def exRegs : List Param :=
  [⟨0, [1, 0, 0, 0, 0, 0]⟩, ⟨0, [38, 0, 0, 0, 0, 0]⟩, ⟨0, [5, 0, 0, 0, 0, 0]⟩, ⟨0, [200, 0, 0, 0, 0, 0]⟩,
   ⟨5, [48, 2, 0, 1, 2, 300]⟩, ⟨0, [38, 0, 0, 0, 0, 0]⟩, ⟨0, [2, 0, 0, 0, 0, 0]⟩, ⟨0, [7, 0, 0, 0, 0, 0]⟩]

theorem exRegs_decoded : (∀ q ∈ exRegs, Param.ok q = true)
    ∧ Parser.sgrOps exRegs
        = some [.setBold, .setFg (.indexed 200), .setBg (.rgb 1 2 44), .setInverse] := by decide

example : (∀ q ∈ exRegs, Param.ok q = true)
    ∧ Parser.sgrOps exRegs
        = some [.setBold, .setFg (.indexed 200), .setBg (.rgb 1 2 44), .setInverse] := exRegs_decoded

example : sgrRefOps (paramsOf exRegs)
    = [.setBold, .setFg (.indexed 200), .setBg (.rgb 1 2 44), .setInverse] :=
  (Option.some.inj ((C08_decode exRegs_decoded.1).symm.trans exRegs_decoded.2))

/-- `CSI 1;38;5;200;48:2::1:2:300;38;2;7 m` as text -/
def exText : List Nat :=
  [0x9b, 0x31, 0x3b, 0x33, 0x38, 0x3b, 0x35, 0x3b, 0x32, 0x30, 0x30, 0x3b, 0x34, 0x38, 0x3a, 0x32, 0x3a, 0x3a,
   0x31, 0x3a, 0x32, 0x3a, 0x33, 0x30, 0x30, 0x3b, 0x33, 0x38, 0x3b, 0x32, 0x3b, 0x37, 0x6d]

example : PInv Parser.new = true ∧ Parser.new.state = .Ground
    ∧ parseSgrText exText = some [[1], [38], [5], [200], [48, 2, 0, 1, 2, 300], [38], [2], [7]] := by decide

/-- a non-default pen inside the invariant, and a terminal that prints with it -/
def exPen : Pen := { fg := some (.indexed 3), bg := none, intensity := .faint, attrs := 9 }

example : exPen.attrs < 32
    ∧ Pen.obs (Terminal.applySgr exPen .resetBlink)
        = (some (.indexed 3), none, false, true, true, false, false, false, false) := ⟨by decide, rfl⟩

example : (do
    let t ← Terminal.new 3 2 none
    let t ← t.execute (.sgr [.setUnderline])
    let t ← t.execute (.print 0x61)
    let t ← t.execute (.print 0x62)
    let t ← t.execute (.print 0x63)
    let t1 ← t.execute (.print 0x64)      -- wraps first
    pure (TInv t && t.pendingWrap
          && (match printedCell t t1 with | some c => c.pen == t.pen && c.ch == 0x64 | none => false))) = some true := by
  decide

example : (do
    let t ← Terminal.new 4 2 none
    let t ← t.execute (.print 0x61)
    let t ← t.execute (.sgr [.setFg (.rgb 1 2 3)])
    let t1 ← t.execute (.rep 2)
    pure (TInv t && t.autoWrapMode && decide (t.cursor.col > 0)
          && (match printedCell t t1 with | some c => c.pen == t.pen && c.ch == 0x61 | none => false))) = some true := by
  decide

example : (do
    let t ← Terminal.new 4 2 none
    let t ← t.execute (.sgr [.setItalic, .setBg (.indexed 9)])
    let t1 ← t.execute (.print 0x61)
    let t2 ← t1.execute (.el .toRight)
    pure (writesWithPen (.el .toRight) && noForeignCells t1.pen t1.buffer.view t2.buffer.view
          && t2.buffer.view.any fun l => l.cells.any fun c => c.pen != Pen.default)) = some true := by
  decide

/-! ### the pen is state: only SGR, the restores and the resets change it -/

/-- **Function level.**  A function other than SGR, DECRC, SCORC, DECRST 1048 / 1049, DECSTR and RIS
    (`setsPen`) leaves the pen exactly as it was — every terminal state, every geometry, no
    invariant needed.  In particular printing, erasing, scrolling, saving the cursor, setting any DEC
    mode (1049 included: it saves, it does not restore) and both directions of the plain switch of
    screens (DECSET / DECRST 47, 1047, with the reflow that follows) keep the pen, so "every cell
    printed or blanked afterwards" is printed or blanked with the fold of the SGR parameters. -/
theorem C08_pen_persists {t t' : Terminal} {f : Function} (hf : setsPen f = false)
    (h : t.execute f = some t') : t'.pen = t.pen :=
  Avt.C08P.kept.step hf h

/-- **Call level.**  If none of the functions the parser emits for the input (from the parser state
    the call starts in) sets the pen, then the fold of `execute` over them, per-character `Vt::feed`,
    `Vt.feedAll` and `Vt::feed_str` (which ends with `changes()` + `gc()`) all leave the pen as it
    was.  This is the clause `pen-persists` of the oracle (`Spec.C08.checkPenFrame`). -/
theorem C08_pen_persists_feed {v : Vt} {xs : List Nat}
    (hf : ∀ f ∈ Frame.emitted v.parser xs, setsPen f = false) :
    (∀ t', Terminal.foldM' Terminal.execute (Frame.emitted v.parser xs) v.terminal = some t' →
        t'.pen = v.terminal.pen)
    ∧ (∀ v', v.feedAll xs = some v' → v'.terminal.pen = v.terminal.pen)
    ∧ (∀ v' ch, v.feedStr xs = some (v', ch) → v'.terminal.pen = v.terminal.pen)
    ∧ (∀ c v', xs = [c] → v.feed c = some v' → v'.terminal.pen = v.terminal.pen) :=
  ⟨fun _ h => Avt.C08P.kept.many hf h,
   fun _ h => Avt.C08P.kept.feedAll xs hf h,
   fun _ _ h => Avt.C08P.kept.feedStr hf h,
   fun _ _ e h => Avt.C08P.kept.feed (by rw [← e]; exact hf) h⟩

/-- **Resize.**  `Terminal::resize` (any old and new geometry, either screen) and `Vt::resize` leave
    the pen as it was.  This is the clause `resize-keeps-pen` of the oracle. -/
theorem C08_pen_persists_resize :
    (∀ {t t' : Terminal} {cols rows : Nat}, t.resize cols rows = some t' → t'.pen = t.pen)
    ∧ (∀ {v v' : Vt} {cols rows : Nat} {ch : Changes}, v.resize cols rows = some (v', ch) →
        v'.terminal.pen = v.terminal.pen) :=
  ⟨fun h => Avt.C08P.resize_pen h, fun h => Avt.C08P.kept.vtResize Avt.C08P.resize_pen h⟩

/-- which DEC modes count: setting never does; resetting does exactly when 1048 or 1049 is among the
    modes -/
theorem C08_setsPen_modes (ms : List DecMode) :
    setsPen (.decset ms) = false
    ∧ (setsPen (.decrst ms) = true ↔ .saveCursor ∈ ms ∨ .saveCursorAltScreenBuffer ∈ ms) := by
  refine ⟨rfl, ?_⟩
  simp only [setsPen, List.any_eq_true]
  constructor
  · rintro ⟨m, hm, hp⟩
    cases m <;> simp only [restoresPen, Bool.false_eq_true] at hp
    · exact Or.inl hm
    · exact Or.inr hm
  · rintro (h | h)
    · exact ⟨_, h, rfl⟩
    · exact ⟨_, h, rfl⟩

/-! the hypotheses are satisfiable: a 4x3 terminal with a bold red pen (`CSI 1;31 m`) enters the
    alternate screen (`CSI ?1047h`), prints, scrolls it (three LF, `CSI S`), leaves it again
    (`CSI ?1047l`) and is resized: none of the seven emitted functions sets the pen, and the pen is
    still bold red — while a `CSI ?1048l` from the same state does count (and gives back the default
    pen of the never-saved context) -/

private def exFrameIn : List Nat :=
  [0x1b, 0x5b, 0x3f, 0x31, 0x30, 0x34, 0x37, 0x68, 0x61, 0x0a, 0x0a, 0x0a, 0x1b, 0x5b, 0x53,
   0x1b, 0x5b, 0x3f, 0x31, 0x30, 0x34, 0x37, 0x6c]

example : (do
    let v ← Vt.new 4 3 none
    let (v0, _) ← v.feedStr [0x1b, 0x5b, 0x31, 0x3b, 0x33, 0x31, 0x6d]
    let (v1, _) ← v0.feedStr exFrameIn
    let (v2, _) ← v1.resize 7 2
    let (v3, _) ← v2.feedStr [0x1b, 0x5b, 0x3f, 0x31, 0x30, 0x34, 0x38, 0x6c]
    pure (Pen.obs v0.terminal.pen == (some (.indexed 1), none, true, false, false, false, false, false, false)
          && Frame.emitted v0.parser exFrameIn
               == [.decset [.altScreenBuffer], .print 0x61, .lf, .lf, .lf, .su 0, .decrst [.altScreenBuffer]]
          && (Frame.emitted v0.parser exFrameIn).all (fun f => !setsPen f)
          && v1.terminal.pen == v0.terminal.pen && v2.terminal.pen == v0.terminal.pen
          && (v2.terminal.cols, v2.terminal.rows) == (7, 2)
          && setsPen (.decrst [.saveCursor]) && Pen.obs v3.terminal.pen == Obs.default)) = some true := by
  decide

end Avt.Props.C08
