/-
  Avt.Props.Api — the step-level properties as a user of the public API sees them: over every state
  reachable through the API (`Reach`), over the BYTES fed to `feed_str`, observed through `Vt.cursor`,
  `Vt.view`, `Vt.lines` and the returned `Changes`.

  Each theorem composes three layers:
    text ↦ function      C03 (`C03_csi_sequence`, `C03_esc_sequence`) through
                         `Api.SeqText.run`: a complete sequence makes the parser emit exactly the
                         reference function — CSI / ESC sequences from ANY parser state, C0 / C1
                         controls and printable characters from Ground; 7- and 8-bit introducers; every
                         parameter spelling (`Api.CmdText`: missing, `0`, leading zeros, exact up to 65535);
    function ↦ spec      C04–C08, C15, C17, C18 (`TInv t → t.execute f = some (spec t f)`);
    reachable ↦ invariant `Closed.C02_reach`, and `Api.Api_bridge_run` (the call returns `finishT` of the fold).
  For the properties that have a step specification (C04–C07, C18) the composition is `Api.Api_spec` at
  the property's `(covered, spec)` pair; what remains in each theorem is the property's own vocabulary.

  Hypotheses left: `Reach v`, "the text is a complete sequence selecting `f`" (`SeqText v.parser xs (some f)`,
  decided from the text and — for controls / printables — `v.parser.state = Ground`), and the property's
  own coverage predicate.  No `TInv`, no `PInv`; "this call returned" only where a theorem speaks about a
  series of calls (C17), and then a closed form without it is given as well.
-/
import Avt.Lemmas.ApiText
import Avt.Props.C04
import Avt.Props.C05
import Avt.Props.C06
import Avt.Props.C07
import Avt.Props.C08
import Avt.Props.C15
import Avt.Props.C17
import Avt.Props.C18
import Avt.Props.C20

namespace Avt.Props.Api
open Avt Avt.Spec Avt.Api

/-- cell `(r, c)` of the visible screen, through `Vt.view` -/
def viewCell (v : Vt) (r c : Nat) : Option Cell := (v.view[r]?).bind fun l => l.cells[c]?

/-- the cells of visible row `i`, through `Vt.view` (wrap marks are not cells) -/
def viewRow (v : Vt) (i : Nat) : Option (List Cell) := (v.view[i]?).map Line.cells

theorem specFor_C05 : SpecFor Spec.C05.covered Spec.C05.moveSpec := fun _ _ h hc => C05_move h hc
theorem specFor_C06 : SpecFor (fun _ f => Spec.C06.coveredScroll f) Spec.C06.scrollCmdSpec :=
  fun t f h hc => C06.C06_cmd t f h hc
theorem specFor_C07 : SpecFor (fun _ f => Spec.C07.coveredEdit f) Spec.C07.editSpec :=
  fun t f h hc => C07.C07_edit t f h hc
theorem specFor_C18 : SpecFor (fun _ f => Spec.C18.isTabOp f) Spec.C18.tabSpec :=
  fun _ _ h hc => C18_tabop h hc

section C05
open Avt.Spec.C05

/-- **C05 at the API.**  From every reachable state, feeding the text of any cursor command — `CSI n`
    `A B C D E F G H I Z` `` ` `` `a d e f`, `CSI t;b r`, `CSI ?6h/l` (any parser state, both introducers,
    any parameter spelling), BS, CR, HT, and LF / VT / FF / IND / NEL / RI while not on the margin (from
    Ground; their `ESC` forms from any state): `feed_str` returns, `cursor()` is where `moveSpec` says
    (with its pending-wrap flag, margins and origin mode), `view()` is unchanged — no cell, no wrap
    mark —, no changed line is reported beyond those already pending, and the complete terminal is
    `moveSpec` run through `changes()` + `gc()`.  Per-character `feed`: the terminal is `moveSpec` itself. -/
theorem Api_C05 {v : Vt} (hR : Reach v) {xs : List Nat} {f : Function}
    (hx : SeqText v.parser xs (some f)) (hc : covered v.terminal f = true) :
    ∃ v' ch, v.feedStr xs = some (v', ch)
      ∧ v'.cursor = (moveSpec v.terminal f).cursor
      ∧ v'.terminal.pendingWrap = (moveSpec v.terminal f).pendingWrap
      ∧ v'.view = v.view
      ∧ ch.lines = Dirty.toVec v.terminal.dirtyLines
      ∧ v'.terminal = finishT (moveSpec v.terminal f)
      ∧ v'.parser.state = .Ground ∧ Reach v'
      ∧ ∃ g, v.feedAll xs = some g ∧ g.terminal = moveSpec v.terminal f := by
  obtain ⟨v', ch, hg, F⟩ := Api_spec specFor_C05 hR hx hc
  have ht := (reach_parts hR).2
  refine ⟨v', ch, F.fed, F.cursor, F.same .pendingWrap rfl, ?_, ?_, F.terminal, hg, F.reach, _, F.chars, rfl⟩
  · rw [F.view, (moveSpec_frame ht hc).1]; rfl
  · rw [F.lines, (moveSpec_frame ht hc).2.2]

theorem Api_C05_cmd {v : Vt} (hR : Reach v) {xs : List Nat} {f : Function}
    (hx : CmdText v.parser xs f) (hc : covered v.terminal f = true) :
    ∃ v' ch, v.feedStr xs = some (v', ch) ∧ v'.cursor = (moveSpec v.terminal f).cursor
      ∧ v'.view = v.view ∧ Reach v' := by
  obtain ⟨v', ch, h1, h2, _, h4, _, _, _, h8, _⟩ := Api_C05 hR hx.seq hc
  exact ⟨v', ch, h1, h2, h4, h8⟩

end C05

section C04
open Avt.Spec.C04

/-- the specification of the two covered functions as one total function -/
def printFn (t : Terminal) : Function → Terminal
  | .print ch => printSpec t ch
  | .rep n => repSpec t n
  | _ => t

theorem printFn_sound : SpecFor (fun _ f => Spec.C04.covered f) printFn := by
  intro t f h hc
  cases f <;> simp only [Spec.C04.covered, Bool.false_eq_true] at hc
  case print ch => exact C04.C04_print t ch h
  case rep n => exact C04.C04_rep t n h

/-- **C04 at the API, text.**  From every reachable state with the parser in Ground, feeding any run
    of printable characters (`0x20..0x7F` incl. DEL, everything from `0xA0` on): the terminal is the
    left fold of `printSpec` over the characters — glyph through the active character set, deferred
    wrap, scroll on the bottom margin, insert mode, last-column rule, pen — run through `changes()` +
    `gc()`; the changed lines are the rows that fold flags; the parser is untouched. -/
theorem Api_C04_text {v : Vt} (hR : Reach v) (hg : v.parser.state = .Ground) {xs : List Nat}
    (hp : ∀ c ∈ xs, printable c = true) :
    ∃ v' ch, v.feedStr xs = some (v', ch)
      ∧ v'.terminal = finishT (xs.foldl printSpec v.terminal)
      ∧ v'.view = (xs.foldl printSpec v.terminal).buffer.view
      ∧ v'.cursor = (xs.foldl printSpec v.terminal).cursor
      ∧ ch.lines = Dirty.toVec (xs.foldl printSpec v.terminal).dirtyLines
      ∧ v'.parser = v.parser ∧ Reach v'
      ∧ ∃ g, v.feedAll xs = some g ∧ g.terminal = xs.foldl printSpec v.terminal := by
  obtain ⟨v', ch, t', h, hq, F⟩ := Api_bridge_run hR (run_printables xs hg hp)
  have hcov : coveredRun (fun _ f => Spec.C04.covered f) printFn (xs.map Function.print) v.terminal = true :=
    coveredRun_of_all _ _ fun f hf => by
      obtain ⟨c, _, rfl⟩ := List.mem_map.1 hf
      rfl
  -- the fold of `printFn` over the `Print`s is the fold of `printSpec` over the characters
  obtain rfl : xs.foldl printSpec v.terminal = t' := by
    have e := execAll_spec printFn_sound _ (reach_parts hR).2 hcov
    rw [List.foldl_map] at e
    exact Option.some.inj (e.symm.trans h)
  exact ⟨v', ch, F.fed, F.terminal, F.view, F.cursor, F.lines, hq, F.reach, _, F.chars, rfl⟩

/-- **C04 at the API, one item**: a printable character (from Ground) or `CSI n b` (REP; any parser
    state, both introducers, any spelling of `n`): the terminal is `printSpec` resp. `repSpec` — `max n 1`
    prints of the character left of the cursor, as if typed — run through `changes()` + `gc()`. -/
theorem Api_C04 {v : Vt} (hR : Reach v) {xs : List Nat} {f : Function}
    (hx : SeqText v.parser xs (some f)) (hc : Spec.C04.covered f = true) :
    ∃ v' ch, v.feedStr xs = some (v', ch) ∧ v'.terminal = finishT (printFn v.terminal f)
      ∧ v'.view = (printFn v.terminal f).buffer.view ∧ v'.cursor = (printFn v.terminal f).cursor
      ∧ ch.lines = Dirty.toVec (printFn v.terminal f).dirtyLines
      ∧ v'.parser.state = .Ground ∧ Reach v' := by
  obtain ⟨v', ch, hg, F⟩ := Api_spec printFn_sound hR hx hc
  exact ⟨v', ch, F.fed, F.terminal, F.view, F.cursor, F.lines, hg, F.reach⟩

theorem Api_C04_rep {v : Vt} (hR : Reach v) {intro ds : List Nat} (hi : IsCsi intro) (hd : Digits ds) :
    ∃ v' ch, v.feedStr (intro ++ ds ++ [0x62]) = some (v', ch)
      ∧ v'.terminal = finishT (repSpec v.terminal (val ds)) ∧ Reach v' := by
  obtain ⟨v', ch, h1, h2, _, _, _, _, h7⟩ :=
    Api_C04 hR (CmdText.csi1 (p := v.parser) hi .rep hd).seq rfl
  exact ⟨v', ch, h1, h2, h7⟩

/-- the printed cell, through `view()`: after feeding one printable character the row the cursor is
    in holds, at the column the print went to, the glyph of the active character set in the pen that
    was current -/
theorem Api_C04_cell {v : Vt} (hR : Reach v) (hg : v.parser.state = .Ground) {c : Nat}
    (hp : printable c = true) :
    ∃ v' ch, v.feedStr [c] = some (v', ch)
      ∧ viewCell v' v'.cursor.row (C04.printedCol v.terminal) = some ⟨glyph v.terminal c, v.terminal.pen⟩ := by
  obtain ⟨v', ch, h1, _, h3, h4, _⟩ := Api_C04 hR (SeqText.print hg hp) rfl
  obtain ⟨l, e1, e2⟩ := C04.C04_cell_pen v.terminal c (reach_parts hR).2
  refine ⟨v', ch, h1, ?_⟩
  unfold viewCell
  rw [h3, h4]
  show (((printSpec v.terminal c).buffer.view[(printSpec v.terminal c).cursor.row]?).bind _) = _
  rw [e1]; exact e2

end C04

section C15
open Avt.Spec.C15

/-- **C15 at the API.**  For every reachable state and EVERY input: `feed_str` returns, and every
    visible row whose cells differ between `view()` before and after the call is contained in the
    returned `Changes.lines`; a row that is not reported is cell-for-cell what it was. -/
theorem Api_C15 {v : Vt} (hR : Reach v) (xs : List Nat) :
    ∃ v' ch, v.feedStr xs = some (v', ch) ∧ Reach v'
      ∧ (∀ i, i < v'.terminal.rows → viewRow v' i ≠ viewRow v i → i ∈ ch.lines)
      ∧ (∀ i, i < v'.terminal.rows → i ∉ ch.lines → viewRow v' i = viewRow v i) := by
  obtain ⟨v', ch, h1, _, _⟩ := Closed.C02_feedStr xs (Closed.C02_reach hR)
  have hs := C15.C15_sound (reach_parts hR).2 h1
  have key : ∀ i, i < v'.terminal.rows → viewRow v' i ≠ viewRow v i → i ∈ ch.lines :=
    (C15.reportSound_iff _ _ _).1 hs
  refine ⟨v', ch, h1, Reach_feedStr hR h1, key, fun i hi hn => ?_⟩
  by_cases he : viewRow v' i = viewRow v i
  · exact he
  · exact absurd (key i hi he) hn

theorem Api_C15_resize {v : Vt} (hR : Reach v) {c r : Nat} (hc : 1 ≤ c) (hr : 1 ≤ r) :
    ∃ v' ch, v.resize c r = some (v', ch) ∧ Reach v' ∧ v'.size = (c, r)
      ∧ (∀ i, i < v'.terminal.rows → i ∈ ch.lines) := by
  obtain ⟨v', ch, h1, _, _, _, h5⟩ := Vt.resize_ok resizeOK (Closed.C02_reach hR) hc hr
  exact ⟨v', ch, h1, Reach_resize hR hc hr h1, h5, (C15.C15_sound_resize h1).1⟩

end C15

section C20
open Avt.Spec.C20

/-- **C20 at the API.**  From every reachable state with the parser in Ground, feeding any input the
    text-level classifier `isInertInput` accepts (OSC / DCS / SOS / PM / APC strings with any payload,
    7- or 8-bit introducers and terminators, BEL for OSC; CSI and ESC sequences selecting no function;
    unassigned C0 / C1 controls; any concatenation): `feed_str` returns; `view()`, `cursor()`, pen,
    every mode, margins, tab stops and saved contexts are what they were; the parser is back in
    Ground; the changed lines reported are those already pending — none when the previous call was a
    `feed_str` or `resize` (which cleared the flags). -/
theorem Api_C20 {v : Vt} (hR : Reach v) (hg : v.parser.state = .Ground) {s : List Nat}
    (h : isInertInput s = true) :
    ∃ v' ch, v.feedStr s = some (v', ch) ∧ Reach v'
      ∧ v'.view = v.view ∧ v'.cursor = v.cursor ∧ v'.size = v.size
      ∧ v'.cursorKeyAppMode = v.cursorKeyAppMode
      ∧ v'.terminal = finishT v.terminal ∧ v'.parser.state = .Ground
      ∧ ch.lines = Dirty.toVec v.terminal.dirtyLines
      ∧ (v.terminal.dirtyLines.all (· == false) = true → ch.lines = [])
      ∧ (∀ (u : Vt) (ys : List Nat) (c0 : Changes), u.feedStr ys = some (v, c0) → ch.lines = []) := by
  obtain ⟨v', ch, h1, h2, h3, h4, h5⟩ := C20.C20_inert_feedStr (reach_parts hR).1 hg h
  refine ⟨v', ch, h1, Reach_feedStr hR h1, ?_, ?_, ?_, ?_, h2, h3, h4, h5, ?_⟩
  · exact view_of_finishT h2
  · exact cursor_of_finishT h2
  · show (v'.terminal.cols, v'.terminal.rows) = _; rw [h2]; rfl
  · show decide (v'.terminal.cursorKeysMode = .application) = _; rw [h2]; rfl
  · intro u ys c0 hu
    apply h5
    obtain ⟨g, _, e⟩ := Vt.feedStr_eq_some.1 hu
    cases e
    exact finishT_clean g.terminal

theorem Api_C20_feed {v : Vt} (hR : Reach v) (hg : v.parser.state = .Ground) {s : List Nat}
    (h : isInertInput s = true) :
    ∃ v', v.feedAll s = some v' ∧ v'.terminal = v.terminal ∧ v'.parser.state = .Ground ∧ Reach v' := by
  obtain ⟨v', h1, h2, h3⟩ := C20.C20_inert_feedChars (reach_parts hR).1 hg h
  exact ⟨v', h1, h2, h3, Reach_feedAll hR h1⟩

theorem Api_C20_seq {v : Vt} (hR : Reach v) {xs : List Nat} (hx : SeqText v.parser xs none) :
    ∃ v' ch, v.feedStr xs = some (v', ch) ∧ v'.view = v.view ∧ v'.cursor = v.cursor
      ∧ v'.terminal = finishT v.terminal ∧ v'.parser.state = .Ground ∧ Reach v' := by
  obtain ⟨v', ch, hg, F⟩ := Api_seq_none hR hx
  exact ⟨v', ch, F.fed, F.view, F.cursor, F.terminal, hg, F.reach⟩

end C20

section C07
open Avt.Spec.C07

/-- wrap mark of visible row `r`, through `Vt.view` -/
def viewMark (v : Vt) (r : Nat) : Option Bool := (v.view[r]?).map Line.wrapped

theorem viewCell_finish {v' : Vt} {t1 : Terminal} (h : v'.terminal = finishT t1) (r c : Nat) :
    viewCell v' r c = cellAt t1 r c :=
  congrArg (fun vw : List Line => (vw[r]?).bind fun l => l.cells[c]?) (view_of_finishT h)

/-- **C07 at the API.**  From every reachable state, feeding the text of `CSI n J` (ED 0–3), `CSI n K`
    (EL 0–2), `CSI n X` (ECH), `CSI n @` (ICH), `CSI n P` (DCH) — any parser state, both introducers,
    any spelling of `n` — or `ESC # 8` (DECALN): the terminal is `editSpec` run through `changes()` +
    `gc()`; through `view()`: every cell OUTSIDE the extent is what it was; for ED / EL / ECH every cell
    of the extent is a blank in the current pen; DECALN writes `E` with the default pen everywhere;
    `cursor()` is unchanged except that DCH first leaves the wrap-pending column; the wrap mark of
    the cursor row is cleared exactly for EL 0/2, DCH, and ECH reaching the row end. -/
theorem Api_C07 {v : Vt} (hR : Reach v) {xs : List Nat} {f : Function}
    (hx : SeqText v.parser xs (some f)) (hc : coveredEdit f = true) :
    ∃ v' ch, v.feedStr xs = some (v', ch)
      ∧ v'.terminal = finishT (editSpec v.terminal f)
      ∧ (∀ r c, extent v.terminal f r c = false → viewCell v' r c = viewCell v r c)
      ∧ (erases f = true → ∀ r c, r < v.terminal.rows → c < v.terminal.cols →
          extent v.terminal f r c = true → viewCell v' r c = some (Cell.blank v.terminal.pen))
      ∧ (f = .decaln → ∀ r c, r < v.terminal.rows → c < v.terminal.cols →
          viewCell v' r c = some ⟨0x45, Pen.default⟩)
      ∧ v'.cursor.row = v.cursor.row
      ∧ (¬ ((∃ n, f = .dch n) ∧ v.cursor.col ≥ v.terminal.cols) →
          v'.cursor = v.cursor ∧ v'.terminal.pendingWrap = v.terminal.pendingWrap)
      ∧ ((∃ n, f = .dch n) ∧ v.cursor.col ≥ v.terminal.cols →
          v'.cursor.col = v.terminal.cols - 1 ∧ v'.terminal.pendingWrap = false)
      ∧ (((∃ s, f = .el s) ∨ (∃ n, f = .ech n) ∨ (∃ n, f = .ich n) ∨ (∃ n, f = .dch n) ∨ f = .decaln) →
          ∀ r, viewMark v' r =
            if r = v.cursor.row ∧ clearsMark v.terminal f = true then some false else viewMark v r)
      ∧ v'.parser.state = .Ground ∧ Reach v' := by
  have ht := (reach_parts hR).2
  have hex := C07.C07_edit _ f ht hc
  obtain ⟨v', ch, hg, F⟩ := Api_spec specFor_C07 hR hx hc
  obtain ⟨_, f2, _, f4, f5⟩ := C07.C07_frame _ _ _ ht hc hex
  have hpw : v'.terminal.pendingWrap = (editSpec v.terminal f).pendingWrap := F.same .pendingWrap rfl
  refine ⟨v', ch, F.fed, F.terminal, ?_, ?_, ?_, ?_, ?_, ?_, ?_, hg, F.reach⟩
  · intro r c he
    rw [viewCell_finish F.terminal]
    exact C07.C07_outside_extent _ _ _ ht hc hex r c he
  · intro he r c hr hcc hx'
    rw [viewCell_finish F.terminal]
    exact C07.C07_erased_cells _ _ _ ht he hex r c hr hcc hx'
  · intro hf r c hr hcc
    subst hf
    rw [viewCell_finish F.terminal]
    exact C07.C07_decaln_cells _ _ ht hex r c hr hcc
  · rw [F.cursor]; exact f2
  · intro hn
    rw [F.cursor, hpw]; exact f5 hn
  · intro hd
    rw [F.cursor, hpw]; exact f4 hd
  · intro hf r
    unfold viewMark
    rw [F.view]
    exact C07.C07_wrap_marks _ _ _ ht hf hex r

theorem Api_C07_shift {v : Vt} (hR : Reach v) {xs : List Nat} (n : Nat) :
    (SeqText v.parser xs (some (.ich n)) →
      ∃ v' ch, v.feedStr xs = some (v', ch) ∧ ∀ c, viewCell v' v.cursor.row c =
        if c < v.cursor.col then viewCell v v.cursor.row c
        else if c < v.cursor.col + min (asUsize n 1) (v.terminal.cols - v.cursor.col)
          then some (Cell.blank v.terminal.pen)
        else if c < v.terminal.cols
          then viewCell v v.cursor.row (c - min (asUsize n 1) (v.terminal.cols - v.cursor.col))
        else none)
    ∧ (SeqText v.parser xs (some (.dch n)) →
      ∃ v' ch, v.feedStr xs = some (v', ch) ∧ ∀ c,
        let col' := min v.cursor.col (v.terminal.cols - 1)
        let k := min (asUsize n 1) (v.terminal.cols - col')
        viewCell v' v.cursor.row c =
          if c < col' then viewCell v v.cursor.row c
          else if c + k < v.terminal.cols then viewCell v v.cursor.row (c + k)
          else if c < v.terminal.cols then some (Cell.blank v.terminal.pen) else none) := by
  have ht := (reach_parts hR).2
  refine ⟨fun hx => ?_, fun hx => ?_⟩
  · obtain ⟨v', ch, t1, h2, _, F⟩ := Api_seq hR hx
    refine ⟨v', ch, F.fed, fun c => ?_⟩
    rw [viewCell_finish F.terminal]
    exact C07.C07_ich_shift _ _ n ht h2 c
  · obtain ⟨v', ch, t1, h2, _, F⟩ := Api_seq hR hx
    refine ⟨v', ch, F.fed, fun c => ?_⟩
    rw [viewCell_finish F.terminal]
    exact C07.C07_dch_shift _ _ n ht h2 c

end C07

section C06
open Avt.Spec.C06

theorem lines_above {v : Vt} (hR : Reach v) :
    v.lines.length - v.terminal.rows = v.terminal.buffer.sb.length := by
  have k := TOK.of_TInv (reach_parts hR).2
  show (v.terminal.buffer.sb ++ v.terminal.buffer.view).length - _ = _
  rw [List.length_append, k.bok.hv, k.brows]; omega

/-- **C06 at the API.**  From every reachable state, feeding the text of LF / VT / FF / IND / NEL / RI,
    `CSI n S` (SU), `CSI n T` (SD), `CSI n L` (IL), `CSI n M` (DL), `CSI t;b r` (DECSTBM) or CR: the terminal is
    `scrollCmdSpec` run through `changes()` + `gc()`, and through `view()` / `lines()` / `Changes`:
    the range `s..e` the property names (`scrollOf`) is a range of visible rows; every row outside it is
    cell-for-cell unchanged; inside, rows move by exactly `k = min n (e - s)` and the `k` vacated rows
    are blank rows in the current pen; when a range starting at row 0 of the primary screen scrolls
    up, the lines handed out followed by `lines()` are the old lines above the view, then the `k`
    scrolled-off rows — cell for cell, in order —, then the new view; in every other case the lines
    above the view are what they were; the alternate screen keeps none. -/
theorem Api_C06 {v : Vt} (hR : Reach v) {xs : List Nat} {f : Function}
    (hx : SeqText v.parser xs (some f)) (hc : coveredScroll f = true) :
    ∃ v' ch, v.feedStr xs = some (v', ch)
      ∧ v'.terminal = finishT (scrollCmdSpec v.terminal f)
      ∧ v'.cursor = (scrollCmdSpec v.terminal f).cursor
      ∧ v'.view = ((scrollOf v.terminal f).apply v.terminal.pen v.terminal.buffer).view
      ∧ (scrollOf v.terminal f).valid v.terminal.rows
      ∧ (match scrollOf v.terminal f with
         | .none => v'.view = v.view
         | .up s e n =>
           (∀ i, i < s ∨ e ≤ i → viewRow v' i = viewRow v i)
           ∧ (∀ i, s ≤ i → i + min n (e - s) < e → viewRow v' i = viewRow v (i + min n (e - s)))
           ∧ (∀ i, s ≤ i → i < e → e ≤ i + min n (e - s) →
                v'.view[i]? = some (Line.blank v.terminal.cols v.terminal.pen))
         | .down s e n =>
           (∀ i, i < s ∨ e ≤ i → viewRow v' i = viewRow v i)
           ∧ (∀ i, s ≤ i → i + min n (e - s) < e → viewRow v' (i + min n (e - s)) = viewRow v i)
           ∧ (∀ i, s ≤ i → i < s + min n (e - s) → i < e →
                viewRow v' i = some (List.replicate v.terminal.cols (Cell.blank v.terminal.pen))))
      ∧ (v.terminal.activeBufferType = .primary →
          (ch.scrollback ++ v'.lines).map Line.cells =
            (match scrollOf v.terminal f with
             | .up 0 e n => (v.lines.map Line.cells).take (v.lines.length - v.terminal.rows + min n e)
             | _ => (v.lines.map Line.cells).take (v.lines.length - v.terminal.rows))
            ++ v'.view.map Line.cells)
      ∧ (v.terminal.activeBufferType = .alternate → ch.scrollback = [] ∧ v'.lines = v'.view)
      ∧ v'.parser.state = .Ground ∧ Reach v' := by
  obtain ⟨v', ch, hg, F⟩ := Api_spec specFor_C06 hR hx hc
  have ht := (reach_parts hR).2
  obtain ⟨eb, ea⟩ := scrollCmd_buffer v.terminal f
  have k := TOK.of_TInv ht
  have hb : BInv v.terminal.buffer = true := k.bok.BInv
  have hval := scrollOf_valid ht f
  have hview := F.view
  rw [eb] at hview
  obtain ⟨sb1, sb2⟩ := F.scrollback
  rw [ea] at sb1 sb2
  rw [eb] at sb1
  refine ⟨v', ch, F.fed, F.terminal, F.cursor, hview, hval, ?_, ?_, ?_, hg, F.reach⟩
  · -- the rows: the facts about `scrollUpSpec` / `scrollDownSpec`, read through `view()`
    unfold viewRow
    rw [hview, ← k.bcols]
    generalize scrollOf v.terminal f = sc at hval
    cases sc with
    | none => rfl
    | up s e n =>
      have he : e ≤ v.terminal.buffer.rows := k.brows ▸ hval.2
      exact ⟨fun i hi => (C06.C06_outside_unchanged s e n _ _ hb hval.1 he i hi).1,
        fun i h1' h2' => ((C06.C06_shift_and_fill s e n _ _ hb hval.1 he i h1' (by omega)).1 h2').1,
        fun i h1' h2' => (C06.C06_shift_and_fill s e n _ _ hb hval.1 he i h1' h2').2.1⟩
    | down s e n =>
      have he : e ≤ v.terminal.buffer.rows := k.brows ▸ hval.2
      exact ⟨fun i hi => (C06.C06_outside_unchanged s e n _ _ hb hval.1 he i hi).2.1,
        fun i h1' h2' => ((C06.C06_shift_and_fill s e n _ _ hb hval.1 he i h1' (by omega)).1 h2').2,
        fun i h1' h2' h3' => (C06.C06_shift_and_fill s e n _ _ hb hval.1 he i h1' h3').2.2 h2'⟩
  · -- the scrollback, primary screen: it grows only when a range starting at row 0 scrolls up
    intro hp
    rw [sb1 hp, hview, lines_above hR]
    have keep : ∀ b' : Buffer, b'.sb = v.terminal.buffer.sb → b'.lines.map Line.cells =
        (v.lines.map Line.cells).take v.terminal.buffer.sb.length ++ b'.view.map Line.cells :=
      fun b' h => lines_grow (k := 0) (by rw [h]; simp)
    generalize scrollOf v.terminal f = sc
    cases sc with
    | none => exact keep _ rfl
    | down s e n => exact keep _ rfl
    | up s e n =>
      cases s with
      | succ s' => exact keep _ ((C06.C06_scrollback_untouched _ e n _ _).1 (Nat.succ_ne_zero _))
      | zero => exact lines_grow (C06.C06_scrollback_append e n _ _).2.1
  · -- the alternate screen keeps none
    intro ha
    refine ⟨sb2 ha, ?_⟩
    show v'.terminal.buffer.sb ++ v'.terminal.buffer.view = v'.terminal.buffer.view
    rw [F.terminal, C06.C06_alt_keeps_none _ F.inv (ea.trans ha)]; rfl

/-- **no other control function adds to the scrollback**, at the API: after feeding any single item
    whose function is not LF / NEL / SU / DL / Print / REP / RIS / a DEC mode change / XTWINOPS, the lines
    above the view (counting what the call hands out) are what they were, and the parked screen is untouched -/
theorem Api_C06_quiet {v : Vt} (hR : Reach v) {xs : List Nat} {f : Function}
    (hx : SeqText v.parser xs (some f)) (hm : mayChangeScrollback f = false) :
    ∃ v' ch, v.feedStr xs = some (v', ch)
      ∧ (v'.terminal.activeBufferType = .primary →
          ch.scrollback ++ v'.lines = v.lines.take (v.lines.length - v.terminal.rows) ++ v'.view)
      ∧ v'.terminal.otherBuffer = v.terminal.otherBuffer := by
  obtain ⟨v', ch, t1, h2, _, F⟩ := Api_seq hR hx
  have hsame : t1.buffer.sb = v.terminal.buffer.sb ∧ t1.otherBuffer = v.terminal.otherBuffer :=
    C06L.keeps_scrollback hm h2
  refine ⟨v', ch, F.fed, fun hp => ?_, by rw [F.terminal]; exact hsame.2⟩
  rw [F.scrollback.1 (by rw [F.terminal] at hp; exact hp), F.view, lines_above hR]
  show t1.buffer.sb ++ _ = (v.terminal.buffer.sb ++ v.terminal.buffer.view).take _ ++ _
  rw [List.take_left' rfl, hsame.1]

/-- DECSTBM through the API: the margins take effect only for `1 ≤ top < bottom ≤ rows` (after the
    defaults), and the cursor is homed -/
theorem Api_C06_decstbm {v : Vt} (hR : Reach v) {xs : List Nat} {a b : Nat}
    (hx : SeqText v.parser xs (some (.decstbm a b))) :
    ∃ v' ch, v.feedStr xs = some (v', ch) ∧ v'.view = v.view
      ∧ (v'.terminal.topMargin, v'.terminal.bottomMargin) =
          (if 1 ≤ asUsize a 1 ∧ asUsize a 1 < asUsize b v.terminal.rows ∧ asUsize b v.terminal.rows ≤ v.terminal.rows
           then (asUsize a 1 - 1, asUsize b v.terminal.rows - 1)
           else (v.terminal.topMargin, v.terminal.bottomMargin))
      ∧ v'.cursor.col = 0
      ∧ v'.cursor.row = (if v.terminal.originMode then v'.terminal.topMargin else 0) := by
  obtain ⟨v', ch, h1, h2, h3, _, _, h6, _⟩ := Api_C06 hR hx rfl
  have ht := (reach_parts hR).2
  have hm := C06.C06_decstbm v.terminal _ a b ht (C06.C06_cmd _ _ ht rfl)
  refine ⟨v', ch, h1, h6, ?_, ?_, ?_⟩
  · rw [h2]; exact hm
  · rw [h3]; rfl
  · rw [h3, h2]; rfl

end C06

section C08
open Avt.Spec.C08

/-- **C08 at the API.**  From every reachable state and ANY parser state, feeding the text of one SGR
    sequence (`ESC [` or `0x9B`; digits, `;`, `:`; final `m`; any number of parameters and
    sub-parameters): the pen is the reference fold of the parameters as written
    (`penRef … (sgrRefOps ws)`), its nine accessors report `obsRef`; nothing else changes — `view()`,
    `cursor()`, no changed line —; and afterwards
    * every printable character fed stores a cell whose nine accessors report exactly that pen;
    * after any run of printable characters every cell of `view()` either reports that pen or was
      already on the screen;
    * every cell an erase command (ED / EL / ECH, any spelling) blanks is a space reporting that pen. -/
theorem Api_C08 {v : Vt} (hR : Reach v) {txt : List Nat} {ws : List (List Nat)}
    (h : parseSgrText txt = some ws) :
    ∃ v1 ch1, v.feedStr txt = some (v1, ch1)
      ∧ v1.terminal = finishT { v.terminal with pen := penRef v.terminal.pen (sgrRefOps ws) }
      ∧ Pen.obs v1.terminal.pen = obsRef (Pen.obs v.terminal.pen) (sgrRefOps ws)
      ∧ v1.view = v.view ∧ v1.cursor = v.cursor ∧ ch1.lines = Dirty.toVec v.terminal.dirtyLines
      ∧ v1.parser.state = .Ground ∧ Reach v1
      ∧ (∀ c, printable c = true → ∃ v2 ch2 cell, v1.feedStr [c] = some (v2, ch2)
          ∧ printedCell v1.terminal v2.terminal = some cell
          ∧ Pen.obs cell.pen = obsRef (Pen.obs v.terminal.pen) (sgrRefOps ws))
      ∧ (∀ ys, (∀ c ∈ ys, printable c = true) → ∃ v2 ch2, v1.feedStr ys = some (v2, ch2)
          ∧ ∀ l ∈ v2.view, ∀ c ∈ l.cells,
              Pen.obs c.pen = obsRef (Pen.obs v.terminal.pen) (sgrRefOps ws) ∨ ∃ l0 ∈ v1.view, c ∈ l0.cells)
      ∧ (∀ xs f, SeqText v1.parser xs (some f) → Spec.C07.erases f = true →
          ∃ v2 ch2, v1.feedStr xs = some (v2, ch2) ∧ ∀ r c, r < v1.terminal.rows → c < v1.terminal.cols →
            Spec.C07.extent v1.terminal f r c = true →
            ∃ cell, viewCell v2 r c = some cell ∧ cell.ch = 0x20
              ∧ Pen.obs cell.pen = obsRef (Pen.obs v.terminal.pen) (sgrRefOps ws)) := by
  obtain ⟨hp, ht⟩ := reach_parts hR
  have hattr := reach_penOK hR
  obtain ⟨q, hr, hq⟩ := Spec.C08.text_spec hp h
  rw [Spec.C08.emit_eq_run] at hr
  obtain ⟨a1, _, a3, a4⟩ := C08.C08_fold v.terminal (sgrRefOps ws)
  obtain ⟨v1, ch1, b3, F⟩ := Api_single hR hr a1
  have hobs : Pen.obs v1.terminal.pen = obsRef (Pen.obs v.terminal.pen) (sgrRefOps ws) := by
    rw [F.terminal]; exact a4 hattr
  have hg1 : v1.parser.state = .Ground := b3 ▸ hq
  have ht1 := (reach_parts F.reach).2
  refine ⟨v1, ch1, F.fed, ?_, hobs, F.view, F.cursor, F.lines, hg1, F.reach, ?_, ?_, ?_⟩
  · rw [F.terminal, ← a3 hattr]; rfl
  · intro c hc
    obtain ⟨v2, ch2, t2, c2, _, G⟩ := Api_seq F.reach (SeqText.print hg1 hc)
    obtain ⟨cell, d1, d2⟩ := C08.C08_print_cell ht1 c2
    refine ⟨v2, ch2, cell, G.fed, ?_, ?_⟩
    · unfold printedCell printedCol at d1 ⊢
      rw [G.terminal, finishT_view]; exact d1
    · rw [d2]; exact hobs
  · intro ys hys
    obtain ⟨v2, ch2, t2, c2, _, G⟩ := Api_bridge_run F.reach (run_printables ys hg1 hys)
    refine ⟨v2, ch2, G.fed, ?_⟩
    rw [G.view]
    -- along the prints the pen stays, and every cell is an old one or carries the pen (`C08_cells_general`)
    refine (Terminal.foldM'_inv (fun s => s.pen = v1.terminal.pen ∧ ∀ l ∈ s.buffer.view, ∀ c ∈ l.cells,
      Pen.obs c.pen = obsRef (Pen.obs v.terminal.pen) (sgrRefOps ws) ∨ ∃ l0 ∈ v1.view, c ∈ l0.cells)
      ?_ ⟨rfl, fun l hl c hc => .inr ⟨l, hl, hc⟩⟩ c2).2
    intro s f s' hf hs he
    obtain ⟨x, _, rfl⟩ := List.mem_map.1 hf
    exact ⟨(C08.C08_cells rfl he).2.trans hs.1,
      C08.C08_cells_general rfl (fun _ => .inl (hs.1 ▸ hobs)) hs.2 he⟩
  · intro xs f hx he
    obtain ⟨v2, ch2, c1, _, _, c4, _⟩ := Api_C07 F.reach hx (C07L.covered_of_erases he)
    refine ⟨v2, ch2, c1, fun r c hr hcc hext => ⟨_, c4 he r c hr hcc hext, rfl, hobs⟩⟩

end C08

section C17
open Avt.Spec.C17 Avt.Props.C17

theorem Api_restore {v : Vt} (hR : Reach v) {sr : List Nat} {fr : Function}
    (hsr : SeqText v.parser sr (some fr)) (hfr : IsPlainRestore fr) :
    ∃ v' ch, v.feedStr sr = some (v', ch)
      ∧ v'.cursor.col = v.terminal.savedCtx.cursorCol ∧ v'.cursor.row = v.terminal.savedCtx.cursorRow
      ∧ v'.terminal.pen = v.terminal.savedCtx.pen ∧ v'.terminal.originMode = v.terminal.savedCtx.originMode
      ∧ v'.terminal.autoWrapMode = v.terminal.savedCtx.autoWrapMode ∧ v'.terminal.pendingWrap = false
      ∧ Reach v' := by
  obtain ⟨v', ch, t1, a2, _, F⟩ := Api_seq hR hsr
  obtain ⟨r1, r2, r3, r4, r5, r6, _⟩ := C17_restore_step hfr a2
  refine ⟨v', ch, F.fed, ?_, ?_, ?_, ?_, ?_, ?_, F.reach⟩
  · rw [F.cursor]; exact r1
  · rw [F.cursor]; exact r2
  · exact Eq.trans (F.same .pen rfl) r3
  · exact Eq.trans (F.same .originMode rfl) r4
  · exact Eq.trans (F.same .autoWrapMode rfl) r5
  · exact Eq.trans (F.same .pendingWrap rfl) r6

/-- **C17 at the API.**  From every reachable state `v`: feed a save (`ESC 7`, `CSI s`, `CSI ?1048h` —
    any complete text selecting a plain save, from any parser state), then any middle text none of
    whose emitted functions saves on this screen, switches screens, or is DECSTR / RIS (moves, prints,
    SGR, mode and margin changes, erases, scrolls, tab operations, other restores, … — whatever state the
    parser is left in), then a restore (`ESC 8`, `CSI u`, `CSI ?1048l`).  After the restore `cursor()` is
    at the column of `v` clamped to the last real column and at the row of `v`; pen, origin mode and
    auto-wrap mode are those of `v`; no wrap is pending. -/
theorem Api_C17 {v v1 v2 v3 : Vt} {c1 c2 c3 : Changes} {sv mid sr : List Nat} {fs fr : Function}
    (hR : Reach v)
    (hsv : SeqText v.parser sv (some fs)) (hfs : IsPlainSave fs) (h1 : v.feedStr sv = some (v1, c1))
    (hmid : ∀ f ∈ Frame.emitted v1.parser mid, touchesCtx f = false) (h2 : v1.feedStr mid = some (v2, c2))
    (hsr : SeqText v2.parser sr (some fr)) (hfr : IsPlainRestore fr) (h3 : v2.feedStr sr = some (v3, c3)) :
    v3.cursor.col = min v.cursor.col (v.terminal.cols - 1) ∧ v3.cursor.row = v.cursor.row
      ∧ v3.terminal.pen = v.terminal.pen ∧ v3.terminal.originMode = v.terminal.originMode
      ∧ v3.terminal.autoWrapMode = v.terminal.autoWrapMode ∧ v3.terminal.pendingWrap = false
      ∧ Reach v3 := by
  obtain ⟨w1, d1, t1, a2, _, A⟩ := Api_seq hR hsv
  cases h1.symm.trans A.fed
  have e1 := C17_save hfs a2
  obtain ⟨w2, d2, t2, b2, B⟩ := Api_bridge (xs := mid) A.reach rfl
  cases h2.symm.trans B.fed
  -- every function of the middle keeps the invariant (C02) and, under it, the saved context
  have hkeep := (Terminal.foldM'_inv (fun s => TInv s = true ∧ s.savedCtx = v1.terminal.savedCtx)
    (fun s f s' hf hs he =>
      ⟨Terminal.execute_tinv hs.1 he, (C17_frame hs.1 he (hmid f hf)).1.trans hs.2⟩)
    ⟨(reach_parts A.reach).2, rfl⟩ b2).2
  -- the restore finds the context of `v`
  have hctx : v2.terminal.savedCtx = ctxOf v.terminal := by
    rw [B.terminal]
    show t2.savedCtx = _
    rw [hkeep, A.terminal]
    show t1.savedCtx = _
    rw [e1]
  obtain ⟨w3, d3, g1, r⟩ := Api_restore B.reach hsr hfr
  rw [h3] at g1; cases g1
  rw [hctx] at r
  exact r

/-- the same without "this call returned" hypotheses: all three calls return (C01), and the middle
    condition is stated on a fresh parser — the save leaves the parser in Ground, and from Ground the
    emitted functions do not depend on the registers (`C03_memoryless_ground`) -/
theorem Api_C17_closed {v : Vt} {sv mid sr : List Nat} {fs fr : Function} (hR : Reach v)
    (hsv : SeqText v.parser sv (some fs)) (hfs : IsPlainSave fs)
    (hscalar : ∀ c ∈ mid, c < 0x110000)
    (hmid : ∀ f ∈ Frame.emitted Parser.new mid, touchesCtx f = false)
    (hsr : ∀ p : Parser, SeqText p sr (some fr)) (hfr : IsPlainRestore fr) :
    ∃ v1 c1 v2 c2 v3 c3, v.feedStr sv = some (v1, c1) ∧ v1.feedStr mid = some (v2, c2)
      ∧ v2.feedStr sr = some (v3, c3)
      ∧ v3.cursor.col = min v.cursor.col (v.terminal.cols - 1) ∧ v3.cursor.row = v.cursor.row
      ∧ v3.terminal.pen = v.terminal.pen ∧ v3.terminal.originMode = v.terminal.originMode
      ∧ v3.terminal.autoWrapMode = v.terminal.autoWrapMode ∧ v3.terminal.pendingWrap = false := by
  obtain ⟨v1, c1, t1, _, a6, A⟩ := Api_seq hR hsv
  obtain ⟨v2, c2, t2, _, B⟩ := Api_bridge (xs := mid) A.reach rfl
  obtain ⟨v3, c3, t3, _, _, G⟩ := Api_seq B.reach (hsr v2.parser)
  have hm : ∀ f ∈ Frame.emitted v1.parser mid, touchesCtx f = false := by
    obtain ⟨p', q', gs, m1, m2, _⟩ := C03.C03_memoryless_ground (reach_parts A.reach).1 a6 mid hscalar
    have e1 : Frame.emitted v1.parser mid = gs := emits_of_run m1
    have e2 : Frame.emitted Parser.new mid = gs := emits_of_run m2
    rw [e1, ← e2]; exact hmid
  obtain ⟨r1, r2, r3, r4, r5, r6, _⟩ := Api_C17 hR hsv hfs A.fed hm B.fed (hsr v2.parser) hfr G.fed
  exact ⟨v1, c1, v2, c2, v3, c3, A.fed, B.fed, G.fed, r1, r2, r3, r4, r5, r6⟩

theorem Api_C17_default {v : Vt} (hR : Reach v) (hd : v.terminal.savedCtx = defaultCtx)
    {sr : List Nat} {fr : Function} (hsr : SeqText v.parser sr (some fr)) (hfr : IsPlainRestore fr) :
    ∃ v' ch, v.feedStr sr = some (v', ch) ∧ v'.cursor.col = 0 ∧ v'.cursor.row = 0
      ∧ v'.terminal.pen = Pen.default ∧ v'.terminal.originMode = false
      ∧ v'.terminal.autoWrapMode = true ∧ v'.terminal.pendingWrap = false := by
  obtain ⟨v', ch, a1, r1, r2, r3, r4, r5, r6, _⟩ := Api_restore hR hsr hfr
  rw [hd] at r1 r2 r3 r4 r5
  exact ⟨v', ch, a1, r1, r2, r3, r4, r5, r6⟩

/-- restored positions lie inside the screen — whatever happened before, resizes included: `v` is ANY
    reachable state -/
theorem Api_C17_inside {v : Vt} (hR : Reach v) {sr : List Nat} {fr : Function}
    (hsr : SeqText v.parser sr (some fr)) (hfr : IsPlainRestore fr) :
    ∃ v' ch, v.feedStr sr = some (v', ch) ∧ v'.cursor.col < v'.terminal.cols
      ∧ v'.cursor.row < v'.terminal.rows ∧ v'.terminal.pendingWrap = false := by
  obtain ⟨v', ch, a1, _, _, _, _, _, hpw, a7⟩ := Api_restore hR hsr hfr
  have k := TOK.of_TInv (reach_parts a7).2
  refine ⟨v', ch, a1, ?_, k.crow, hpw⟩
  rcases k.ccol with ⟨h, _⟩ | ⟨_, h⟩
  · rw [hpw] at h; cases h
  · exact h

/-- **C17 at the API, separate contexts per screen.**  From a reachable state with the primary screen
    showing: a save; `CSI ?47h` / `CSI ?1047h`; then ANY list of `feed_str` / `feed` / `resize` calls on the
    alternate screen that neither leaves it nor hard-resets — saves and restores THERE included —; then
    `CSI ?47l` / `CSI ?1047l`; then a restore.  The restore re-establishes pen, origin mode and auto-wrap
    mode of the state at the save, and its position, clamped into the screen as it is now (unchanged when no
    resize happened): the other screen's saves did not clobber this one. -/
theorem Api_C17_separate {v v1 v2 v3 v4 v5 : Vt} {c1 c2 c4 c5 : Changes} {sv enter leave sr : List Nat}
    {fs fr : Function} {ops : List PubOp}
    (hR : Reach v) (hp : v.terminal.activeBufferType = .primary)
    (hsv : SeqText v.parser sv (some fs)) (hfs : IsPlainSave fs) (h1 : v.feedStr sv = some (v1, c1))
    (hen : SeqText v1.parser enter (some (.decset [.altScreenBuffer]))) (h2 : v1.feedStr enter = some (v2, c2))
    (hv : ∀ op ∈ ops, op.valid)
    (hq : ∀ f ∈ Spec.C16.emitted v2.parser (Closed2.inputOf ops), Spec.C16.endsExcursion f = false)
    (h3 : run v2 ops = some v3)
    (hle : SeqText v3.parser leave (some (.decrst [.altScreenBuffer]))) (h4 : v3.feedStr leave = some (v4, c4))
    (hsr : SeqText v4.parser sr (some fr)) (hfr : IsPlainRestore fr) (h5 : v4.feedStr sr = some (v5, c5)) :
    v5.cursor.col = min (min v.cursor.col (v.terminal.cols - 1)) (v3.terminal.cols - 1)
      ∧ v5.cursor.row = min v.cursor.row (v3.terminal.rows - 1)
      ∧ v5.terminal.pen = v.terminal.pen ∧ v5.terminal.originMode = v.terminal.originMode
      ∧ v5.terminal.autoWrapMode = v.terminal.autoWrapMode ∧ v5.terminal.pendingWrap = false := by
  obtain ⟨w1, d1, t1, a2, _, A⟩ := Api_seq hR hsv
  cases h1.symm.trans A.fed
  have e1 := C17_save hfs a2
  have hp1 : v1.terminal.activeBufferType = .primary := by rw [A.terminal, e1]; exact hp
  have hs1 : v1.terminal.savedCtx = ctxOf v.terminal := by rw [A.terminal, e1]; rfl
  -- entering the alternate screen parks it
  obtain ⟨_, hen', _⟩ := hen.run (reach_parts A.reach).1
  obtain ⟨_, b2, _, b4, _⟩ := Closed2.C16_vt_enter (me := .altScreenBuffer) (Closed.C02_reach A.reach) hp1 rfl
    ((C16.emitted_eq _ _).trans (emits_of_run hen')) h2
  have hR2 : Reach v2 := Reach_feedStr A.reach h2
  have hpark2 : v2.terminal.alternateSavedCtx = ctxOf v.terminal := by
    rw [b4]; simpa [Spec.C16.parkedCtx] using hs1
  -- anything on the alternate screen keeps the parked context
  obtain ⟨_, g2, g3, _⟩ := Closed2.C16_run_frame ops b2 hq h3
  have hR3 : Reach v3 := Closed.Reach_run ops hR2 hv h3
  -- leaving swaps it back, clamped into the current screen
  obtain ⟨w4, d4, t4, k2, _, K⟩ := Api_seq hR3 hle
  cases h4.symm.trans K.fed
  have hs4' : v4.terminal.savedCtx = clampCtx v3.terminal.cols v3.terminal.rows (ctxOf v.terminal) := by
    rw [K.terminal, ← hpark2, ← g2]
    show t4.savedCtx = _
    exact C17_leave (reach_parts hR3).2 g3 k2
  obtain ⟨w5, d5, m1, r1, r2, r3, r4, r5, r6, _⟩ := Api_restore K.reach hsr hfr
  rw [h5] at m1; cases m1
  rw [hs4'] at r1 r2 r3 r4 r5
  exact ⟨r1, r2, r3, r4, r5, r6⟩

end C17

section C18
open Avt.Spec.C18 Avt.Props.Closed2

theorem tabSpec_buffer (t : Terminal) (f : Function) : (tabSpec t f).buffer = t.buffer := by
  unfold tabSpec
  split <;> rfl

/-- **C18 at the API.**  From every reachable state, feeding the text of HT (from Ground), `CSI n I` (CHT),
    `CSI n Z` (CBT), HTS (`0x88` from Ground, `ESC H` from any state), `CSI n g` (TBC 0 / 3), `CSI n W`
    (CTC 0 / 2 / 5): the terminal is `tabSpec` run through `changes()` + `gc()` — the stop vector (sorted-set
    insert / remove under the guards `0 < col < cols`) or the cursor column (the `n`-th next / previous
    stop, else the last / first column) changes, `view()` and everything else do not. -/
theorem Api_C18 {v : Vt} (hR : Reach v) {xs : List Nat} {f : Function}
    (hx : SeqText v.parser xs (some f)) (hc : isTabOp f = true) :
    ∃ v' ch, v.feedStr xs = some (v', ch)
      ∧ v'.terminal = finishT (tabSpec v.terminal f)
      ∧ v'.terminal.tabs = (tabSpec v.terminal f).tabs
      ∧ v'.cursor = (tabSpec v.terminal f).cursor
      ∧ v'.view = v.view
      ∧ tabsOK v'.terminal.tabs v'.terminal.cols = true
      ∧ v'.parser.state = .Ground ∧ Reach v' := by
  obtain ⟨v', ch, hg, F⟩ := Api_spec specFor_C18 hR hx hc
  refine ⟨v', ch, F.fed, F.terminal, F.same .tabs rfl, F.cursor, ?_, ?_, hg, F.reach⟩
  · exact F.view.trans (congrArg Buffer.view (tabSpec_buffer v.terminal f))
  · rw [F.same .tabs rfl, F.same .cols rfl]
    exact C18_tabop_tabsOK (reach_parts hR).2 hc

theorem Api_C18_moves {v : Vt} (hR : Reach v) {xs : List Nat} {f : Function}
    (hx : SeqText v.parser xs (some f)) (n : Nat) :
    ((f = .ht ∧ n = 1) ∨ (∃ k, f = .cht k ∧ n = Spec.C18.arg k) →
      ∃ v' ch, v.feedStr xs = some (v', ch) ∧ v'.cursor.row = v.cursor.row ∧ v'.cursor.col < v.terminal.cols
        ∧ v'.cursor.col = (nthAfter v.terminal.tabs v.cursor.col n).getD (v.terminal.cols - 1))
    ∧ ((∃ k, f = .cbt k ∧ n = Spec.C18.arg k) →
      ∃ v' ch, v.feedStr xs = some (v', ch) ∧ v'.cursor.row = v.cursor.row ∧ v'.cursor.col < v.terminal.cols
        ∧ v'.cursor.col = (nthBefore v.terminal.tabs v.cursor.col n).getD 0) := by
  have ht := (reach_parts hR).2
  obtain ⟨m1, m2, m3, m4, m5, m6⟩ := C18_moves ht n
  refine ⟨fun hf => ?_, fun hf => ?_⟩
  · have hcur : tabSpec v.terminal f = tabForward v.terminal n := by
      rcases hf with ⟨rfl, rfl⟩ | ⟨k, rfl, rfl⟩ <;> rfl
    have hc : isTabOp f = true := by rcases hf with ⟨rfl, _⟩ | ⟨k, rfl, _⟩ <;> rfl
    obtain ⟨v', ch, h1, _, _, h4, _⟩ := Api_C18 hR hx hc
    rw [hcur] at h4
    exact ⟨v', ch, h1, by rw [h4]; exact m5, by rw [h4]; exact m3, by rw [h4]; exact m1⟩
  · obtain ⟨k, rfl, rfl⟩ := hf
    obtain ⟨v', ch, h1, _, _, h4, _⟩ := Api_C18 hR hx rfl
    have hcur : tabSpec v.terminal (.cbt k) = tabBackward v.terminal (Spec.C18.arg k) := rfl
    rw [hcur] at h4
    exact ⟨v', ch, h1, by rw [h4]; exact m6, by rw [h4]; exact m4, by rw [h4]; exact m2⟩

theorem fresh_run (ops : List PubOp) {v v' : Vt} (h : C18_fresh v)
    (hq : ∀ f ∈ Frame.emitted v.parser (inputOf ops), editsTabs f = false) (hr : run v ops = some v') :
    C18_fresh v' :=
  run_keeps (P := C18_fresh) (fun h hq hs => fresh_kept.call fresh_resize hq hs h) ops h hq hr

/-- **C18, never customised, at the API.**  A terminal built by `Vt::new` and driven through ANY list of
    `feed_str` / per-character `feed` / `resize` calls in which the parser never emits HTS / TBC / CTC
    (RIS, buffer switches, anything else allowed) has exactly the stops of a fresh terminal of its
    current width … -/
theorem Api_C18_never_customised {cols rows : Nat} {lim : Option Nat} {v0 v : Vt} {ops : List PubOp}
    (hc : 1 ≤ cols) (h0 : Vt.new cols rows lim = some v0)
    (hq : ∀ f ∈ Frame.emitted Parser.new (inputOf ops), editsTabs f = false) (hrun : run v0 ops = some v) :
    v.terminal.tabs = tabsRef v.terminal.cols ∧ v.terminal.tabs = Tabs.new v.terminal.cols := by
  have := fresh_run ops (C18_new_fresh hc h0) (by rw [(Vt.new_fields h0).1]; exact hq) hrun
  exact ⟨this.1, by rw [C18_new]; exact this.1⟩

/-- … so it tabs like a fresh one: feeding HT / `CSI n I` / `CSI n Z` moves to the `n`-th next / previous
    multiple of 8 below the current width, else to the last / first column -/
theorem Api_C18_tabs_like_fresh {cols rows : Nat} {lim : Option Nat} {v0 v : Vt} {ops : List PubOp}
    (hc : 1 ≤ cols) (hr : 1 ≤ rows) (h0 : Vt.new cols rows lim = some v0) (hv : ∀ op ∈ ops, op.valid)
    (hq : ∀ f ∈ Frame.emitted Parser.new (inputOf ops), editsTabs f = false) (hrun : run v0 ops = some v)
    {xs : List Nat} {f : Function} (hx : SeqText v.parser xs (some f)) (hf : isTabOp f = true) :
    ∃ v' ch, v.feedStr xs = some (v', ch)
      ∧ v'.cursor = (tabSpec { v.terminal with tabs := tabsRef v.terminal.cols } f).cursor := by
  have hR : Reach v := ⟨cols, rows, lim, v0, ops, hc, hr, h0, hv, hrun⟩
  obtain ⟨e, _⟩ := Api_C18_never_customised hc h0 hq hrun
  obtain ⟨v', ch, h1, _, _, h4, _⟩ := Api_C18 hR hx hf
  refine ⟨v', ch, h1, ?_⟩
  rw [h4]
  have : ({ v.terminal with tabs := tabsRef v.terminal.cols } : Terminal) = v.terminal := by
    rw [← e]
  rw [this]

end C18

section Whole

/-- one total specification for everything C04–C07 and C18 cover: printing, REP, cursor commands,
    scrolling commands, editing commands, tab commands -/
def stepSpec (t : Terminal) (f : Function) : Terminal :=
  if Spec.C04.covered f then printFn t f
  else if Spec.C05.covered t f then Spec.C05.moveSpec t f
  else if Spec.C06.coveredScroll f then Spec.C06.scrollCmdSpec t f
  else if Spec.C07.coveredEdit f then Spec.C07.editSpec t f
  else Spec.C18.tabSpec t f

def stepCovered (t : Terminal) (f : Function) : Bool :=
  Spec.C04.covered f || Spec.C05.covered t f || Spec.C06.coveredScroll f || Spec.C07.coveredEdit f
    || Spec.C18.isTabOp f

theorem specFor_step : SpecFor stepCovered stepSpec := by
  intro t f h hc
  unfold stepSpec
  by_cases h4 : Spec.C04.covered f = true
  · rw [if_pos h4]; exact printFn_sound t f h h4
  by_cases h5 : Spec.C05.covered t f = true
  · rw [if_neg h4, if_pos h5]; exact C05_move h h5
  by_cases h6 : Spec.C06.coveredScroll f = true
  · rw [if_neg h4, if_neg h5, if_pos h6]; exact C06.C06_cmd t f h h6
  by_cases h7 : Spec.C07.coveredEdit f = true
  · rw [if_neg h4, if_neg h5, if_neg h6, if_pos h7]; exact C07.C07_edit t f h h7
  -- none of the first four covers `f`, so the fifth does
  rw [if_neg h4, if_neg h5, if_neg h6, if_neg h7]
  simp only [stepCovered, h4, h5, h6, h7, Bool.false_or] at hc
  exact C18_tabop h hc

/-- **C04–C07, C18 at the API, whole inputs.**  From every reachable state, any input that is a
    concatenation of complete items (`Texts`: printable characters, controls, CSI / ESC sequences in any
    spelling), each function covered by one of the five specifications in the state in which it is
    executed: `feed_str` returns and the terminal is the left fold of the specifications over the
    emitted functions, run through `changes()` + `gc()`; the changed lines are the rows that fold flags. -/
theorem Api_whole {v : Vt} (hR : Reach v) {xs : List Nat} {fs : List Function}
    (hx : Texts v.parser xs fs) (hc : coveredRun stepCovered stepSpec fs v.terminal = true) :
    ∃ v' ch, v.feedStr xs = some (v', ch) ∧ v'.terminal = finishT (fs.foldl stepSpec v.terminal)
      ∧ v'.view = (fs.foldl stepSpec v.terminal).buffer.view
      ∧ v'.cursor = (fs.foldl stepSpec v.terminal).cursor
      ∧ ch.lines = Dirty.toVec (fs.foldl stepSpec v.terminal).dirtyLines ∧ Reach v' := by
  obtain ⟨v', ch, F⟩ := Api_bridge_spec specFor_step hR (hx.emits (reach_parts hR).1) hc
  exact ⟨v', ch, F.fed, F.terminal, F.view, F.cursor, F.lines, F.reach⟩

end Whole

/-! ## the hypotheses are satisfiable: concrete reachable states and texts

  Every example builds a state with `Vt.new` + public calls (`exMk`), proves it reachable, exhibits the
  text-level hypothesis of the theorem (`CmdText` / `SeqText` / `parseSgrText` / `isInertInput` / the
  emitted-function condition), and checks the concrete outcome of the call with `decide +kernel`.  One
  exception: the separate-screens run of C17 (`ex17b_facts`) only computes the outcome; `Api_C17_separate`
  is not instantiated on it. -/

section Examples

/-- a terminal built through the public API only -/
def exMk (cols rows : Nat) (lim : Option Nat) (ops : List PubOp) : Option Vt :=
  (Vt.new cols rows lim).bind fun v0 => run v0 ops

theorem exMk_reach {cols rows : Nat} {lim : Option Nat} {ops : List PubOp} {v : Vt} (hc : 1 ≤ cols)
    (hr : 1 ≤ rows) (hv : ∀ op ∈ ops, op.valid) (h : exMk cols rows lim ops = some v) : Reach v := by
  obtain ⟨v0, h0, h⟩ := Option.bind_eq_some_iff.1 h
  exact ⟨cols, rows, lim, v0, ops, hc, hr, h0, hv, h⟩

/-- a Bool-valued test of a state built through the public API -/
def exCheck (cols rows : Nat) (lim : Option Nat) (ops : List PubOp) (P : Vt → Bool) : Bool :=
  match exMk cols rows lim ops with
  | some v => P v
  | none => false

theorem exMk_some {cols rows : Nat} {lim : Option Nat} {ops : List PubOp} {P : Vt → Bool}
    (h : exCheck cols rows lim ops P = true) :
    ∃ v, exMk cols rows lim ops = some v ∧ P v = true := by
  unfold exCheck at h
  cases hm : exMk cols rows lim ops with
  | none => rw [hm] at h; cases h
  | some v => rw [hm] at h; exact ⟨v, rfl, h⟩

/-- a Bool-valued test of the result of `feed_str` -/
def exFeed (v : Vt) (xs : List Nat) (P : Vt → Changes → Bool) : Bool :=
  match v.feedStr xs with
  | some (v', ch) => P v' ch
  | none => false

theorem exFeed_some {v : Vt} {xs : List Nat} {P : Vt → Changes → Bool} (h : exFeed v xs P = true) :
    ∃ v' ch, v.feedStr xs = some (v', ch) ∧ P v' ch = true := by
  unfold exFeed at h
  cases hm : v.feedStr xs with
  | none => rw [hm] at h; cases h
  | some r => obtain ⟨v', ch⟩ := r; rw [hm] at h; exact ⟨v', ch, rfl, h⟩

theorem exCheck_reach {cols rows : Nat} {lim : Option Nat} {ops : List PubOp} {P : Vt → Bool}
    (h : exCheck cols rows lim ops P = true) (hc : 1 ≤ cols := by decide) (hr : 1 ≤ rows := by decide)
    (hv : ∀ op ∈ ops, op.valid := by decide) : ∃ v, Reach v ∧ P v = true := by
  obtain ⟨v, hm, hp⟩ := exMk_some h
  exact ⟨v, exMk_reach hc hr hv hm, hp⟩

theorem exCheck_feed {cols rows : Nat} {lim : Option Nat} {ops : List PubOp} {Q : Vt → Bool}
    {xs : List Nat} {P : Vt → Vt → Changes → Bool}
    (h : exCheck cols rows lim ops (fun v => Q v && exFeed v xs (P v)) = true)
    (hc : 1 ≤ cols := by decide) (hr : 1 ≤ rows := by decide) (hv : ∀ op ∈ ops, op.valid := by decide) :
    ∃ v v' ch, Reach v ∧ Q v = true ∧ v.feedStr xs = some (v', ch) ∧ P v v' ch = true := by
  obtain ⟨v, hR, hp⟩ := exCheck_reach h hc hr hv
  obtain ⟨hq, hf⟩ := Bool.and_eq_true_iff.1 hp
  obtain ⟨v', ch, h1, h2⟩ := exFeed_some hf
  exact ⟨v, v', ch, hR, hq, h1, h2⟩

/-! C05: 10×6, region rows 1..3, origin mode on, "abc" typed, the parser left inside `ESC [`
    (state CsiEntry).  `0x9B 003 B` — 8-bit CSI, leading zeros — is CUD 3: the cursor stops at the
    bottom margin, `view()` unchanged. -/

def ex05ops : List PubOp :=
  [.feedStr [27, 91, 50, 59, 52, 114, 27, 91, 63, 54, 104], .feedStr [97, 98, 99, 27, 91]]

theorem ex05_facts : exCheck 10 6 none ex05ops (fun v => (v.parser.state == .CsiEntry) && (v.cursor == ⟨3, 1, true⟩) && Spec.C05.covered v.terminal (.cud 3)
        && exFeed v [0x9B, 0x30, 0x30, 0x33, 0x42] fun v' ch =>
             (v'.cursor == ⟨3, 3, true⟩) && (v'.view == v.view) && (ch.lines == [])) = true := by decide +kernel

example : ∃ v v' ch, Reach v ∧ v.parser.state = .CsiEntry
    ∧ CmdText v.parser ([0x9B] ++ [0x30, 0x30, 0x33] ++ [0x42]) (.cud 3)
    ∧ Spec.C05.covered v.terminal (.cud 3) = true
    ∧ v.feedStr [0x9B, 0x30, 0x30, 0x33, 0x42] = some (v', ch)
    ∧ v'.cursor = ⟨3, 3, true⟩ ∧ v'.cursor = (Spec.C05.moveSpec v.terminal (.cud 3)).cursor ∧ v'.view = v.view := by
  obtain ⟨v, v', ch, hR, hq, b1, b2⟩ := exCheck_feed ex05_facts
  simp only [Bool.and_eq_true, beq_iff_eq] at hq b2
  have hx : CmdText v.parser ([0x9B] ++ [0x30, 0x30, 0x33] ++ [0x42]) (.cud 3) :=
    CmdText.csi1 (.inr rfl) .cud (by decide)
  obtain ⟨w, cw, c1, c2, _⟩ := Api_C05 hR hx.seq hq.2
  obtain ⟨rfl, rfl⟩ : w = v' ∧ cw = ch := Prod.mk.inj (Option.some.inj (c1.symm.trans b1))
  exact ⟨v, w, cw, hR, hq.1.1, hx, hq.2, b1, b2.1.1, c2, b2.1.2⟩

/-! C04: 3×2, scrollback limit 5, G0 = DEC special graphics, "xyz" typed (cursor wrap-pending).  Feeding
    `qq`: the first `q` wraps (row 0 gets the soft-wrap mark), both are stored as `─`; `CSI 2 b` instead
    repeats the `z` glyph `≥` twice. -/

def ex04ops : List PubOp := [.feedStr [27, 40, 48], .feedStr [120, 121, 122]]

theorem ex04_facts : exCheck 3 2 (some 5) ex04ops (fun v => (v.parser.state == .Ground) && v.terminal.pendingWrap
        && (exFeed v [0x71, 0x71] fun v' ch =>
             (v'.terminal == finishT ([0x71, 0x71].foldl Spec.C04.printSpec v.terminal))
             && (v'.cursor == ⟨2, 1, true⟩) && (ch.lines == [1])
             && (v'.view.map (fun l => (l.cells.map (·.ch), l.wrapped))
                  == [([9474, 8804, 8805], true), ([9472, 9472, 32], false)]))
        && (exFeed v [0x9B, 0x32, 0x62] fun v' _ =>
             (v'.terminal == finishT (Spec.C04.repSpec v.terminal 2))
             && (v'.view.map (fun l => l.cells.map (·.ch)) == [[9474, 8804, 8805], [8805, 8805, 32]]))) = true := by decide +kernel

example : ∃ v v' ch, Reach v ∧ v.parser.state = .Ground ∧ (∀ c ∈ [0x71, 0x71], printable c = true)
    ∧ v.feedStr [0x71, 0x71] = some (v', ch)
    ∧ v'.terminal = finishT ([0x71, 0x71].foldl Spec.C04.printSpec v.terminal)
    ∧ v'.cursor = ⟨2, 1, true⟩ ∧ ch.lines = [1] := by
  obtain ⟨v, hR, hf⟩ := exCheck_reach ex04_facts
  simp only [Bool.and_eq_true, beq_iff_eq] at hf
  obtain ⟨v', ch, b1, b2⟩ := exFeed_some hf.1.2
  simp only [Bool.and_eq_true, beq_iff_eq] at b2
  exact ⟨v, v', ch, hR, hf.1.1.1, by decide, b1, b2.1.1.1, b2.1.1.2, b2.1.2⟩

/-! C06: 3×4 with a scrollback limit, rows `aaa bbb ccc ddd`, region rows 1..2, cursor on the bottom
    margin, blue background.  `ESC D` (IND) scrolls rows 1..2 up by one: rows 0 and 3 untouched, `ccc`
    moves up, a blank row appears, nothing reaches the scrollback.  On a full-screen region with
    limit 0, `CSI 2 S` hands the two scrolled-off rows out, in order. -/

def ex06ops : List PubOp :=
  [.feedStr [97, 97, 97, 13, 10, 98, 98, 98, 13, 10, 99, 99, 99, 13, 10, 100, 100, 100], .resize 3 4,
   .feedStr [27, 91, 50, 59, 51, 114, 27, 91, 51, 59, 50, 72, 27, 91, 52, 52, 109]]

def ex06bops : List PubOp :=
  [.feedStr [97, 97, 97, 13, 10, 98, 98, 98, 13, 10, 99, 99, 99, 13, 10, 100, 100, 100]]

def exText (ls : List Line) : List (List Nat) := ls.map fun l => l.cells.map (·.ch)

theorem ex06_facts : exCheck 3 4 (some 7) ex06ops (fun v => (v.cursor == ⟨1, 2, true⟩) && (exText v.view == [[97, 97, 97], [98, 98, 98], [99, 99, 99], [100, 100, 100]])
        && (match scrollOf v.terminal .lf with | .up 1 3 1 => true | _ => false)
        && exFeed v [0x1B, 0x44] fun v' ch =>
             (exText v'.view == [[97, 97, 97], [99, 99, 99], [32, 32, 32], [100, 100, 100]])
             && (v'.cursor == ⟨1, 2, true⟩) && (ch.lines == [1, 2]) && (ch.scrollback == [])
             && (v'.view[2]? == some (Line.blank 3 v.terminal.pen)) && (v'.lines.length == v.lines.length)) = true := by decide +kernel

theorem ex06b_facts : exCheck 3 4 (some 0) ex06bops (fun v => (match scrollOf v.terminal (.su 2) with | .up 0 4 2 => true | _ => false)
        && (v.terminal.activeBufferType == .primary)
        && exFeed v [0x1B, 0x5B, 0x32, 0x53] fun v' ch =>
             (exText ch.scrollback == [[97, 97, 97], [98, 98, 98]])
             && (exText v'.lines == [[99, 99, 99], [100, 100, 100], [32, 32, 32], [32, 32, 32]])) = true := by decide +kernel

example : ∃ v v' ch, Reach v ∧ CmdText v.parser [0x1B, 0x44] .lf ∧ Spec.C06.coveredScroll .lf = true
    ∧ v.feedStr [0x1B, 0x44] = some (v', ch)
    ∧ exText v'.view = [[97, 97, 97], [99, 99, 99], [32, 32, 32], [100, 100, 100]] ∧ ch.scrollback = [] := by
  obtain ⟨v, v', ch, hR, _, b1, b2⟩ := exCheck_feed ex06_facts
  simp only [Bool.and_eq_true, beq_iff_eq] at b2
  exact ⟨v, v', ch, hR, .escFe .ind, rfl, b1, b2.1.1.1.1.1, b2.1.1.2⟩

example : ∃ v v' ch, Reach v ∧ CmdText v.parser ([0x1B, 0x5B] ++ [0x32] ++ [0x53]) (.su 2)
    ∧ v.feedStr [0x1B, 0x5B, 0x32, 0x53] = some (v', ch)
    ∧ exText ch.scrollback = [[97, 97, 97], [98, 98, 98]] := by
  obtain ⟨v, v', ch, hR, _, b1, b2⟩ := exCheck_feed ex06b_facts
  simp only [Bool.and_eq_true, beq_iff_eq] at b2
  exact ⟨v, v', ch, hR, CmdText.csi1 (.inl rfl) .su (by decide), b1, b2.1⟩

/-! C07: 4×2, "abcdefgh" typed (row 0 soft-wrapped, cursor wrap-pending on row 1), red pen.  `CSI 2 P`
    (DCH 2) first leaves the wrap-pending column and deletes one cell (capped); `CSI 1 K` (EL 1) erases
    the whole row and keeps the cursor. -/

def ex07ops : List PubOp := [.feedStr [97, 98, 99, 100, 101, 102, 103, 104, 27, 91, 51, 49, 109]]

theorem ex07_facts : exCheck 4 2 none ex07ops (fun v => (v.cursor == ⟨4, 1, true⟩) && v.terminal.pendingWrap
        && (exFeed v [0x1B, 0x5B, 0x32, 0x50] fun v' ch =>
             (exText v'.view == [[97, 98, 99, 100], [101, 102, 103, 32]]) && (v'.cursor == ⟨3, 1, true⟩)
             && (ch.lines == [1]) && (viewCell v' 1 3 == some (Cell.blank v.terminal.pen))
             && (viewMark v' 0 == some true))
        && (exFeed v [0x9B, 0x31, 0x4B] fun v' _ =>
             (exText v'.view == [[97, 98, 99, 100], [32, 32, 32, 32]]) && (v'.cursor == v.cursor))) = true := by decide +kernel

example : ∃ v v' ch, Reach v ∧ CmdText v.parser ([0x1B, 0x5B] ++ [0x32] ++ [0x50]) (.dch 2)
    ∧ Spec.C07.coveredEdit (.dch 2) = true ∧ v.feedStr [0x1B, 0x5B, 0x32, 0x50] = some (v', ch)
    ∧ exText v'.view = [[97, 98, 99, 100], [101, 102, 103, 32]] ∧ v'.cursor = ⟨3, 1, true⟩ := by
  obtain ⟨v, hR, hf⟩ := exCheck_reach ex07_facts
  simp only [Bool.and_eq_true, beq_iff_eq] at hf
  obtain ⟨v', ch, b1, b2⟩ := exFeed_some hf.1.2
  simp only [Bool.and_eq_true, beq_iff_eq] at b2
  exact ⟨v, v', ch, hR, CmdText.csi1 (.inl rfl) .dch (by decide), rfl, b1, b2.1.1.1.1, b2.1.1.1.2⟩

/-! C08: 5×2, "ab" typed, italic pen, the parser left INSIDE an OSC string.  `ESC [ 1;38;5;200;48:2::1:2:300 m`
    aborts the string and sets bold, foreground 200, background rgb(1,2,44), italic kept; the `x` typed
    afterwards reports exactly that pen. -/

def ex08ops : List PubOp := [.feedStr [97, 98, 27, 91, 51, 109, 27, 93, 48, 59, 116, 105, 116, 108, 101]]

def ex08txt : List Nat :=
  [27, 91, 49, 59, 51, 56, 59, 53, 59, 50, 48, 48, 59, 52, 56, 58, 50, 58, 58, 49, 58, 50, 58, 51, 48, 48, 109]

def ex08obs : Spec.C08.Obs :=
  (some (.indexed 200), some (.rgb 1 2 44), true, false, true, false, false, false, false)

theorem ex08_facts : exCheck 5 2 none ex08ops (fun v => (v.parser.state == .OscString)
        && (Spec.C08.parseSgrText ex08txt == some [[1], [38], [5], [200], [48, 2, 0, 1, 2, 300]])
        && (Spec.C08.obsRef (Spec.C08.Pen.obs v.terminal.pen)
              (Spec.C08.sgrRefOps [[1], [38], [5], [200], [48, 2, 0, 1, 2, 300]]) == ex08obs)
        && exFeed v ex08txt fun v1 ch1 =>
             (Spec.C08.Pen.obs v1.terminal.pen == ex08obs) && (ch1.lines == []) && (v1.view == v.view)
             && exFeed v1 [0x78] fun v2 _ =>
                  ((Spec.C08.printedCell v1.terminal v2.terminal).map fun c => (c.ch, Spec.C08.Pen.obs c.pen))
                    == some (0x78, ex08obs)) = true := by decide +kernel

example : ∃ v v1 ch1, Reach v ∧ v.parser.state = .OscString
    ∧ Spec.C08.parseSgrText ex08txt = some [[1], [38], [5], [200], [48, 2, 0, 1, 2, 300]]
    ∧ v.feedStr ex08txt = some (v1, ch1) ∧ Spec.C08.Pen.obs v1.terminal.pen = ex08obs ∧ v1.view = v.view := by
  obtain ⟨v, v1, ch1, hR, hq, b1, b2⟩ := exCheck_feed ex08_facts
  simp only [Bool.and_eq_true, beq_iff_eq] at hq b2
  exact ⟨v, v1, ch1, hR, hq.1.1, hq.1.2, b1, b2.1.1.1, b2.1.2⟩

/-! C17: 5×3, origin mode on, green pen, "abcde" typed (cursor wrap-pending).  `ESC 7`; then a middle
    text that moves, turns origin mode and auto-wrap off, resets the pen, prints, erases, reverse-indexes
    and ends inside `ESC [`; then `0x9B u`.  Column 4 (= 5 clamped), row 0, green pen, origin mode and
    auto-wrap on again. -/

def ex17ops : List PubOp := [.feedStr [27, 91, 63, 54, 104, 27, 91, 51, 50, 109, 97, 98, 99, 100, 101]]

def ex17mid : List Nat :=
  [27, 91, 50, 59, 50, 72, 27, 91, 63, 54, 108, 27, 91, 63, 55, 108, 27, 91, 48, 59, 55, 109, 120, 121, 122, 27, 91,
   50, 74, 27, 77, 27, 91]

theorem ex17_facts : exCheck 5 3 none ex17ops (fun v => (v.cursor == ⟨5, 0, true⟩) && v.terminal.originMode
        && exFeed v [0x1B, 0x37] fun v1 _ =>
             (Frame.emitted v1.parser ex17mid).all (fun f => !Spec.C17.touchesCtx f)
             && exFeed v1 ex17mid fun v2 _ =>
                  (v2.parser.state == .CsiEntry) && !v2.terminal.originMode && !v2.terminal.autoWrapMode
                  && exFeed v2 [0x9B, 0x75] fun v3 _ =>
                       (v3.cursor == ⟨4, 0, true⟩) && v3.terminal.originMode && v3.terminal.autoWrapMode
                       && (v3.terminal.pen == v.terminal.pen) && !v3.terminal.pendingWrap) = true := by decide +kernel

example : ∃ v v1 c1 v2 c2 v3 c3, Reach v ∧ v.feedStr [0x1B, 0x37] = some (v1, c1)
    ∧ (∀ f ∈ Frame.emitted v1.parser ex17mid, Spec.C17.touchesCtx f = false)
    ∧ v1.feedStr ex17mid = some (v2, c2) ∧ v2.parser.state = .CsiEntry
    ∧ v2.feedStr ([0x9B] ++ [0x75]) = some (v3, c3) ∧ v3.cursor = ⟨4, 0, true⟩
    ∧ v3.cursor.col = min v.cursor.col (v.terminal.cols - 1) ∧ v3.terminal.pen = v.terminal.pen := by
  obtain ⟨v, v1, c1, hR, _, b1, b2⟩ := exCheck_feed ex17_facts
  simp only [Bool.and_eq_true, List.all_eq_true, Bool.not_eq_true'] at b2
  obtain ⟨b2, b3⟩ := b2
  obtain ⟨v2, c2, d1, d2⟩ := exFeed_some b3
  simp only [Bool.and_eq_true, beq_iff_eq] at d2
  obtain ⟨⟨⟨d2, _⟩, _⟩, d5⟩ := d2
  obtain ⟨v3, c3, g1, g2⟩ := exFeed_some d5
  simp only [Bool.and_eq_true, beq_iff_eq] at g2
  have r := Api_C17 hR (CmdText.decsc (p := v.parser)).seq (.inl rfl) b1 b2 d1
    (CmdText.scorc (p := v2.parser) (.inr rfl)).seq (.inr (.inl rfl)) g1
  exact ⟨v, v1, c1, v2, c2, v3, c3, hR, b1, b2, d1, d2, g1, g2.1.1.1.1, r.1, r.2.2.1⟩

/-! C17, separate screens: on the C17 state, `ESC 7`; `CSI ?1047h`; on the alternate screen a move, another
    `ESC 7`, text, `resize(4,2)`, per-character `ESC 8`; `CSI ?1047l`; `ESC 8`.  The primary's context comes
    back, its column clamped into the 4-column screen. -/

def ex17bOps : List PubOp :=
  [.feedStr [27, 91, 50, 59, 50, 72, 27, 55, 120, 121, 122], .resize 4 2, .feedChars [27, 56]]

theorem ex17b_facts : exCheck 5 3 none ex17ops (fun v =>
    (v.terminal.activeBufferType == .primary)
      && exFeed v [0x1B, 0x37] fun v1 _ =>
         exFeed v1 [0x1B, 0x5B, 0x3F, 0x31, 0x30, 0x34, 0x37, 0x68] fun v2 _ =>
           (Spec.C16.emitted v2.parser (Closed2.inputOf ex17bOps)).all (fun f => !Spec.C16.endsExcursion f)
           && match run v2 ex17bOps with
              | some v3 =>
                (v3.size == (4, 2))
                && exFeed v3 [0x9B, 0x3F, 0x31, 0x30, 0x34, 0x37, 0x6C] fun v4 _ =>
                     exFeed v4 [0x1B, 0x38] fun v5 _ =>
                       (v5.cursor == ⟨3, 0, true⟩) && (v5.terminal.pen == v.terminal.pen) && v5.terminal.originMode
              | none => false) = true := by decide +kernel

/-! C18: 20×2; typed text and a move, `resize(80,2)`, per-character `feed` of RIS + text,
    `resize(100,2)`, a dropped `feed_str` — no HTS / TBC / CTC anywhere.  The stops are those of a fresh
    100-column terminal (incl. column 80), and `CSI 2 I` from column 69 lands on column 80. -/

def ex18ops : List PubOp :=
  [.feedStr [97, 98, 99, 27, 91, 53, 67], .resize 80 2, .feedChars [27, 99, 120, 121], .resize 100 2,
   .feedDrop [27, 91, 55, 48, 71]]

theorem ex18_facts : exCheck 20 2 (some 3) ex18ops (fun v => (v.cursor == ⟨69, 0, true⟩)
        && (Frame.emitted Parser.new (Closed2.inputOf ex18ops)).all (fun f => !Spec.C18.editsTabs f)
        && (v.terminal.tabs == [8, 16, 24, 32, 40, 48, 56, 64, 72, 80, 88, 96])
        && exFeed v [0x1B, 0x5B, 0x32, 0x49] fun v' _ => v'.cursor == ⟨80, 0, true⟩) = true := by decide +kernel

example : ∃ v v' ch, exMk 20 2 (some 3) ex18ops = some v ∧ Reach v
    ∧ (∀ f ∈ Frame.emitted Parser.new (Closed2.inputOf ex18ops), Spec.C18.editsTabs f = false)
    ∧ v.terminal.tabs = Spec.C18.tabsRef v.terminal.cols
    ∧ CmdText v.parser ([0x1B, 0x5B] ++ [0x32] ++ [0x49]) (.cht 2)
    ∧ v.feedStr [0x1B, 0x5B, 0x32, 0x49] = some (v', ch) ∧ v'.cursor = ⟨80, 0, true⟩ := by
  obtain ⟨v, hv, hf⟩ := exMk_some ex18_facts
  simp only [Bool.and_eq_true, beq_iff_eq, List.all_eq_true, Bool.not_eq_true'] at hf
  obtain ⟨⟨⟨_, a2⟩, _⟩, a4⟩ := hf
  obtain ⟨v', ch, b1, b2⟩ := exFeed_some a4
  obtain ⟨v0, h0, hv'⟩ := Option.bind_eq_some_iff.1 hv
  exact ⟨v, v', ch, hv, exMk_reach (by decide) (by decide) (by decide) hv, a2,
    (Api_C18_never_customised (by decide) h0 a2 hv').1, CmdText.csi1 (.inl rfl) .cht (by decide), b1,
    by simpa using b2⟩

/-! C15: 5×3 with text, flags cleared by the previous `feed_str`; `CSI 2;2H x CSI 1J LF LF y` changes all
    three rows and reports all three. -/

def ex15ops : List PubOp := [.feedStr [97, 98, 13, 10, 99]]
def ex15txt : List Nat := [27, 91, 50, 59, 50, 72, 120, 27, 91, 49, 74, 10, 10, 121]

theorem ex15_facts : exCheck 5 3 (some 2) ex15ops (fun v => exFeed v ex15txt fun v' ch =>
        (ch.lines == [0, 1, 2]) && ((List.range 3).all fun i => viewRow v' i != viewRow v i)
        && exFeed v [0x7A] fun v'' ch' => (ch'.lines == [1]) && (viewRow v'' 0 == viewRow v 0)) = true := by decide +kernel

example : ∃ v v' ch, Reach v ∧ v.feedStr ex15txt = some (v', ch) ∧ ch.lines = [0, 1, 2]
    ∧ ∀ i, i < 3 → viewRow v' i ≠ viewRow v i := by
  obtain ⟨v, hR, hf⟩ := exCheck_reach ex15_facts
  obtain ⟨v', ch, b1, b2⟩ := exFeed_some hf
  simp only [Bool.and_eq_true, beq_iff_eq, List.all_eq_true, List.mem_range, bne_iff_ne, ne_eq] at b2
  exact ⟨v, v', ch, hR, b1, b2.1.1, b2.1.2⟩

/-! C20: 5×2, "hi" typed, insert mode on.  An OSC title ended by BEL (payload with `é`, LF, DEL), a DCS
    string ended by `ESC \`, `CSI > c`, `CSI 5 SP q`, `ESC =`, NUL, an APC string ended by 8-bit ST: nothing
    changes and no line is reported. -/

def ex20ops : List PubOp := [.feedStr [104, 105, 27, 91, 52, 104]]
def ex20txt : List Nat :=
  [27, 93, 48, 59, 116, 233, 10, 127, 7, 144, 49, 36, 114, 109, 27, 92, 27, 91, 62, 99, 155, 53, 32, 113, 27, 61, 0,
   159, 65, 156]

theorem ex20_facts : exCheck 5 2 none ex20ops (fun v => (v.parser.state == .Ground) && Spec.C20.isInertInput ex20txt && v.terminal.insertMode
        && exFeed v ex20txt fun v' ch =>
             (v'.view == v.view) && (v'.cursor == v.cursor) && (ch.lines == []) && (v'.parser.state == .Ground)
             && v'.terminal.insertMode && (v'.terminal.tabs == v.terminal.tabs)) = true := by decide +kernel

example : ∃ v v' ch, Reach v ∧ v.parser.state = .Ground ∧ Spec.C20.isInertInput ex20txt = true
    ∧ v.feedStr ex20txt = some (v', ch) ∧ v'.view = v.view ∧ v'.cursor = v.cursor ∧ ch.lines = [] := by
  obtain ⟨v, v', ch, hR, hq, b1, b2⟩ := exCheck_feed ex20_facts
  simp only [Bool.and_eq_true, beq_iff_eq] at hq b2
  exact ⟨v, v', ch, hR, hq.1.1, hq.1.2, b1, b2.1.1.1.1.1, b2.1.1.1.1.2, b2.1.1.1.2⟩

/-! whole input: on the C05 state, `CSI 2 C  x  CR  LF  CSI K  HT` in ONE `feed_str` (the first sequence starts
    in CsiEntry): six functions, each covered; the result is the fold of the specifications. -/

def exWholeTxt : List Nat := [0x9B, 0x32, 0x43] ++ ([0x78] ++ ([0x0D] ++ ([0x0A] ++ ([0x1B, 0x5B, 0x4B] ++ ([0x09] ++ [])))))
def exWholeFs : List Function := [.cuf 2, .print 0x78, .cr, .lf, .el .toRight, .ht]

theorem exWhole_facts : exCheck 10 6 none ex05ops (fun v =>
    coveredRun stepCovered stepSpec exWholeFs v.terminal
      && exFeed v exWholeTxt fun v' ch =>
           (v'.terminal == finishT (exWholeFs.foldl stepSpec v.terminal)) && (v'.cursor == ⟨8, 2, true⟩)
           && (ch.lines == [1, 2])) = true := by decide +kernel

example : ∃ v v' ch, Reach v ∧ Texts v.parser exWholeTxt exWholeFs
    ∧ coveredRun stepCovered stepSpec exWholeFs v.terminal = true
    ∧ v.feedStr exWholeTxt = some (v', ch)
    ∧ v'.terminal = finishT (exWholeFs.foldl stepSpec v.terminal) ∧ v'.cursor = ⟨8, 2, true⟩ := by
  obtain ⟨v, v', ch, hR, a1, b1, b2⟩ := exCheck_feed exWhole_facts
  simp only [Bool.and_eq_true, beq_iff_eq] at b2
  have hx : Texts v.parser exWholeTxt exWholeFs :=
    .cons (CmdText.csi1 (p := v.parser) (.inr rfl) .cuf (by decide : Digits [0x32])).seq fun q1 g1 =>
    .cons (SeqText.print g1 (by decide)) fun q2 g2 =>
    .cons (SeqText.ctl g2 (f := .cr) (by decide)) fun q3 g3 =>
    .cons (SeqText.ctl g3 (f := .lf) (c := 0x0A) (by decide)) fun q4 _ =>
    .cons (CmdText.sel (p := q4) (intro := [0x1B, 0x5B]) (ds := []) (f := .el .toRight) (.inl rfl) .el
        (by decide) (by decide)).seq fun q5 g5 =>
    .cons (SeqText.ctl g5 (f := .ht) (by decide)) fun q6 _ => .nil q6
  exact ⟨v, v', ch, hR, hx, a1, b1, b2.1.1, b2.1.2⟩

end Examples

end Avt.Props.Api
