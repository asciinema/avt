/-
  Avt.Props.Closed — the property theorems of C01, C02, C13 are stated under the explicit
  contracts `ResizeOK` (Avt/Spec/ResizeOK.lean) and `ParserOK` (Avt/Lemmas/InvVt.lean); here they are
  restated with NO such hypothesis (`C10_chain`, which takes C02's conclusion for `resize` as a
  hypothesis, is closed in Avt.Props.Closed2).  Both contracts are theorems:

    Avt.resizeOK : ResizeOK     (Avt/Lemmas/ResizeOK.lean)
    Avt.parserOK : ParserOK     (below; every `c : Nat`, not only Rust `char`s)

  The theorems of the sections C01, C02 and C13 are direct applications; `Reach_step` and the statements over
  `Reach` are proved here.  What remains as hypotheses is only what the property
  text itself states: `Inv v` / `TInv t` / `Reach v` of the start state, the API contract of `resize`
  (`1 ≤ cols`, `1 ≤ rows`, i.e. `PubOp.valid`), and "this call returned that value".
-/
import Avt.Props.C01
import Avt.Props.C02
import Avt.Props.C13
import Avt.Lemmas.ResizeOK
import Avt.Lemmas.ParserSem

namespace Avt

/-- `ParserOK` as a theorem: for every register file satisfying `PInv` and EVERY `c : Nat`, not only the
    code points below `0x110000`, `Parser.feed` does not panic and re-establishes `PInv`: two of the
    conjuncts of `ParserSem.feed_abs`. -/
theorem parserOK : ParserOK := fun p c hp => by
  obtain ⟨p', f, h1, -, h3, -⟩ := ParserSem.feed_abs hp c
  exact ⟨p', f, h1, h3⟩

end Avt

namespace Avt.Props.Closed
open Avt Avt.Spec.C13

/-! ### C01 — no panic -/

theorem C01_total {v : Vt} (h : Inv v = true) (op : PubOp) (hv : op.valid) : (step v op).isSome = true :=
  C01.C01_total resizeOK parserOK h op hv

/-- `Vt::feed` (one character, any `c : Nat`) never panics -/
theorem C01_feed {v : Vt} (h : Inv v = true) (c : Nat) : (v.feed c).isSome = true :=
  C01.C01_feed resizeOK parserOK h c

theorem C01_execute {t : Terminal} (h : TInv t = true) (f : Function) : (t.execute f).isSome = true :=
  C01.C01_execute resizeOK h f

theorem C01_collector (tc : TextCollector) (h : Inv tc.vt = true) :
    (∀ s, (tc.feedStr s).isSome = true) ∧ (∀ c r, 1 ≤ c → 1 ≤ r → (tc.resize c r).isSome = true) :=
  C01.C01_collector resizeOK parserOK tc h

theorem C01_reach {v : Vt} (h : Reach v) :
    (∀ op : PubOp, op.valid → (step v op).isSome = true) ∧ queriesOK v :=
  C01.C01_reach resizeOK parserOK h

/-! ### C02 — geometry invariants

  From a state satisfying the invariant every control function and every public mutator returns (no
  panic) in a state satisfying it; `feed_str` and `resize` report only rows of the screen (`changesOK`). -/

theorem C02_execute {t : Terminal} (f : Function) (h : TInv t = true) :
    ∃ t', t.execute f = some t' ∧ TInv t' = true :=
  C02.C02_execute resizeOK f h

theorem C02_feed {v : Vt} (c : Nat) (h : Inv v = true) : ∃ v', v.feed c = some v' ∧ Inv v' = true :=
  C02.C02_feed resizeOK parserOK c h

theorem C02_feedAll {v : Vt} (s : List Nat) (h : Inv v = true) :
    ∃ v', v.feedAll s = some v' ∧ Inv v' = true :=
  C02.C02_feedAll resizeOK parserOK s h

theorem C02_feedStr {v : Vt} (s : List Nat) (h : Inv v = true) :
    ∃ v' ch, v.feedStr s = some (v', ch) ∧ Inv v' = true ∧ changesOK v'.terminal.rows ch.lines = true :=
  C02.C02_feedStr resizeOK parserOK s h

theorem C02_resize {v : Vt} {c r : Nat} (h : Inv v = true) (hc : 1 ≤ c) (hr : 1 ≤ r) :
    ∃ v' ch, v.resize c r = some (v', ch) ∧ Inv v' = true ∧ changesOK v'.terminal.rows ch.lines = true :=
  C02.C02_resize resizeOK h hc hr

theorem C02_step {v : Vt} (op : PubOp) (h : Inv v = true) (hv : op.valid) :
    ∃ v', step v op = some v' ∧ Inv v' = true :=
  C02.C02_step resizeOK parserOK op h hv

theorem C02_run {v : Vt} (ops : List PubOp) (h : Inv v = true) (hv : ∀ op ∈ ops, op.valid) :
    ∃ v', run v ops = some v' ∧ Inv v' = true :=
  C02.C02_run resizeOK parserOK ops h hv

theorem C02_reach {v : Vt} (h : Reach v) : Inv v = true :=
  C02.C02_reach resizeOK parserOK h

/-! ### C13 — scrollback bound

  `boundOK` (Spec/C13.lean): after `feed_str` / `resize`, `lines()` has at most `rows + L + L/10` lines under
  a limit `L`, exactly `rows` when `L = 0` and on the alternate screen. -/

theorem C13_feedStr {v v' : Vt} {ch : Changes} {s : List Nat} (h : Inv v = true)
    (hs : v.feedStr s = some (v', ch)) : boundOK v' = true :=
  C13.C13_feedStr resizeOK parserOK h hs

theorem C13_resize {v v' : Vt} {ch : Changes} {c r : Nat} (h : Inv v = true) (hc : 1 ≤ c) (hr : 1 ≤ r)
    (hs : v.resize c r = some (v', ch)) : boundOK v' = true :=
  C13.C13_resize resizeOK h hc hr hs

theorem C13_reach {v v' : Vt} {op : PubOp} (h : Reach v) (hv : op.valid) (hf : op.finishes = true)
    (hs : step v op = some v') :
    boundOK v' = true
      ∧ (∀ L, v'.terminal.scrollbackLimit = some L →
          v'.lines.length ≤ v'.terminal.rows + L + L / 10 ∧ (L = 0 → v'.lines.length = v'.terminal.rows))
      ∧ (v'.terminal.activeBufferType = .alternate → v'.lines.length = v'.terminal.rows) :=
  C13.C13_reach resizeOK parserOK h hv hf hs

/-! ### the lifting lemmas of Lemmas/InvTerminal and Lemmas/InvVt, closed -/

theorem Terminal_reflow_ok {t : Terminal} (h : Terminal.PreReflow t) : Terminal.Pres t.reflow :=
  Terminal.reflow_ok resizeOK h

theorem Terminal_resize_ok {t : Terminal} {cols rows : Nat} (h : TOK t) (hc : 1 ≤ cols) (hr : 1 ≤ rows) :
    Terminal.Pres (t.resize cols rows) :=
  Terminal.resize_ok resizeOK h hc hr

theorem Terminal_decsetOne_ok {t : Terminal} (m : DecMode) (h : TOK t) : Terminal.Pres (t.decsetOne m) :=
  Terminal.decsetOne_ok resizeOK m h

theorem Terminal_decrstOne_ok {t : Terminal} (m : DecMode) (h : TOK t) : Terminal.Pres (t.decrstOne m) :=
  Terminal.decrstOne_ok resizeOK m h

theorem Terminal_execute_ok {t : Terminal} (f : Function) (h : TOK t) : Terminal.Pres (t.execute f) :=
  Terminal.execute_ok resizeOK f h

theorem Vt_feed_ok {v : Vt} (c : Nat) (h : Inv v = true) : ∃ v', v.feed c = some v' ∧ Inv v' = true :=
  Vt.feed_ok resizeOK parserOK c h

theorem Vt_feedAll_ok (s : List Nat) {v : Vt} (h : Inv v = true) :
    ∃ v', v.feedAll s = some v' ∧ Inv v' = true :=
  Vt.feedAll_ok resizeOK parserOK s h

/-- `feed_str`: returns, keeps the invariant, leaves the active buffer trimmed, reports well-formed
    changed-line indices -/
theorem Vt_feedStr_ok {v : Vt} (s : List Nat) (h : Inv v = true) :
    ∃ v' ch, v.feedStr s = some (v', ch) ∧ Inv v' = true
      ∧ v'.terminal.buffer.trimNeeded = false ∧ changesOK v'.terminal.rows ch.lines = true :=
  Vt.feedStr_ok resizeOK parserOK s h

theorem step_ok {v : Vt} (op : PubOp) (h : Inv v = true) (hv : op.valid) :
    ∃ v', step v op = some v' ∧ Inv v' = true :=
  Avt.step_ok resizeOK parserOK op h hv

theorem step_trimmed {v v' : Vt} {op : PubOp} (h : Inv v = true) (hv : op.valid)
    (hf : op.finishes = true) (hs : step v op = some v') : v'.terminal.buffer.trimNeeded = false :=
  Avt.step_trimmed resizeOK parserOK h hv hf hs

theorem run_ok (ops : List PubOp) {v : Vt} (h : Inv v = true) (hv : ∀ op ∈ ops, op.valid) :
    ∃ v', run v ops = some v' ∧ Inv v' = true :=
  Avt.run_ok resizeOK parserOK ops h hv

theorem Reach_induct {P : Vt → Prop} (k : Vt.Keeps P)
    (new : ∀ {cols rows : Nat} {lim : Option Nat} {v : Vt}, Vt.new cols rows lim = some v → P v)
    {v : Vt} (h : Reach v) : Inv v = true ∧ P v :=
  Reach.induct resizeOK parserOK k new h

/-! ### the headline statements, in the properties' own words -/

/-- `Reach` is closed under lists of valid public calls -/
theorem Reach_run (ops : List PubOp) {v v' : Vt} (h : Reach v) (hv : ∀ op ∈ ops, op.valid)
    (hr : run v ops = some v') : Reach v' := by
  obtain ⟨cols, rows, lim, v0, ops0, hc, hr0, h0, hops, hrun⟩ := h
  exact ⟨cols, rows, lim, v0, ops0 ++ ops, hc, hr0, h0,
    fun o ho => (List.mem_append.1 ho).elim (hops o) (hv o), by rw [Closed2.run_append, hrun]; exact hr⟩

theorem Reach_of_step {v v' : Vt} {op : PubOp} (h : Reach v) (hv : op.valid) (hs : step v op = some v') :
    Reach v' :=
  Reach_run [op] h (fun _ ho => List.mem_singleton.1 ho ▸ hv) (by simp only [run, hs])

/-- one valid public call from a reachable state returns, in a reachable state -/
theorem Reach_step {v : Vt} (h : Reach v) (op : PubOp) (hv : op.valid) :
    ∃ v', step v op = some v' ∧ Reach v' :=
  (C02_step op (C02_reach h) hv).imp fun _ h1 => ⟨h1.1, Reach_of_step h hv h1.1⟩

/-- a fresh terminal of any size ≥ 1x1 and any scrollback limit exists and is reachable -/
theorem Reach_new {cols rows : Nat} (lim : Option Nat) (hc : 1 ≤ cols) (hr : 1 ≤ rows) :
    ∃ v, Vt.new cols rows lim = some v ∧ Reach v := by
  obtain ⟨v, h1, _⟩ := C02.C02_init lim hc hr
  exact ⟨v, h1, ⟨cols, rows, lim, v, [], hc, hr, h1, (fun _ h => by cases h), rfl⟩⟩

/-- **C01**: in every state reachable through the public API, every public call allowed by the API
    contract returns normally, and so does every query -/
theorem C01_no_panic_anywhere {v : Vt} (h : Reach v) :
    ∀ op : PubOp, op.valid → (step v op).isSome = true ∧ queriesOK v :=
  fun op hv => ⟨(C01_reach h).1 op hv, (C01_reach h).2⟩

/-- **C01**, whole sessions: from a fresh terminal every finite list of valid public calls returns -/
theorem C01_session {cols rows : Nat} (lim : Option Nat) (hc : 1 ≤ cols) (hr : 1 ≤ rows)
    (ops : List PubOp) (hv : ∀ op ∈ ops, op.valid) :
    ∃ v0 v, Vt.new cols rows lim = some v0 ∧ run v0 ops = some v ∧ queriesOK v := by
  obtain ⟨v0, h0, hi⟩ := C02.C02_init lim hc hr
  obtain ⟨v, h1, h2⟩ := C02_run ops hi hv
  exact ⟨v0, v, h0, h1, C01.C01_queries h2⟩

/-- **C02**: every reachable state has a well-formed geometry: `view()` has `rows` lines and is the
    tail of `lines()`, every line has `cols` cells, the last line is not soft-wrapped, the cursor is
    inside the screen (`col = cols` only while a wrap is pending) -/
theorem C02_reachable_geometry {v : Vt} (h : Reach v) : geomOK v = true :=
  (C02.C02_geom (C02_reach h)).1

theorem C02_reachable_view {v : Vt} (h : Reach v) :
    v.view = v.lines.drop (v.lines.length - v.terminal.rows) :=
  (C02.C02_geom (C02_reach h)).2

/-- **C02**: the `Changes.lines` returned by `feed_str` / `resize` from a reachable state are strictly
    increasing and below `rows`, and the state returned is reachable geometry again -/
theorem C02_reachable_changes {v : Vt} (h : Reach v) :
    (∀ s, ∃ v' ch, v.feedStr s = some (v', ch) ∧ geomOK v' = true
        ∧ changesOK v'.terminal.rows ch.lines = true)
    ∧ (∀ c r, 1 ≤ c → 1 ≤ r → ∃ v' ch, v.resize c r = some (v', ch) ∧ geomOK v' = true
        ∧ changesOK v'.terminal.rows ch.lines = true ∧ v'.size = (c, r)) := by
  have hi := C02_reach h
  refine ⟨fun s => ?_, fun c r hc hr => ?_⟩
  · obtain ⟨v', ch, h1, h2, h3⟩ := C02_feedStr s hi
    exact ⟨v', ch, h1, (C02.C02_geom h2).1, h3⟩
  · obtain ⟨v', ch, h1, h2, h3⟩ := C02_resize hi hc hr
    exact ⟨v', ch, h1, (C02.C02_geom h2).1, h3, C02.C02_size h1⟩

/-- **C13**: after every `feed_str` / `resize` from a reachable state, `lines()` has at most
    `rows + L + ⌊L/10⌋` entries for a limit `L`, exactly `rows` for `L = 0` and on the alternate screen -/
theorem C13_reachable_bound {v v' : Vt} {op : PubOp} (h : Reach v) (hv : op.valid)
    (hf : op.finishes = true) (hs : step v op = some v') :
    (∀ L, v'.terminal.scrollbackLimit = some L →
        v'.lines.length ≤ v'.terminal.rows + L + L / 10 ∧ (L = 0 → v'.lines.length = v'.terminal.rows))
      ∧ (v'.terminal.activeBufferType = .alternate → v'.lines.length = v'.terminal.rows) :=
  (C13_reach h hv hf hs).2

/-- the same as the decidable predicate of the oracle -/
theorem C13_reachable_boundOK {v v' : Vt} {op : PubOp} (h : Reach v) (hv : op.valid)
    (hf : op.finishes = true) (hs : step v op = some v') : boundOK v' = true :=
  (C13_reach h hv hf hs).1

/-! ### `Reach` is inhabited by a non-trivial state

  a 3x2 terminal with scrollback limit 10: `feed_str("abcd")` (wraps onto the second row), then
  `resize(2, 3)` (reflows "abcd" into "ab" / "cd"). -/

def demoOps : List PubOp := [.feedStr [0x61, 0x62, 0x63, 0x64], .resize 2 3]

def demo : Option Vt := (Vt.new 3 2 (some 10)).bind fun v0 => run v0 demoOps

theorem demo_facts :
    (match demo with
     | some v => v.size == (2, 3) && v.text == [[0x61, 0x62, 0x63, 0x64], []] && Inv v && geomOK v
         && boundOK v && v.terminal.cursor.row == 1
     | none => false) = true := by decide +kernel

example : ∃ v, demo = some v ∧ Reach v ∧ v.size = (2, 3) ∧ geomOK v = true ∧ boundOK v = true := by
  have hf := demo_facts
  cases hd : demo with
  | none => rw [hd] at hf; cases hf
  | some v =>
    rw [hd] at hf
    simp only [Bool.and_eq_true, beq_iff_eq] at hf
    obtain ⟨⟨⟨⟨⟨h1, _⟩, _⟩, h4⟩, h5⟩, _⟩ := hf
    refine ⟨v, rfl, ?_, h1, h4, h5⟩
    unfold demo at hd
    cases h0 : Vt.new 3 2 (some 10) with
    | none => rw [h0] at hd; cases hd
    | some v0 =>
      rw [h0] at hd
      exact ⟨3, 2, some 10, v0, demoOps, by decide, by decide, h0, by decide, hd⟩

end Avt.Props.Closed
