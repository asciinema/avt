/-
  Avt.Props.Closed2 — C10, C12, C16 and C14 with the hypotheses their property files leave open
  discharged from `Inv` (C01, C02, C13) or read over `Reach` (continues Avt.Props.Closed).

  C10  `Closed.C10_chain` supplies the `hC02` of `C10.C10_chain`; `Closed.C10_reachable_resize` and
       `Closed.C10_reachable_pending_place` read C10 over `Reach`.
  C12  The two `altClean` hypotheses of `C12.C12_feedStrs` ("`feed_str` leaves no scrollback on the
       alternate screen") are instances of C13: every `feed_str` returns with `Inv` and
       `trim_needed = false` (`Closed.Vt_feedStr_ok`), and then the alternate buffer (limit 0, part of
       `Inv`) has no scrollback (`altClean_of_trimmed`).  `C12_reachable` is the property's headline.
       The one side condition left (an EMPTY series of calls from a state that per-character `feed()`
       calls left untrimmed) is necessary: `C12_empty_series_needs_clean`, KF4 seen from C12's side.
  C16  `C16_vt_excursion`, `C16_vt_excursion_resized`: excursions through the public calls from
       reachable states, `resize` calls in between; under a finite limit the marked lines are found
       in what the leaving call hands out followed by `lines()`.
  C14  `C14_stream_closed`: both sessions exist and return (C01, C02) instead of being assumed.
-/
import Avt.Props.Closed
import Avt.Props.C10
import Avt.Props.C12
import Avt.Props.C14
import Avt.Props.C16

namespace Avt.Props.Closed
open Avt

/-- **C10 along every chain of resizes**, no hypothesis left -/
theorem C10_chain : C10.C10_chain_full :=
  C10.C10_chain fun _ _ _ _ _ hw hc hr hres => (Option.of_eq_some₂ (C02_resize hw hc hr) hres).1

/-- **C10** from reachable states: a resize of the primary screen with unlimited scrollback satisfies
    the reflow relation (logical lines kept, cursor's logical position kept) -/
theorem C10_reachable_resize {v v' : Vt} {c r : Nat} {ch : Changes} (h : Reach v) (hc : 1 ≤ c)
    (hr : 1 ≤ r) (hp : v.terminal.activeBufferType = .primary) (hl : v.terminal.scrollbackLimit = none)
    (hs : v.resize c r = some (v', ch)) :
    Avt.Spec.C10.resizeRel (Avt.Spec.C10.logicalLines v.terminal.buffer.lines)
      (Avt.Spec.C10.logicalLines v'.terminal.buffer.lines)
      (C10.cursorOf v.terminal).1 (C10.cursorOf v.terminal).2
      (C10.cursorOf v'.terminal).1 (C10.cursorOf v'.terminal).2 v.terminal.pendingWrap = true :=
  C10.C10_resize v v' c r ch (C02_reach h) hc hr hp hl hs

/-- **C10, the wrap-pending cursor**, from reachable states: a wrap-pending cursor whose logical
    offset names a character of the text keeps that offset; a width change puts it on that character,
    a height-only change keeps the character unless the line was cut at the cursor -/
theorem C10_reachable_pending_place {v v' : Vt} {c r : Nat} {ch : Changes} (h : Reach v) (hc : 1 ≤ c)
    (hr : 1 ≤ r) (hp : v.terminal.activeBufferType = .primary) (hl : v.terminal.scrollbackLimit = none)
    (hs : v.resize c r = some (v', ch)) :
    Avt.Spec.C10.pendingPlaceRel (Avt.Spec.C10.logicalLines v.terminal.buffer.lines)
      (Avt.Spec.C10.logicalLines v'.terminal.buffer.lines)
      (C10.cursorOf v.terminal).1 (C10.cursorOf v.terminal).2 (C10.cursorOf v'.terminal).2
      v.terminal.pendingWrap (v'.terminal.buffer.cols != v.terminal.buffer.cols) = true :=
  C10.C10_pending_place v v' c r ch (C02_reach h) hc hr hp hl hs

end Avt.Props.Closed

namespace Avt.Props.Closed2
open Avt

section C12
open Avt.Frame Avt.Spec.C12 Avt.C12

/-- C13 for the alternate screen, in the shape C12 uses: a state satisfying the invariant whose active
    buffer is trimmed (what every `feed_str` / `resize` returns) has no scrollback on the alternate
    screen -/
theorem altClean_of_trimmed {v : Vt} (h : Inv v = true) (ht : v.terminal.buffer.trimNeeded = false) :
    altClean v = true := by
  unfold altClean
  cases ha : v.terminal.activeBufferType with
  | primary => rfl
  | alternate =>
    have hlen := (C13.C13_bound h ht).2 ha
    obtain ⟨_, hk⟩ := (Vt.inv_iff v).1 h
    have hv := hk.bok.hv
    have hr := hk.brows
    have : v.terminal.buffer.sb.length = 0 := by
      simp only [Vt.lines, Terminal.lines, Buffer.lines, List.length_append] at hlen
      omega
    simp [List.length_eq_zero_iff.1 this]

/-- a series of `feed_str` calls from a state satisfying the invariant returns (C01) and keeps the
    invariant (C02); after at least one call (or from a clean start) the alternate screen holds no
    scrollback -/
theorem runFeeds_ok : ∀ (chunks : List (List Nat)) {v : Vt}, Inv v = true →
    ∃ v' d, runFeeds v chunks = some (v', d) ∧ Inv v' = true
      ∧ (chunks ≠ [] ∨ altClean v = true → altClean v' = true)
  | [], v, h => ⟨v, [], rfl, h, fun hc => hc.resolve_left fun hne => hne rfl⟩
  | s :: ss, v, h => by
    obtain ⟨v1, ch, h1, i1, t1, _⟩ := Closed.Vt_feedStr_ok s h
    obtain ⟨v2, d, h2, i2, c2⟩ := runFeeds_ok ss i1
    exact ⟨v2, ch.scrollback ++ d, by simp [runFeeds, h1, h2], i2,
      fun _ => c2 (Or.inr (altClean_of_trimmed i1 t1))⟩

/-- **C12, `feed_str`, hypothesis-minimal.**  From any state satisfying the invariant, a series of
    `feed_str` calls on consecutive pieces (cut anywhere) and one `feed_str` of the whole leave the
    same visible screen, cursor, modes, parser, parked buffer (`equivChunk`) under every scrollback
    limit, and with unlimited scrollback also the same `lines()` and primary scrollback
    (`equivLines`) — on the primary AND on the alternate screen.  Side condition: at least one call
    is made, or the start state has no alternate-screen scrollback (true after every `feed_str` /
    `resize`; see `C12_empty_series_needs_clean`). -/
theorem C12_feedStrs_closed {v v2 w : Vt} {cw : Changes} {chunks : List (List Nat)}
    (hI : Inv v = true) (hne : chunks ≠ [] ∨ altClean v = true)
    (h : feedStrs v chunks = some v2) (hw : v.feedStr chunks.flatten = some (w, cw)) :
    equivChunk v2 w = true ∧ (v.terminal.scrollbackLimit = none → equivLines v2 w = true) := by
  obtain ⟨h1, h2⟩ := C12_feedStrs hI h hw
  refine ⟨h1, fun hL => ?_⟩
  obtain ⟨_, _, h3⟩ := h2 hL
  have c2 : altClean v2 = true := by
    obtain ⟨v2', d, hr, _, hc⟩ := runFeeds_ok chunks hI
    simp only [feedStrs, hr, Option.map_some, Option.some.injEq] at h
    exact h ▸ hc hne
  obtain ⟨_, _, hw', i2, t2, _⟩ := Closed.Vt_feedStr_ok chunks.flatten hI
  rw [hw] at hw'; cases hw'
  exact h3 c2 (altClean_of_trimmed i2 t2)

/-- the two-piece form: `feed_str xs; feed_str ys` vs `feed_str (xs ++ ys)` -/
theorem C12_feedStr_closed {v v1 v2 w : Vt} {c1 c2 cw : Changes} {xs ys : List Nat}
    (hI : Inv v = true) (h1 : v.feedStr xs = some (v1, c1)) (h2 : v1.feedStr ys = some (v2, c2))
    (hw : v.feedStr (xs ++ ys) = some (w, cw)) :
    equivChunk v2 w = true ∧ (v.terminal.scrollbackLimit = none → equivLines v2 w = true) := by
  have h : feedStrs v [xs, ys] = some v2 := by
    simp [feedStrs, runFeeds, h1, h2]
  have hw' : v.feedStr [xs, ys].flatten = some (w, cw) := by simpa using hw
  exact C12_feedStrs_closed hI (Or.inl (by simp)) h hw'

/-- **C12, no "this call returned" hypotheses**: from a state satisfying the invariant both ways of
    feeding return, and the results are equivalent -/
theorem C12_chunking {v : Vt} (hI : Inv v = true) (chunks : List (List Nat))
    (hne : chunks ≠ [] ∨ altClean v = true) :
    ∃ v2 w cw, feedStrs v chunks = some v2 ∧ v.feedStr chunks.flatten = some (w, cw)
      ∧ equivChunk v2 w = true ∧ (v.terminal.scrollbackLimit = none → equivLines v2 w = true) := by
  obtain ⟨w, cw, hw, _⟩ := Closed.C02_feedStr chunks.flatten hI
  have hsome : (feedStrs v chunks).isSome = true := by
    rw [C12_feedStrs_total chunks hI, hw]; rfl
  obtain ⟨v2, h2⟩ := Option.isSome_iff_exists.1 hsome
  obtain ⟨e1, e2⟩ := C12_feedStrs_closed hI hne h2 hw
  exact ⟨v2, w, cw, h2, hw, e1, e2⟩

/-- what `equivChunk` says in terms of the public accessors: same `view()`, `size()`, `cursor()`,
    cursor-key mode, the same modes, pen, margins, tabs, and the same parser state -/
theorem equivChunk_observables {a b : Vt} (h : equivChunk a b = true) :
    a.view = b.view ∧ a.size = b.size ∧ a.cursor = b.cursor
      ∧ a.cursorKeyAppMode = b.cursorKeyAppMode
      ∧ a.terminal.pendingWrap = b.terminal.pendingWrap
      ∧ a.terminal.insertMode = b.terminal.insertMode ∧ a.terminal.originMode = b.terminal.originMode
      ∧ a.terminal.autoWrapMode = b.terminal.autoWrapMode
      ∧ a.terminal.newLineMode = b.terminal.newLineMode
      ∧ a.terminal.activeBufferType = b.terminal.activeBufferType
      ∧ a.terminal.pen = b.terminal.pen ∧ a.terminal.tabs = b.terminal.tabs
      ∧ a.terminal.topMargin = b.terminal.topMargin ∧ a.terminal.bottomMargin = b.terminal.bottomMargin
      ∧ a.terminal.savedCtx = b.terminal.savedCtx ∧ a.parser = b.parser := by
  simp only [equivChunk, termEqv, scalarsEq, bufEqv, Bool.and_eq_true, beq_iff_eq] at h
  obtain ⟨hp, ⟨hs, hb⟩, _⟩ := h
  obtain ⟨⟨⟨⟨⟨⟨⟨⟨⟨⟨⟨⟨⟨⟨⟨⟨⟨⟨⟨⟨s1, s2⟩, s3⟩, _⟩, s5⟩, s6⟩, _⟩, _⟩, s9⟩, s10⟩, s11⟩, s12⟩, s13⟩, s14⟩, s15⟩,
    s16⟩, s17⟩, s18⟩, _⟩, _⟩, _⟩ := hs
  obtain ⟨⟨⟨⟨b1, _⟩, _⟩, _⟩, _⟩ := hb
  refine ⟨b1, ?_, s5, ?_, s15, s10, s11, s12, s13, s3, s6, s9, s16, s17, s18, hp⟩
  · simp [Vt.size, s1, s2]
  · simp [Vt.cursorKeyAppMode, s14]

/-- **C12, in the property's words, over reachable states.**  For every state reachable through the
    public API, every input string `xs` and every way `chunks` of cutting it into consecutive pieces
    (at least one piece; cut anywhere, also inside an escape sequence): one `feed_str` of the whole,
    the series of `feed_str` calls on the pieces, and `feed()` one character at a time all return,
    and leave the same visible screen, cursor, modes (`equivChunk`, see `equivChunk_observables`);
    with unlimited scrollback the two `feed_str` ways leave the same `lines()` (`equivLines`), and so
    does per-character `feed()` whenever the primary screen is showing at the end (on the alternate
    screen it does not: known finding KF4, `C12.C12_feed_full_false`). -/
theorem C12_reachable {v : Vt} (hR : Reach v) (xs : List Nat) (chunks : List (List Nat))
    (hcat : chunks.flatten = xs) (hne : chunks ≠ []) :
    ∃ w cw v2 g, v.feedStr xs = some (w, cw) ∧ feedStrs v chunks = some v2 ∧ feedChars v xs = some g
      ∧ equivChunk v2 w = true ∧ equivChunk w g = true
      ∧ (v.terminal.scrollbackLimit = none →
          equivLines v2 w = true
          ∧ w.terminal.primaryBuffer.sb = g.terminal.primaryBuffer.sb
          ∧ (g.terminal.activeBufferType = .primary → w.lines = g.lines)) := by
  have hI := Closed.C02_reach hR
  obtain ⟨v2, w, cw, h2, hw, e1, e2⟩ := C12_chunking hI chunks (Or.inl hne)
  rw [hcat] at hw
  obtain ⟨g, hg, _⟩ := Closed.C02_feedAll xs hI
  obtain ⟨e3, e4⟩ := C12_feedChars_partial hI hg hw
  exact ⟨w, cw, v2, g, hw, h2, hg, e1, e3, fun hL => ⟨e2 hL, (e4 hL).1, (e4 hL).2⟩⟩

/-- the side condition of `C12_feedStrs_closed` cannot be dropped: the state KF4's witness reaches by
    per-character `feed()` satisfies the invariant (it is reachable), the EMPTY series of `feed_str`
    calls leaves it as it is, while `feed_str ""` trims the row that scrolled off the alternate
    screen — `lines()` differ. -/
theorem C12_empty_series_needs_clean :
    ∃ v, Reach v ∧ Inv v = true ∧ v.terminal.scrollbackLimit = none ∧ altClean v = false
      ∧ ∃ w cw, feedStrs v [] = some v ∧ v.feedStr ([] : List (List Nat)).flatten = some (w, cw)
          ∧ equivChunk v w = true ∧ equivLines v w = false := by
  have hf : (match Vt.new 7 1 none with
      | some v0 =>
        (match run v0 [.feedChars kf4Input] with
         | some v =>
           (match v.feedStr [] with
            | some (w, _) => Inv v && (v.terminal.scrollbackLimit == none) && !altClean v
                && equivChunk v w && !equivLines v w
            | none => false)
         | none => false)
      | none => false) = true := by decide +kernel
  split at hf
  case h_2 => cases hf
  rename_i v0 h0
  split at hf
  case h_2 => cases hf
  rename_i v h1
  split at hf
  case h_2 => cases hf
  rename_i w cw h2
  simp only [Bool.and_eq_true, beq_iff_eq, Bool.not_eq_true'] at hf
  obtain ⟨⟨⟨⟨a1, a2⟩, a3⟩, a4⟩, a5⟩ := hf
  refine ⟨v, ⟨7, 1, none, v0, [.feedChars kf4Input], by decide, by decide, h0, ?_, h1⟩, a1, a2, a3,
    w, cw, rfl, h2, a4, a5⟩
  intro op hop
  rw [List.mem_singleton.1 hop]; trivial

end C12

section C16
open Avt.Spec.C16 Avt.C16 Avt.Props.C16

/-- a `feed_str` whose input makes the parser emit exactly one function executes that function and
    then runs `changes()` + `gc()` -/
theorem feedStr_single {v v' : Vt} {ch : Changes} {s : List Nat} {f : Function}
    (hs : emitted v.parser s = [f]) (h : v.feedStr s = some (v', ch)) :
    ∃ g, v.feedAll s = some g ∧ v.terminal.execute f = some g.terminal ∧ v' = g.finish.1
      ∧ ch = g.finish.2 := by
  obtain ⟨g, hg, e⟩ := Vt.feedStr_eq_some.1 h
  cases e
  have := (Run.feedAll_emitted hg).2
  rw [← emitted_eq, hs, Terminal.foldM'_single] at this
  exact ⟨g, hg, this, rfl, rfl⟩

/-- one public call on the alternate screen, none of whose emitted functions leaves or hard-resets:
    the parked primary, its saved context, the active screen and `text()` stay; the parser moves on
    as the input dictates -/
theorem C16_step_frame {v v' : Vt} {op : PubOp} (ha : v.terminal.activeBufferType = .alternate)
    (hq : ∀ f ∈ emitted v.parser (PubOp.input op), endsExcursion f = false) (h : step v op = some v') :
    (v'.terminal.otherBuffer = v.terminal.otherBuffer
      ∧ v'.terminal.alternateSavedCtx = v.terminal.alternateSavedCtx
      ∧ v'.terminal.activeBufferType = .alternate ∧ v'.text = v.text)
    ∧ ∀ rest, emitted v.parser (PubOp.input op ++ rest)
        = emitted v.parser (PubOp.input op) ++ emitted v'.parser rest :=
  ⟨frame_of_fr ha (fr_kept.call (fun h _ => fr_resize h) (emitted_eq _ v.parser ▸ hq) h ha),
    fun rest => by simp only [emitted_eq]; rw [Frame.emitted_append, step_parser h]⟩

/-- **C16, frame, any list of public calls.**  While the alternate screen is showing, any list of
    `feed_str` / per-character `feed` / `resize` calls — of any state whatsoever, no invariant
    needed — none of whose emitted functions leaves the alternate screen or is RIS, leaves the parked
    primary buffer, its saved context and `text()` exactly as they were. -/
theorem C16_run_frame : ∀ (ops : List PubOp) {v v' : Vt}, v.terminal.activeBufferType = .alternate →
    (∀ f ∈ emitted v.parser (inputOf ops), endsExcursion f = false) → run v ops = some v' →
    v'.terminal.otherBuffer = v.terminal.otherBuffer
      ∧ v'.terminal.alternateSavedCtx = v.terminal.alternateSavedCtx
      ∧ v'.terminal.activeBufferType = .alternate ∧ v'.text = v.text := by
  intro ops v v' ha hq h
  rw [emitted_eq] at hq
  exact frame_of_fr ha <| run_keeps (P := fun w => fr w.terminal = fr v.terminal)
    (fun hw hq hs => (fr_kept.call (fun h _ => fr_resize h) hq hs ((fr_parts hw).2.2.trans ha)).trans hw)
    ops rfl hq h

/-- `C16_run_frame` after EVERY call of the list (`text()` is constant throughout) -/
theorem C16_run_throughout {ops : List PubOp} {v : Vt} (ha : v.terminal.activeBufferType = .alternate)
    (hq : ∀ f ∈ emitted v.parser (inputOf ops), endsExcursion f = false)
    (pre post : List PubOp) (hsplit : ops = pre ++ post) {w : Vt} (hw : run v pre = some w) :
    w.terminal.otherBuffer = v.terminal.otherBuffer
      ∧ w.terminal.alternateSavedCtx = v.terminal.alternateSavedCtx
      ∧ w.terminal.activeBufferType = .alternate ∧ w.text = v.text := by
  refine C16_run_frame pre ha (fun f hf => hq f ?_) hw
  rw [hsplit, inputOf_append, emitted_eq]
  exact Frame.emitted_prefix _ _ _ f (emitted_eq _ _ ▸ hf)

/-- `changes()` + `gc()` touch neither the active screen, nor the parked buffer and its context, nor
    the size -/
theorem finish_keeps (g : Vt) :
    g.finish.1.terminal.activeBufferType = g.terminal.activeBufferType
      ∧ g.finish.1.terminal.otherBuffer = g.terminal.otherBuffer
      ∧ g.finish.1.terminal.alternateSavedCtx = g.terminal.alternateSavedCtx
      ∧ g.finish.1.size = g.size :=
  ⟨rfl, rfl, rfl, rfl⟩

/-- **C16, entering through `feed_str`.**  From a state satisfying the invariant (every reachable
    state) with the primary showing, a `feed_str` whose input makes the parser emit exactly
    `DECSET 47/1047/1049`: the invariant holds, the alternate screen is showing — blank, current pen,
    no scrollback — at the same size, the primary buffer is parked unchanged with its saved context
    (for 1049: the entry cursor), and `text()` is unchanged. -/
theorem C16_vt_enter {v v0 : Vt} {ch0 : Changes} {s0 : List Nat} {me : DecMode}
    (hI : Inv v = true) (hp : v.terminal.activeBufferType = .primary)
    (hme : isAltScreenMode me = true) (hs0 : emitted v.parser s0 = [.decset [me]])
    (h0 : v.feedStr s0 = some (v0, ch0)) :
    Inv v0 = true ∧ v0.terminal.activeBufferType = .alternate
      ∧ v0.terminal.otherBuffer = v.terminal.buffer
      ∧ v0.terminal.alternateSavedCtx = parkedCtx v.terminal (me == .saveCursorAltScreenBuffer)
      ∧ v0.text = v.text ∧ v0.size = v.size
      ∧ v0.view = blankScreen v.terminal.cols v.terminal.rows v.terminal.pen := by
  obtain ⟨v0', ch', h0', hI0, _⟩ := Closed.C02_feedStr s0 hI
  rw [h0] at h0'; cases h0'
  obtain ⟨g, _, hex, e1, _⟩ := feedStr_single hs0 h0
  have hT := (Bool.and_eq_true_iff.1 hI).2
  obtain ⟨c1, c2, c3, _, c5⟩ := C16_enter hT hp hme hex
  obtain ⟨f1, f2, f3, f4⟩ := finish_keeps g
  simp only [freshAlternate, Bool.and_eq_true, beq_iff_eq] at c1
  obtain ⟨⟨⟨⟨k1, k2⟩, k3⟩, k4⟩, _⟩ := c1
  have hview : g.finish.1.view = g.view := (Avt.C14.C14_finish g).1
  subst e1
  refine ⟨hI0, f1.trans k1, f2.trans c2, f3.trans c3, ?_, ?_, ?_⟩
  · show g.finish.1.terminal.text = v.terminal.text
    rw [Terminal.text_alt (f1.trans k1), f2, ← Terminal.text_alt k1]; exact c5
  · rw [f4]; simp [Vt.size, k2, k3]
  · rw [hview]; exact k4

/-- **C16 through the public API, over reachable states.**  From any
    reachable state with the primary showing: a `feed_str` that enters the alternate screen
    (`?47/1047/1049h`), then any list of `feed_str` / `feed` / `resize` calls none of whose emitted
    functions leaves the alternate screen or is RIS — after the entering call and after every later
    call `text()` is what it was, the alternate screen is showing, and the parked primary buffer is
    the marked one. -/
theorem C16_vt_excursion {v v0 : Vt} {ch0 : Changes} {s0 : List Nat} {me : DecMode} {ops : List PubOp}
    (hR : Reach v) (hp : v.terminal.activeBufferType = .primary)
    (hme : isAltScreenMode me = true) (hs0 : emitted v.parser s0 = [.decset [me]])
    (h0 : v.feedStr s0 = some (v0, ch0))
    (hq : ∀ f ∈ emitted v0.parser (inputOf ops), endsExcursion f = false)
    (pre post : List PubOp) (hsplit : ops = pre ++ post) {w : Vt} (hw : run v0 pre = some w) :
    w.text = v.text ∧ w.terminal.activeBufferType = .alternate
      ∧ w.terminal.otherBuffer = v.terminal.buffer
      ∧ w.terminal.alternateSavedCtx = parkedCtx v.terminal (me == .saveCursorAltScreenBuffer) := by
  obtain ⟨_, a2, a3, a4, a5, _, _⟩ := C16_vt_enter (Closed.C02_reach hR) hp hme hs0 h0
  obtain ⟨b1, b2, b3, b4⟩ := C16_run_throughout a2 hq pre post hsplit hw
  exact ⟨b4.trans a5, b3, b1.trans a3, b2.trans a4⟩

/-- on the primary screen with unlimited scrollback the `changes()` + `gc()` that end a call hand out
    nothing and leave the rows, hence the cursor's logical place, as they are -/
theorem finish_unlimited {g : Vt} (hT : TInv g.terminal = true)
    (hp : g.terminal.activeBufferType = .primary) (hL : g.terminal.scrollbackLimit = none) :
    g.finish.2.scrollback = [] ∧ g.finish.1.terminal.buffer.lines = g.terminal.buffer.lines
      ∧ cursorOf g.finish.1.terminal = cursorOf g.terminal := by
  have hlim : g.terminal.buffer.limit = none := by rw [(TOK.of_TInv hT).lim_primary hp, hL]; rfl
  obtain ⟨g3, g1⟩ := Frame.gc_unlimited _ hlim
  have hb : g.finish.1.terminal.buffer = g.terminal.buffer.gc.1 := rfl
  have hbl : g.finish.1.terminal.buffer.lines = g.terminal.buffer.lines :=
    Frame.gc_lines_unlimited hlim
  refine ⟨?_, hbl, ?_⟩
  · rw [Vt.finish_eq, hp]; exact g3
  · have hcur : g.finish.1.terminal.cursor = g.terminal.cursor := rfl
    simp only [cursorOf, Spec.C10.cursorLogical, hcur, hbl]
    rw [hb, g1]

/-- **C16, leaving through `feed_str`** from any state of an excursion (invariant, alternate screen
    showing, parked buffer = the marked primary `m.buffer`; the terminal may have been resized since
    the mark).  A `feed_str` whose input makes the parser emit exactly `DECRST 47/1047/1049`:
    * the invariant and the API-level geometry (`geomOK`) hold, the primary is showing, `size()` is
      unchanged;
    * the scrollback lines the call hands out (`Changes.scrollback`, the `gc()` of a finite limit)
      followed by `lines()` have the marked logical lines, each kept, the last one possibly cut short,
      blank filler aside (`keptOrCut`), hence their text is `textRel` to the marked text;
    * with unlimited scrollback nothing is handed out, `text()` itself is `textRel` to the marked text,
      and C10's `resizeRel` holds for the cursor fed to the deferred resize. -/
theorem C16_vt_leave {m : Terminal} {v1 v2 : Vt} {ch2 : Changes} {s2 : List Nat} {ml : DecMode}
    (hI : Inv v1 = true) (ha : v1.terminal.activeBufferType = .alternate)
    (hpark : v1.terminal.otherBuffer = m.buffer) (hml : isAltScreenMode ml = true)
    (hs2 : emitted v1.parser s2 = [.decrst [ml]]) (h2 : v1.feedStr s2 = some (v2, ch2)) :
    Inv v2 = true ∧ geomOK v2 = true ∧ v2.terminal.activeBufferType = .primary ∧ v2.size = v1.size
      ∧ Spec.C10.keptOrCut (Spec.C10.logicalLines m.buffer.lines)
          (Spec.C10.logicalLines (ch2.scrollback ++ v2.lines)) = true
      ∧ textRel m.buffer.text (Buffer.textGo (ch2.scrollback ++ v2.lines) []) = true
      ∧ (v1.terminal.scrollbackLimit = none →
          ch2.scrollback = [] ∧ textRel m.buffer.text v2.text = true
          ∧ ((leaveCursor v1.terminal ml).2 < m.buffer.rows →
              Spec.C10.resizeRel (Spec.C10.logicalLines m.buffer.lines)
                (Spec.C10.logicalLines v2.terminal.buffer.lines)
                (Spec.C10.cursorLogical m.buffer (leaveCursor v1.terminal ml)).1
                (Spec.C10.cursorLogical m.buffer (leaveCursor v1.terminal ml)).2
                (cursorOf v2.terminal).1 (cursorOf v2.terminal).2
                (leavePending v1.terminal ml) = true)) := by
  obtain ⟨v2', ch', h2', hI2, _⟩ := Closed.C02_feedStr s2 hI
  rw [h2] at h2'; cases h2'
  obtain ⟨g, _, hex, e1, e2⟩ := feedStr_single hs2 h2
  have hT := (Bool.and_eq_true_iff.1 hI).2
  obtain ⟨r1, r2, r3, r4, r5, r6, r7⟩ := C16_resized hT ha hpark hml hex
  obtain ⟨f1, _, _, f4⟩ := finish_keeps g
  have hlines : ch2.scrollback ++ v2.lines = g.terminal.buffer.lines := by
    rw [e1, e2]; exact (Avt.C14.C14_finish g).2.1 r2
  subst e1
  refine ⟨hI2, (C02.C02_geom hI2).1, f1.trans r2, ?_, ?_, ?_, ?_⟩
  · rw [f4]; simp [Vt.size, r3, r4]
  · rw [hlines]; exact r5
  · rw [hlines]
    have : g.terminal.text = Buffer.textGo g.terminal.buffer.lines [] := by rw [Terminal.text_prim r2]; rfl
    rw [← this]; exact r6
  · intro hL
    obtain ⟨u1, hbl, hc⟩ := finish_unlimited r1 r2
      ((congrArg (·.2.2.2) (geo_execute (TOK.of_TInv hT).xt hex)).trans hL)
    refine ⟨e2 ▸ u1, ?_, fun hrow => ?_⟩
    · have : g.finish.1.text = g.terminal.text := by
        show g.finish.1.terminal.text = _
        rw [Terminal.text_prim (f1.trans r2), Terminal.text_prim r2]
        simp only [Buffer.text]; rw [hbl]
      rw [this]; exact r6
    · rw [hc, hbl]; exact r7 hrow

/-- **C16 through the public API with resizes, over reachable states.**  From any reachable state
    `v` with the primary showing: an entering `feed_str` (`?47/1047/1049h`); any list of `feed_str` /
    per-character `feed` / `resize` calls (sizes ≥ 1×1) none of whose emitted functions leaves the
    alternate screen or is RIS; a leaving `feed_str` (`?47/1047/1049l`).  Then `text()` was constant
    until the leaving call, and on return: `Inv`, `geomOK`, primary showing at the size of the last
    resize; the lines handed out by the leaving call followed by `lines()` carry the logical lines of
    `v`, re-wrapped, none altered, at most cut short at the bottom; with unlimited scrollback `text()`
    itself is `textRel` to the old one and — for 1049 in, 1049 out — the cursor is in the same logical
    line, on the same character as at entry (column clamped to `cols-1`), with the pen, origin mode
    and auto-wrap mode of the mark and no wrap pending. -/
theorem C16_vt_excursion_resized {v v0 v1 v2 : Vt} {ch0 ch2 : Changes} {s0 s2 : List Nat}
    {me ml : DecMode} {ops : List PubOp}
    (hR : Reach v) (hp : v.terminal.activeBufferType = .primary)
    (hme : isAltScreenMode me = true) (hml : isAltScreenMode ml = true)
    (hs0 : emitted v.parser s0 = [.decset [me]]) (h0 : v.feedStr s0 = some (v0, ch0))
    (hv : ∀ op ∈ ops, op.valid)
    (hq : ∀ f ∈ emitted v0.parser (inputOf ops), endsExcursion f = false)
    (h1 : run v0 ops = some v1)
    (hs2 : emitted v1.parser s2 = [.decrst [ml]]) (h2 : v1.feedStr s2 = some (v2, ch2)) :
    v1.text = v.text
      ∧ Inv v2 = true ∧ geomOK v2 = true ∧ v2.terminal.activeBufferType = .primary ∧ v2.size = v1.size
      ∧ Spec.C10.keptOrCut (Spec.C10.logicalLines v.lines)
          (Spec.C10.logicalLines (ch2.scrollback ++ v2.lines)) = true
      ∧ textRel v.text (Buffer.textGo (ch2.scrollback ++ v2.lines) []) = true
      ∧ (v.terminal.scrollbackLimit = none →
          ch2.scrollback = [] ∧ textRel v.text v2.text = true
          ∧ (me = .saveCursorAltScreenBuffer → ml = .saveCursorAltScreenBuffer →
              Spec.C10.resizeRel (Spec.C10.logicalLines v.lines)
                  (Spec.C10.logicalLines v2.lines)
                  (Spec.C10.cursorLogical v.terminal.buffer
                    (min v.terminal.cursor.col (v.terminal.cols - 1), v.terminal.cursor.row)).1
                  (Spec.C10.cursorLogical v.terminal.buffer
                    (min v.terminal.cursor.col (v.terminal.cols - 1), v.terminal.cursor.row)).2
                  (cursorOf v2.terminal).1 (cursorOf v2.terminal).2 false = true
                ∧ v2.terminal.pen = v.terminal.pen ∧ v2.terminal.originMode = v.terminal.originMode
                ∧ v2.terminal.autoWrapMode = v.terminal.autoWrapMode
                ∧ v2.terminal.pendingWrap = false)) := by
  have hI := Closed.C02_reach hR
  have hT := (Bool.and_eq_true_iff.1 hI).2
  obtain ⟨i0, a2, a3, a4, a5, _, _⟩ := C16_vt_enter hI hp hme hs0 h0
  obtain ⟨b1, b2, b3, b4⟩ := C16_run_frame ops a2 hq h1
  obtain ⟨v1', h1', i1⟩ := Closed.C02_run ops i0 hv
  rw [h1] at h1'; cases h1'
  have hpark : v1.terminal.otherBuffer = v.terminal.buffer := b1.trans a3
  have hctx := b2.trans a4
  have htext : v.text = v.terminal.buffer.text := Terminal.text_prim hp
  obtain ⟨c1, c2, c3, c4, c5, c6, c7⟩ := C16_vt_leave (m := v.terminal) i1 b3 hpark hml hs2 h2
  refine ⟨b4.trans a5, c1, c2, c3, c4, c5, by rw [htext]; exact c6, fun hL => ?_⟩
  -- the scrollback limit is configuration: read it off the parked primary
  have hL1 : v1.terminal.scrollbackLimit = none := by
    have e := (TOK.of_TInv (Bool.and_eq_true_iff.1 i1).2).lim_parked b3
    rw [hpark, (TOK.of_TInv hT).lim_primary hp, hL] at e
    exact Option.map_eq_none_iff.1 e.symm
  obtain ⟨d1, d2, d3⟩ := c7 hL1
  refine ⟨d1, by rw [htext]; exact d2, fun e1 e2 => ?_⟩
  subst e1 e2
  -- 1049 in, 1049 out: the cursor handed to the deferred resize is the one saved at entry
  rw [leaveCursor_1049, leavePending_1049, hctx] at d3
  have k := TOK.of_TInv hT
  refine ⟨d3 (by rw [k.brows]; exact k.crow), ?_⟩
  obtain ⟨g, _, hex, eg, _⟩ := feedStr_single hs2 h2
  rw [exec_decrst_one] at hex
  obtain ⟨p1, p2, p3, p4⟩ := leave_1049_ctx b3 hex
  rw [hctx] at p1 p2 p3
  subst eg
  exact ⟨p1, p2, p3, p4⟩

/-! ### a concrete session: the hypotheses of `C16_vt_excursion_resized` are satisfiable

  4×2, unlimited scrollback.  `feed_str("z\n\r\n\rabcdef" ESC[1m ESC[D)`: rows "z", "" (scrollback),
  "abcd"⏎"ef" (one logical line), bold pen, cursor on the 'f'.  Then `feed_str(ESC[?1049h)`; during
  the excursion `feed_str("x" ESC[)`, `resize(3,3)`, `feed()` per character of `2J\n\n\ny` (the
  sequence `ESC[2J` is cut by the resize), `resize(2,2)`, `feed_str(ESC#8)`; finally
  `feed_str(ESC[?1049l)` at 2×2: "abcdef" now fills three rows, `text()` is the old one, the cursor is
  on the 'f' again (logical line 2, offset 5). -/

def exIn : List Nat :=
  [0x7a, 0x0a, 0x0d, 0x0a, 0x0d, 0x61, 0x62, 0x63, 0x64, 0x65, 0x66, 0x1b, 0x5b, 0x31, 0x6d, 0x1b, 0x5b, 0x44]
def ex1049h : List Nat := [0x1b, 0x5b, 0x3f, 0x31, 0x30, 0x34, 0x39, 0x68]
def ex1049l : List Nat := [0x1b, 0x5b, 0x3f, 0x31, 0x30, 0x34, 0x39, 0x6c]
def exOps : List PubOp :=
  [.feedStr [0x78, 0x1b, 0x5b], .resize 3 3, .feedChars [0x32, 0x4a, 0x0a, 0x0a, 0x0a, 0x79], .resize 2 2,
   .feedDrop [0x1b, 0x23, 0x38]]

theorem ex_facts :
    (match Vt.new 4 2 none with
     | some u =>
       match run u [.feedStr exIn] with
       | some v =>
         match v.feedStr ex1049h with
         | some (v0, _) =>
           match run v0 exOps with
           | some v1 =>
             match v1.feedStr ex1049l with
             | some (v2, ch2) =>
               (v.terminal.activeBufferType == .primary)
                 && (emitted v.parser ex1049h == [.decset [.saveCursorAltScreenBuffer]])
                 && (emitted v0.parser (inputOf exOps)).all (fun f => !endsExcursion f)
                 && (emitted v0.parser (inputOf exOps)).length == 7
                 && (emitted v1.parser ex1049l == [.decrst [.saveCursorAltScreenBuffer]])
                 && (v.size == (4, 2)) && (v1.size == (2, 2)) && (v2.size == (2, 2))
                 && (v1.terminal.otherBuffer.cols == 4)
                 && (Spec.C10.cursorLogical v.terminal.buffer
                      (min v.terminal.cursor.col (v.terminal.cols - 1), v.terminal.cursor.row) == (2, 5))
                 && Spec.C10.onChar (Spec.C10.logicalLines v.lines) 2 5 false
                 && (cursorOf v2.terminal == (2, 5))
                 && (v2.text == v.text) && (v2.text == [[0x7a], [], [0x61, 0x62, 0x63, 0x64, 0x65, 0x66]])
                 && (v2.lines.length == 5) && (ch2.scrollback == [])
                 && (v2.terminal.pen.intensity == .bold)
             | none => false
           | none => false
         | none => false
       | none => false
     | none => false) = true := by decide +kernel

example : ∃ (v v0 v1 v2 : Vt) (ch0 ch2 : Changes),
    Reach v ∧ v.terminal.activeBufferType = .primary
      ∧ emitted v.parser ex1049h = [.decset [.saveCursorAltScreenBuffer]]
      ∧ v.feedStr ex1049h = some (v0, ch0)
      ∧ (∀ op ∈ exOps, op.valid)
      ∧ (∀ f ∈ emitted v0.parser (inputOf exOps), endsExcursion f = false)
      ∧ run v0 exOps = some v1
      ∧ emitted v1.parser ex1049l = [.decrst [.saveCursorAltScreenBuffer]]
      ∧ v1.feedStr ex1049l = some (v2, ch2)
      ∧ v.size = (4, 2) ∧ v1.size = (2, 2) ∧ v2.text = v.text ∧ cursorOf v2.terminal = (2, 5) := by
  have hf := ex_facts
  split at hf
  case h_2 => cases hf
  rename_i u hu
  split at hf
  case h_2 => cases hf
  rename_i v hv
  split at hf
  case h_2 => cases hf
  rename_i v0 ch0 h0
  split at hf
  case h_2 => cases hf
  rename_i v1 h1
  split at hf
  case h_2 => cases hf
  rename_i v2 ch2 h2
  simp only [Bool.and_eq_true, beq_iff_eq, List.all_eq_true, Bool.not_eq_true'] at hf
  obtain ⟨⟨⟨⟨⟨⟨⟨⟨⟨⟨⟨⟨⟨⟨⟨⟨a1, a2⟩, a3⟩, _⟩, a5⟩, a6⟩, a7⟩, _⟩, _⟩, _⟩, _⟩, a12⟩, a13⟩, _⟩, _⟩, _⟩, _⟩ := hf
  refine ⟨v, v0, v1, v2, ch0, ch2, ⟨4, 2, none, u, [.feedStr exIn], by decide, by decide, hu, ?_, hv⟩,
    a1, a2, h0, by decide, a3, h1, a5, h2, a6, a7, a13, a12⟩
  intro op hop
  rw [List.mem_singleton.1 hop]; trivial

end C16

section C14
open Avt.Frame Avt.Spec.C14 Avt.C14

/-- **C14, closed.**  For every size ≥ 1×1, every limit `L`, every two chunkings of the same input
    none of whose emitted functions is RIS: both sessions (limit `L` / unlimited) exist and return,
    and if the limited one ends on the primary screen, the lines it handed out followed by its
    `lines()` are exactly the `lines()` of the unlimited one, which hands out nothing. -/
theorem C14_stream_closed {c r : Nat} (L : Nat) (hc : 1 ≤ c) (hr : 1 ≤ r) (ops ops' : List (List Nat))
    (hcat : ops.flatten = ops'.flatten)
    (hnr : Function.ris ∉ Frame.emitted Parser.new ops.flatten) :
    ∃ v0 u0 v u dv du, Vt.new c r (some L) = some v0 ∧ Vt.new c r none = some u0
      ∧ runFeeds v0 ops = some (v, dv) ∧ runFeeds u0 ops' = some (u, du)
      ∧ Inv v = true ∧ Inv u = true
      ∧ (v.terminal.activeBufferType = .primary → streamEq dv v u = true ∧ du = []) := by
  obtain ⟨v0, hv0, iv0⟩ := C02.C02_init (some L) hc hr
  obtain ⟨u0, hu0, iu0⟩ := C02.C02_init none hc hr
  obtain ⟨v, dv, hv, iv, _⟩ := runFeeds_ok ops iv0
  obtain ⟨u, du, hu, iu, _⟩ := runFeeds_ok ops' iu0
  exact ⟨v0, u0, v, u, dv, du, hv0, hu0, hv, hu, iv, iu, fun hT => C14_stream hv0 hu0 hcat hnr hv hu hT⟩

end C14

end Avt.Props.Closed2
