/-
  Avt.Props.C05 — property theorems for C05 (cursor movement and addressing).

  `C05_move` is unbounded: every terminal satisfying the invariant `TInv` (every size, every margin
  pair, cursor anywhere incl. the wrap-pending column, origin mode on or off, both screens), every
  covered command, every parameter value.  Because the conclusion is an equation between complete
  terminals, it contains at once: the command never panics; the cursor, pending-wrap flag, margins
  and origin mode are as `moveSpec` says; nothing else — no cell of either buffer, no wrap mark, no
  pen, mode, tab stop, saved context or dirty flag — changes.
-/
import Avt.Lemmas.C05
import Avt.Lemmas.Persist

namespace Avt
open Avt.Spec Avt.Spec.C05 Avt.Lemmas.C05

/-- the second shape of `covered_spec`, for a placement on `t` itself -/
theorem shape_at {t : Terminal} {c r : Nat} (hc : c < t.cols) (hr : r < t.rows) :
    ∃ s c' r', cursorAt t c r = cursorAt s c' r' ∧ c' < t.cols ∧ r' < t.rows
      ∧ s.rows = t.rows ∧ s.cols = t.cols ∧ s.buffer = t.buffer ∧ s.otherBuffer = t.otherBuffer
      ∧ s.dirtyLines = t.dirtyLines :=
  ⟨t, c, r, rfl, hc, hr, rfl, rfl, rfl, rfl, rfl⟩

/-- One dispatch over the covered commands, with both facts about each: the model does what `moveSpec`
    says, and the result has one of two shapes — the terminal itself (LF on the last row, RI on row 0),
    or a cursor placed inside the screen on a terminal that differs from `t` in margins or origin mode
    at most. -/
theorem covered_spec {t : Terminal} {f : Function} (h : TInv t = true) (hf : covered t f = true) :
    t.execute f = some (moveSpec t f)
      ∧ (moveSpec t f = t ∨ ∃ s c r, moveSpec t f = cursorAt s c r ∧ c < t.cols ∧ r < t.rows
          ∧ s.rows = t.rows ∧ s.cols = t.cols ∧ s.buffer = t.buffer ∧ s.otherBuffer = t.otherBuffer
          ∧ s.dirtyLines = t.dirtyLines) := by
  have T := TOK.of_TInv h
  have hc := T.c1
  have hr := T.r1
  have hrow := T.crow
  have hbot := T.marg.2.1
  have htop : t.topMargin < t.rows := Nat.lt_of_le_of_lt T.marg.1 hbot
  have htab : ∀ x, min x (t.cols - 1) < t.cols := fun _ => absCol_lt hc _
  have hdown : t.cursor.row < lastRow t → t.cursor.row + 1 < t.rows := fun h => Nat.add_lt_of_lt_sub h
  cases f <;> simp only [covered, Bool.false_eq_true] at hf
  case bs =>
    constructor
    · exact bs_eq_cub.trans (cub_eq hc T.ccol 1)
    · exact .inr (shape_at (left_lt hc _) hrow)
  case cbt n =>
    constructor
    · exact tab_bridge h (.cbt n) rfl rfl
    · exact .inr (shape_at (htab _) hrow)
  case cha n =>
    constructor
    · exact moveToCol_eq hc _
    · exact .inr (shape_at (absCol_lt hc _) hrow)
  case cht n =>
    constructor
    · exact tab_bridge h (.cht n) rfl rfl
    · exact .inr (shape_at (htab _) hrow)
  case cnl n =>
    constructor
    · simp only [Terminal.execute, moveSpec, arg_eq, cursorDown_eq hc hr, Option.map_some]
      rfl
    · exact .inr (shape_at hc (down_lt hr hbot _))
  case cpl n =>
    constructor
    · simp only [Terminal.execute, moveSpec, arg_eq, cursorUp_eq hc, Option.map_some]
      rfl
    · exact .inr (shape_at hc (up_lt hrow htop _))
  case cr =>
    constructor
    · rfl
    · exact .inr (shape_at hc hrow)
  case cub n =>
    constructor
    · exact cub_eq hc T.ccol n
    · exact .inr (shape_at (left_lt hc _) hrow)
  case cud n =>
    constructor
    · exact cursorDown_eq hc hr _
    · exact .inr (shape_at (realCol_lt hc) (down_lt hr hbot _))
  case cuf n =>
    constructor
    · exact cuf_eq hc _
    · exact .inr (shape_at (right_lt hc _) hrow)
  case cup r c =>
    constructor
    · simp only [Terminal.execute, Terminal.cup, moveSpec, arg_eq, moveToCol_eq hc]
      rw [moveToRow_eq (t := cursorAt t _ _) hc hr,
        realCol_of_lt (t := cursorAt t (absCol t (arg c - 1)) t.cursor.row) (absCol_lt hc _)]
      rfl
    · exact .inr (shape_at (absCol_lt hc _) (absRow_lt hr hbot _))
  case cuu n =>
    constructor
    · exact cursorUp_eq hc _
    · exact .inr (shape_at (realCol_lt hc) (up_lt hrow htop _))
  case decrst ms =>
    constructor
    · simp only [Bool.and_eq_true, Bool.not_eq_true'] at hf
      simp only [Terminal.execute, moveSpec, decrst_origins ms t hc hf.2, hf.1]
      rfl
    · exact .inr ⟨_, _, _, rfl, hc, hr, rfl, rfl, rfl, rfl, rfl⟩
  case decset ms =>
    constructor
    · simp only [Bool.and_eq_true, Bool.not_eq_true'] at hf
      simp only [Terminal.execute, moveSpec, decset_origins ms t hc hf.2, hf.1]
      rfl
    · exact .inr ⟨_, _, _, rfl, hc, htop, rfl, rfl, rfl, rfl, rfl⟩
  case decstbm a b =>
    constructor
    · have hb : 1 ≤ asUsize b t.rows := asUsize_pos b hr
      simp only [Terminal.execute, Terminal.decstbm, moveSpec, newMargins, csub_eq_some hb]
      simp only [asUsize, arg]
      by_cases hcond : (if a = 0 then 1 else a) - 1 < (if b = 0 then t.rows else b) - 1
          ∧ (if b = 0 then t.rows else b) - 1 < t.rows
      · simp only [hcond.1, hcond.2, and_self, if_true]
        exact home_eq hc
      · simp only [hcond, if_false]
        exact home_eq hc
    · refine .inr ⟨_, _, _, rfl, hc, ?_, rfl, rfl, rfl, rfl, rfl⟩
      split
      · exact newMargins_fst_lt htop a b
      · exact hr
  case ht =>
    constructor
    · exact tab_bridge h .ht rfl rfl
    · exact .inr (shape_at (htab _) hrow)
  case lf =>
    constructor
    · have hne : t.cursor.row ≠ t.bottomMargin := bne_iff_ne.1 hf
      simp only [Terminal.execute, Terminal.lf, moveSpec, downWithScroll_eq hc hr hne, Option.map_some]
      have : (oneDown t).newLineMode = t.newLineMode := by unfold oneDown; split <;> rfl
      rw [this]
      split <;> rfl
    · have e : moveSpec t .lf
          = if t.newLineMode = true then cursorAt (oneDown t) 0 (oneDown t).cursor.row else oneDown t := rfl
      rw [e]
      by_cases hl : t.cursor.row < lastRow t
      · rw [oneDown_of_lt hl]
        split
        · exact .inr (shape_at hc (hdown hl))
        · exact .inr (shape_at (realCol_lt hc) (hdown hl))
      · rw [oneDown_of_not_lt hl]
        split
        · exact .inr (shape_at hc hrow)
        · exact .inl rfl
  case nel =>
    constructor
    · have hne : t.cursor.row ≠ t.bottomMargin := bne_iff_ne.1 hf
      simp only [Terminal.execute, Terminal.nel, moveSpec, downWithScroll_eq hc hr hne, Option.map_some]
      rfl
    · have e : moveSpec t .nel = cursorAt (oneDown t) 0 (oneDown t).cursor.row := rfl
      rw [e]
      by_cases hl : t.cursor.row < lastRow t
      · rw [oneDown_of_lt hl]
        exact .inr (shape_at hc (hdown hl))
      · rw [oneDown_of_not_lt hl]
        exact .inr (shape_at hc hrow)
  case ri =>
    constructor
    · have hne : t.cursor.row ≠ t.topMargin := bne_iff_ne.1 hf
      simp only [Terminal.execute, Terminal.ri, moveSpec, hne, if_false]
      split
      · rw [toRow_eq hc]
      · rfl
    · simp only [moveSpec]
      split
      · exact .inr (shape_at (realCol_lt hc) (Nat.lt_of_le_of_lt (Nat.sub_le ..) hrow))
      · exact .inl rfl
  case vpa n =>
    constructor
    · exact moveToRow_eq hc hr _
    · exact .inr (shape_at (realCol_lt hc) (absRow_lt hr hbot _))
  case vpr n =>
    constructor
    · exact cursorDown_eq hc hr _
    · exact .inr (shape_at (realCol_lt hc) (down_lt hr hbot _))

/-- every pure cursor command does exactly what `moveSpec` says -/
theorem C05_move {t : Terminal} {f : Function} (h : TInv t = true) (hf : covered t f = true) :
    t.execute f = some (moveSpec t f) := (covered_spec h hf).1

/-- the same at the level of `Vt::feed`: a character that completes a pure cursor command leaves the
    terminal exactly as `moveSpec` says (and the parser as the parser says) -/
theorem C05_feed {v : Vt} {c : Nat} {p : Parser} {f : Function} (h : TInv v.terminal = true)
    (hp : v.parser.feed c = some (p, some f)) (hf : covered v.terminal f = true) :
    v.feed c = some { parser := p, terminal := moveSpec v.terminal f } := by
  simp only [Vt.feed, hp, C05_move h hf, Option.map_some]

theorem moveSpec_frame {t : Terminal} {f : Function} (h : TInv t = true) (hf : covered t f = true) :
    (moveSpec t f).buffer = t.buffer ∧ (moveSpec t f).otherBuffer = t.otherBuffer
      ∧ (moveSpec t f).dirtyLines = t.dirtyLines := by
  rcases (covered_spec h hf).2 with e | ⟨s, c, r, e, -, -, -, -, hb, ho, hd⟩
  · rw [e]; exact ⟨rfl, rfl, rfl⟩
  · rw [e]; exact ⟨hb, ho, hd⟩

/-- none of these commands changes any cell (of either screen), nor the scrollback -/
theorem C05_no_cell_changes {t t' : Terminal} {f : Function} (h : TInv t = true)
    (hf : covered t f = true) (he : t.execute f = some t') :
    t'.buffer = t.buffer ∧ t'.otherBuffer = t.otherBuffer := by
  rw [C05_move h hf] at he
  cases he
  exact ⟨(moveSpec_frame h hf).1, (moveSpec_frame h hf).2.1⟩

/-- the cursor stays on the screen: a row of the screen, a column of the screen or the wrap-pending
    column with the flag set -/
theorem C05_stays_on_screen {t t' : Terminal} {f : Function} (h : TInv t = true)
    (hf : covered t f = true) (he : t.execute f = some t') :
    t'.rows = t.rows ∧ t'.cols = t.cols ∧ t'.cursor.row < t'.rows
      ∧ ((t'.pendingWrap = true ∧ t'.cursor.col = t'.cols) ∨ (t'.pendingWrap = false ∧ t'.cursor.col < t'.cols)) := by
  rw [C05_move h hf] at he
  cases he
  have T := TOK.of_TInv h
  rcases (covered_spec h hf).2 with e | ⟨s, c, r, e, hc, hr, h1, h2, -, -, -⟩
  · rw [e]; exact ⟨rfl, rfl, T.crow, T.ccol⟩
  · rw [e]; exact ⟨h1, h2, h1.symm ▸ hr, .inr ⟨rfl, h2.symm ▸ hc⟩⟩

/-- RI off the top margin moves the cursor up exactly one row (not past row 0) whatever the origin
    mode: the resulting position does not depend on `originMode` -/
theorem C05_ri_independent_of_origin {t : Terminal} (h : TInv t = true)
    (hne : t.cursor.row ≠ t.topMargin) (o : Bool) :
    (({ t with originMode := o } : Terminal).execute .ri).map (fun s => (s.cursor, s.pendingWrap))
      = (t.execute .ri).map (fun s => (s.cursor, s.pendingWrap))
    ∧ ∀ t', t.execute .ri = some t' → t'.cursor.row = t.cursor.row - 1 := by
  have h' : TInv ({ t with originMode := o } : Terminal) = true := h
  have c : covered t .ri = true := bne_iff_ne.2 hne
  have c' : covered ({ t with originMode := o } : Terminal) .ri = true := c
  rw [C05_move h c, C05_move h' c']
  refine ⟨?_, ?_⟩
  · simp only [moveSpec, Option.map_some]
    split <;> rfl
  · intro t' he
    cases he
    simp only [moveSpec]
    split
    · rfl
    · show t.cursor.row = t.cursor.row - 1; omega

/-- the rows `up` and `down` of the specification (`Spec.C05`, through which `moveSpec` states the
    relative vertical moves) in words: exactly `n` rows (`n` = the parameter, missing or 0 meaning 1)
    when there is room, otherwise the margin (or the screen edge when starting outside the region);
    a move that starts inside the region ends inside it -/
theorem C05_vertical {t : Terminal} (h : TInv t = true) (n : Nat) :
    (t.topMargin ≤ t.cursor.row → t.topMargin + arg n ≤ t.cursor.row → up t (arg n) = t.cursor.row - arg n)
    ∧ (t.topMargin ≤ t.cursor.row → t.cursor.row < t.topMargin + arg n → up t (arg n) = t.topMargin)
    ∧ (t.cursor.row < t.topMargin → up t (arg n) = t.cursor.row - arg n)
    ∧ (t.cursor.row ≤ t.bottomMargin → t.cursor.row + arg n ≤ t.bottomMargin → down t (arg n) = t.cursor.row + arg n)
    ∧ (t.cursor.row ≤ t.bottomMargin → t.bottomMargin < t.cursor.row + arg n → down t (arg n) = t.bottomMargin)
    ∧ (t.bottomMargin < t.cursor.row → down t (arg n) = min (t.rows - 1) (t.cursor.row + arg n))
    ∧ (t.topMargin ≤ t.cursor.row → t.cursor.row ≤ t.bottomMargin →
        t.topMargin ≤ up t (arg n) ∧ up t (arg n) ≤ t.bottomMargin
          ∧ t.topMargin ≤ down t (arg n) ∧ down t (arg n) ≤ t.bottomMargin) := by
  have htb := (TOK.of_TInv h).marg.1
  refine ⟨fun h1 h2 => ?_, fun h1 h2 => ?_, fun h1 => up_of_lt h1 _, fun h1 h2 => ?_, fun h1 h2 => ?_,
    fun h1 => down_of_gt h1 _, fun h1 h2 => ?_⟩
  · rw [up_of_ge h1]; exact Nat.max_eq_right (Nat.le_sub_of_add_le h2)
  · rw [up_of_ge h1]; exact Nat.max_eq_left (Nat.sub_le_of_le_add (Nat.le_of_lt h2))
  · rw [down_of_le h1]; exact Nat.min_eq_right h2
  · rw [down_of_le h1]; exact Nat.min_eq_left (Nat.le_of_lt h2)
  · rw [up_of_ge h1, down_of_le h2]
    exact ⟨Nat.le_max_left .., Nat.max_le.2 ⟨htb, Nat.le_trans (Nat.sub_le ..) h2⟩,
      Nat.le_min.2 ⟨htb, Nat.le_trans h1 (Nat.le_add_right ..)⟩, Nat.min_le_left ..⟩

/-- the row `absRow` of the specification (through which `moveSpec` states absolute addressing) in
    words: 1-based coordinates clamped to the screen, or — in origin mode —
    relative to and clamped within the scroll region -/
theorem C05_absolute {t : Terminal} (h : TInv t = true) (r : Nat) :
    (t.originMode = false → absRow t (arg r - 1) = min (arg r - 1) (t.rows - 1))
    ∧ (t.originMode = true → absRow t (arg r - 1) = min (t.topMargin + (arg r - 1)) t.bottomMargin
        ∧ t.topMargin ≤ absRow t (arg r - 1) ∧ absRow t (arg r - 1) ≤ t.bottomMargin) := by
  unfold absRow lastRow
  refine ⟨fun ho => ?_, fun ho => ?_⟩
  · rw [ho, if_neg Bool.false_ne_true]
  · rw [ho, if_pos rfl]
    exact ⟨rfl, Nat.le_min.2 ⟨Nat.le_add_right .., (TOK.of_TInv h).marg.1⟩, Nat.min_le_right ..⟩

/-! ### the hypotheses are satisfiable on a non-trivial state -/

/-- 10×6, scroll region rows 1..3, origin mode on, cursor in the wrap-pending column of row 4
    (below the region), a customised stop vector -/
def C05_example : Terminal :=
  { cols := 10, rows := 6, buffer := Buffer.new 10 6 none none, otherBuffer := Buffer.new 10 6 (some 0) none,
    activeBufferType := .primary, scrollbackLimit := none, cursor := { col := 10, row := 4 }, pen := {},
    charsets := (.ascii, .ascii), activeCharset := 0, tabs := [3, 8], insertMode := false,
    originMode := true, autoWrapMode := true, newLineMode := false, cursorKeysMode := .normal,
    pendingWrap := true, topMargin := 1, bottomMargin := 3, savedCtx := {}, alternateSavedCtx := {},
    dirtyLines := Dirty.new 6, xtwinops := false }

example : TInv C05_example = true ∧ covered C05_example (.cuu 0) = true ∧ covered C05_example .ri = true
    ∧ covered C05_example (.cup 9 9) = true ∧ covered C05_example (.decrst [.origin]) = true
    ∧ (moveSpec C05_example (.cuu 9)).cursor = { col := 9, row := 1 }      -- stops at the top margin
    ∧ (moveSpec C05_example (.cud 9)).cursor = { col := 9, row := 5 }      -- starts below the region
    ∧ (moveSpec C05_example (.cub 2)).cursor = { col := 7, row := 4 }      -- counted from the last real column
    ∧ (moveSpec C05_example (.cup 9 9)).cursor = { col := 8, row := 3 }    -- clamped within the region
    ∧ (moveSpec C05_example .ri).cursor = { col := 9, row := 3 }
    ∧ (moveSpec C05_example (.cbt 1)).cursor = { col := 8, row := 4 } := by
  decide

/-! ### origin mode is state: only DECSET / DECRST ?6, the restores and the resets change it -/

/-- **Function level.**  A function for which `setsOrigin` is false — anything but DECSET / DECRST ?6,
    DECRC / SCORC / DECRST ?1048 / ?1049 (origin mode is part of the saved context), DECSTR and RIS —
    leaves origin mode exactly as it was: every terminal state, every geometry, no invariant needed.
    In particular every cursor movement and placement, DECSTBM (which homes the cursor *according to*
    origin mode but does not change it), every other mode, saving the cursor, entering the alternate
    screen (?47h / ?1047h / ?1049h), leaving it with ?47l / ?1047l, and XTWINOPS. -/
theorem C05_origin_persists {t t' : Terminal} {f : Function} (hf : setsOrigin f = false)
    (h : t.execute f = some t') : t'.originMode = t.originMode :=
  Avt.C05O.kept.step hf h

/-- **Call level.**  If none of the functions the parser emits for the input (from the parser state
    the call starts in) sets origin mode, then the fold of `execute` over them, `Vt.feedAll`,
    `Vt::feed_str` (which ends with `changes()` + `gc()`) and per-character `Vt::feed` all leave origin
    mode as it was.  This is the clause `origin-mode-persists` of the oracle (`Spec.C05.checkStep`). -/
theorem C05_origin_persists_feed {v : Vt} {xs : List Nat}
    (hf : ∀ f ∈ Frame.emitted v.parser xs, setsOrigin f = false) :
    (∀ t', Terminal.foldM' Terminal.execute (Frame.emitted v.parser xs) v.terminal = some t' →
        t'.originMode = v.terminal.originMode)
    ∧ (∀ v', v.feedAll xs = some v' → v'.terminal.originMode = v.terminal.originMode)
    ∧ (∀ v' ch, v.feedStr xs = some (v', ch) → v'.terminal.originMode = v.terminal.originMode)
    ∧ (∀ c v', xs = [c] → v.feed c = some v' → v'.terminal.originMode = v.terminal.originMode) :=
  ⟨fun _ h => Avt.C05O.kept.many hf h,
   fun _ h => Avt.C05O.kept.feedAll xs hf h,
   fun _ _ h => Avt.C05O.kept.feedStr hf h,
   fun _ _ e h => Avt.C05O.kept.feed (by rw [← e]; exact hf) h⟩

/-- **Resize.**  `Vt::resize` (and `Terminal.resize`, which XTWINOPS performs) moves tab stops, resets
    the margins on a height change and reflows; origin mode is as before — the oracle's clause
    `resize-keeps-origin-mode`. -/
theorem C05_origin_persists_resize {v v' : Vt} {ch : Changes} {cols rows : Nat}
    (h : v.resize cols rows = some (v', ch)) : v'.terminal.originMode = v.terminal.originMode :=
  Avt.C05O.kept.vtResize Avt.C05O.resize_om h

/-! the hypotheses are satisfiable: a 6x5 terminal gets region rows 1..3 (`CSI 2;4 r`) and origin mode
    on (`CSI ?6 h`); then it saves the cursor and enters the alternate screen (`CSI ?1049 h`), sets
    other margins (`CSI 1;2 r`), places the cursor (`CSI 9;9 H` — clamped within the region, because
    origin mode is still on), leaves the alternate screen with `CSI ?1047 l`, and is resized (4x3, a
    height change, which resets the region): none of the emitted functions sets origin mode, and it is
    still on -/

private def exSetup : List Nat := [0x1b, 0x5b, 0x32, 0x3b, 0x34, 0x72, 0x1b, 0x5b, 0x3f, 0x36, 0x68]

private def exQuiet : List Nat :=
  [0x1b, 0x5b, 0x3f, 0x31, 0x30, 0x34, 0x39, 0x68, 0x1b, 0x5b, 0x31, 0x3b, 0x32, 0x72,
   0x1b, 0x5b, 0x39, 0x3b, 0x39, 0x48, 0x1b, 0x5b, 0x3f, 0x31, 0x30, 0x34, 0x37, 0x6c]

private def exOrigin : Option (Vt × Vt × Vt) := do
  let v ← Vt.new 6 5 none
  let (v0, _) ← v.feedStr exSetup
  let (v1, _) ← v0.feedStr exQuiet
  let (v2, _) ← v1.resize 4 3
  pure (v0, v1, v2)

example : ∃ v0 v1 v2, exOrigin = some (v0, v1, v2)
    ∧ (v0.terminal.originMode, v0.terminal.topMargin, v0.terminal.bottomMargin) = (true, 1, 3)
    ∧ Frame.emitted v0.parser exQuiet
        = [.decset [.saveCursorAltScreenBuffer], .decstbm 1 2, .cup 9 9, .decrst [.altScreenBuffer]]
    ∧ (Frame.emitted v0.parser exQuiet).all (fun f => !setsOrigin f) = true
    ∧ v1.terminal.activeBufferType = .primary
    ∧ (v1.terminal.topMargin, v1.terminal.bottomMargin) = (0, 1)
    ∧ v1.terminal.cursor = { col := 5, row := 1 }
    ∧ v1.terminal.originMode = true
    ∧ (v2.terminal.cols, v2.terminal.rows, v2.terminal.topMargin, v2.terminal.bottomMargin) = (4, 3, 0, 2)
    ∧ v2.terminal.originMode = true := by
  refine ⟨_, _, _, rfl, ?_⟩
  decide

end Avt
