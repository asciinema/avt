/-
  Avt.Props.C15 — changed-line reports are sound: `feed_str` returns a `Changes.lines` that contains
  every visible row whose cells differ between the start and the end of the call (`C15_sound`), and so
  does `resize` (`C15_sound_resize`); for all states, all sizes, every `Function`.

  Vocabulary (Avt/Spec/C15.lean, the definitions the oracle evaluates): `rowCells`, `rowChanged`,
  `changedRows`, `reportSound`, `flagged`, `dirtyMono`, `dirtySound`.

  The proof goes through `StepD` (Avt/Lemmas/C15Step.lean), kept by every call into the buffer that a
  drawing function makes (`Paint`, Avt/Lemmas/Paint.lean: the call and the `dirty_lines.add/extend` that
  follows it are one step); `Pre` (three clauses of `TInv`: `buffer.rows = rows`,
  one flag per row, `xtwinops` off) is all that is needed of the invariant and is itself preserved.
-/
import Avt.Lemmas.C15Step
import Avt.Lemmas.BufferGc
import Avt.Lemmas.Run
import Avt.Lemmas.InvDef

namespace Avt.Props.C15
open Avt Avt.Spec.C15 Avt.C15

theorem pre_of_tinv {t : Terminal} (h : TInv t = true) : Pre t :=
  let k := TOK.of_TInv h
  ⟨k.brows, k.dirty, k.xt⟩

theorem flagged_iff (t : Terminal) (i : Nat) : flagged t i = true ↔ Flagged t.dirtyLines i := by
  simp [flagged, Flagged]

/-- the step relation in the oracle's vocabulary -/
theorem spec_of_step {t t' : Terminal} (p : Pre t) (h : StepD t t') :
    dirtyMono t t' = true ∧ dirtySound t t' = true := by
  constructor
  · simp only [dirtyMono, Bool.or_eq_true, bne_iff_ne, ne_eq, List.all_eq_true, List.mem_range,
      Bool.not_eq_true', ← Bool.not_eq_true, flagged_iff]
    refine .inr fun i _ => ?_
    by_cases hf : Flagged t.dirtyLines i
    · exact .inr (h.keep i hf)
    · exact .inl hf
  · simp only [dirtySound, changedRows_all, flagged_iff]
    intro i hi hne
    exact h.sound i (by rw [p.brows, ← h.rows]; exact hi) hne

/-- Every function keeps every flag that is set and flags every row whose cells it
    changes.  All constructors of `Function` are covered. -/
theorem C15_step {t t' : Terminal} {f : Function} (hinv : TInv t = true) (h : t.execute f = some t') :
    dirtyMono t t' = true ∧ dirtySound t t' = true :=
  spec_of_step (pre_of_tinv hinv) (step_execute (pre_of_tinv hinv) h)

/-- the step relation along the function stream of an input string -/
theorem step_feedAll {s : List Nat} {v v' : Vt} (p : Pre v.terminal) (h : v.feedAll s = some v') :
    StepD v.terminal v'.terminal :=
  Terminal.foldM'_inv (fun x => StepD v.terminal x)
    (fun _ _ _ _ hb hs => hb.trans (step_execute (hb.pre p) hs)) (.refl _) (Run.feedAll_emitted h).2

/-- Feeding any string character by character (`Vt::feed`, no `changes()`): no flag
    is cleared and every row whose cells differ from the start is flagged. -/
theorem C15_feedAll {s : List Nat} {v v' : Vt} (hinv : TInv v.terminal = true)
    (h : v.feedAll s = some v') :
    dirtyMono v.terminal v'.terminal = true ∧ dirtySound v.terminal v'.terminal = true :=
  spec_of_step (pre_of_tinv hinv) (step_feedAll (pre_of_tinv hinv) h)

/-- `changes()` reports exactly the flagged rows. -/
theorem C15_reported_iff (t : Terminal) (i : Nat) : i ∈ t.changes.2 ↔ flagged t i = true := by
  rw [flagged_iff]; exact Dirty.mem_toVec _ _

theorem finish_view (v : Vt) :
    v.finish.1.terminal.buffer.view = v.terminal.buffer.view ∧ v.finish.1.terminal.rows = v.terminal.rows
      ∧ v.finish.2.lines = Dirty.toVec v.terminal.dirtyLines :=
  ⟨(Frame.gc_view _).1, rfl, rfl⟩

/-- Every visible row whose cells differ between the start and the end of a
    `feed_str` call is contained in the `Changes.lines` the call returns. -/
theorem C15_sound {s : List Nat} {v v' : Vt} {ch : Changes} (hinv : TInv v.terminal = true)
    (h : v.feedStr s = some (v', ch)) : reportSound v.terminal v'.terminal ch.lines = true := by
  obtain ⟨v1, h1, e⟩ := Vt.feedStr_eq_some.1 h
  have e1 : v' = v1.finish.1 := by rw [e]
  have e2 : ch = v1.finish.2 := by rw [e]
  obtain ⟨f1, f2, f3⟩ := finish_view v1
  have p := pre_of_tinv hinv
  have st := step_feedAll p h1
  rw [reportSound_iff]
  intro i hi hne
  rw [e2, f3, Dirty.mem_toVec]
  rw [e1, f2] at hi
  have hne' : cellsAt v1.terminal.buffer i ≠ cellsAt v.terminal.buffer i := by
    intro heq; apply hne
    simp only [rowCells, e1, f1]
    exact heq
  exact st.sound i (by rw [p.brows, ← st.rows]; exact hi) hne'

/-- `resize` reports every row of the new screen; in particular every row whose
    cells changed or that did not exist before.  No hypothesis on the state is needed. -/
theorem C15_sound_resize {v v' : Vt} {c r : Nat} {ch : Changes} (h : v.resize c r = some (v', ch)) :
    (∀ i, i < v'.terminal.rows → i ∈ ch.lines) ∧ reportSound v.terminal v'.terminal ch.lines = true := by
  obtain ⟨t1, h1, e1, f3⟩ := Vt.resize_terminal h
  have hall : ∀ i, i < t1.rows → Flagged t1.dirtyLines i := by
    rw [Terminal.resize_eq] at h1
    obtain ⟨a1, _, _, _, a5⟩ := reflow_all h1
    exact fun i hi => a5 i (a1 ▸ hi)
  have hrep : ∀ i, i < v'.terminal.rows → i ∈ ch.lines := by
    intro i hi
    rw [f3, Dirty.mem_toVec]
    rw [e1] at hi
    exact hall i hi
  refine ⟨hrep, ?_⟩
  exact (reportSound_iff _ _ _).2 fun i hi _ => hrep i hi

/-- 5×3 terminal with text, flags cleared (as after a `feed_str`) -/
def exV : Vt :=
  let v := (Vt.new 5 3 (some 2)).getD default
  ((v.feedStr [0x61, 0x62, 0x0d, 0x0a, 0x63]).getD (default, default)).1

/-- "ESC [ 2 ; 2 H x ESC [ 1 J" then LF LF (scrolls): rows 0, 1, 2 change -/
def exInput : List Nat := [0x1b, 0x5b, 0x32, 0x3b, 0x32, 0x48, 0x78, 0x1b, 0x5b, 0x31, 0x4a, 0x0a, 0x0a, 0x79]

example : TInv exV.terminal = true ∧ exV.terminal.dirtyLines = [false, false, false] := by decide +kernel

example : ∃ v' ch, exV.feedStr exInput = some (v', ch)
    ∧ changedRows exV.terminal v'.terminal = [0, 1, 2] ∧ ch.lines = [0, 1, 2]
    ∧ reportSound exV.terminal v'.terminal ch.lines = true := by
  have h : (exV.feedStr exInput).any (fun r => decide (changedRows exV.terminal r.1.terminal = [0, 1, 2])
      && decide (r.2.lines = [0, 1, 2]) && reportSound exV.terminal r.1.terminal r.2.lines) = true := by
    decide +kernel
  obtain ⟨⟨v', ch⟩, hs, hp⟩ := (Option.any_eq_true _ _).1 h
  simp only [Bool.and_eq_true, decide_eq_true_eq] at hp
  exact ⟨v', ch, hs, hp.1.1, hp.1.2, hp.2⟩

/-- a call that changes one row only reports (at least) that row -/
example : ∃ v' ch, exV.feedStr [0x7a] = some (v', ch)
    ∧ changedRows exV.terminal v'.terminal = [1] ∧ ch.lines = [1] := by
  have h : (exV.feedStr [0x7a]).any (fun r => decide (changedRows exV.terminal r.1.terminal = [1])
      && decide (r.2.lines = [1])) = true := by decide +kernel
  obtain ⟨⟨v', ch⟩, hs, hp⟩ := (Option.any_eq_true _ _).1 h
  simp only [Bool.and_eq_true, decide_eq_true_eq] at hp
  exact ⟨v', ch, hs, hp.1, hp.2⟩

end Avt.Props.C15
