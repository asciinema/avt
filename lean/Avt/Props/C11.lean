/-
  Avt.Props.C11 — dump() reproduces the terminal for all future input.

  The property (stated with the definitions of Avt/Spec/C11.lean, which the oracle evaluates on the
  implementation): feeding `dump()` of a terminal to a fresh terminal of the same size restores it up to the
  normal form `normD`, which erases what no future input can observe; hence original and restored show the
  same through the public API (`obs`: view cells, pens, wrap marks, cursor, cursor-key mode), at once and
  after every continuation.  `C11_holds` is this for every REACHABLE state outside the known findings.  It is
  made of a restore half, `C11_dump_full''_holds` (`restoreOf s = some r` with `normD r = normD s`), and a
  continuation half, `obs_feedAll_of_restore` of Avt/Lemmas/C11SoundVt.lean (the state and its restore are
  `Good`, and `Good` states with equal normal forms keep them under every input: `norm_sound_feedAll`),
  joined by `C11_from_dump_full''`.  `C11_norm_sound'_holds` is the one-character step of the continuation
  half, stated by itself.

  Left out, each as a hypothesis of `C11_holds`: KF2 `resizedOnAlt` (resized while the alternate screen is
  showing: leaving it reflows the parked primary and reads its scrollback; the exception the property names),
  KF1 / KF3 `cursorStepFaithful` (`CSI u` in step 9 of `dump()` restores other modes, or the relative moves
  after it stop at a margin), KF6 `sizeExceedsU16` (`cols ≥ 65535` or `rows > 65535`: numbers written by
  `dump()` are read back modulo 2^16), KF7 `parkedCtxExceedsU16` (the same for the parked saved position of
  the alternate screen, which no resize clamps).  On those states the oracle classifies the difference and
  checks that it is confined to what the finding can disturb.

  Statements with fewer of these hypotheses, and what refutes them.  `C11_norm_sound` (no KF2):
  `C11_norm_sound_false`.  `C11_dump_full'` (no KF7): `C11_dump_full'_false_of_witness` here, applied to the
  state of `kf7Hist` by `C11_dump_full'_false` in Avt/Lemmas/C11KF7.lean, which imports this file and is
  imported by nothing.  `C11_dump_full` (no KF6, no KF7) asks for more than `C11_dump_full'`; neither its
  negation nor a witness of KF6 is stated in Lean (DESIGN.md §11, known/KF6.script).  `KF1_witness`,
  `KF2_witness`, `KF3_witness` evaluate the whole model in the kernel on the witnesses of KF1–KF3: there the
  conclusion of `C11_holds` fails.
-/
import Avt.Lemmas.C11Pen
import Avt.Lemmas.C11ParserNorm
import Avt.Lemmas.C11Witness
import Avt.Lemmas.C11Blank
import Avt.Lemmas.C11SoundVt
import Avt.Lemmas.C11Full

namespace Avt.Props.C11
open Avt Avt.Spec.C11 Avt.Lemmas.C11

/-- **C11, restore half, with the exceptions KF1/KF2/KF3 only.**  It asks for more than `C11_dump_full'`,
    which is refuted; that it fails beyond the KF6 size bound (DESIGN.md §11) is not stated in Lean.  The
    statement that holds is `C11_dump_full''`. -/
def C11_dump_full : Prop :=
  ∀ s : Vt, Lemmas.C11.Reach s → resizedOnAlt s.terminal = false → cursorStepFaithful s.terminal = true →
    ∃ r, restoreOf s = some r ∧ normD r = normD s

/-- **C11, continuation half, without exception.**  Equality of normal forms is preserved by every further
    character (and the two sides panic together).  FALSE for states resized on the alternate screen
    (`C11_norm_sound_false`); the statement that holds is `C11_norm_sound'`. -/
def C11_norm_sound : Prop :=
  ∀ a b : Vt, Lemmas.C11.Reach a → Lemmas.C11.Reach b → normD a = normD b →
    ∀ c : Nat, (a.feed c).map normD = (b.feed c).map normD

theorem C11_feedAll_append (v : Vt) (xs ys : List Nat) :
    v.feedAll (xs ++ ys) = (v.feedAll xs).bind (fun v' => v'.feedAll ys) :=
  Lemmas.C19.feedAll_append v xs ys

/-- what `format!("{}", n)` prints consists of digits, at least one, and reads back to `n` -/
theorem C11_renderDec_roundtrip (n : Nat) :
    parseDec (renderDec n) = n ∧ renderDec n ≠ [] ∧ ∀ d ∈ renderDec n, 0x30 ≤ d ∧ d ≤ 0x39 :=
  ⟨parseDec_renderDec n, by rw [renderDec_eq_digits]; exact digits_ne_nil n, renderDec_isDigit n⟩

/-- **`Parser.dump` round trip (all 14 states).**  Feeding `Parser.dump p` to any parser resting in `Ground`
    emits no function and yields `p` up to dead registers. -/
theorem C11_parser_dump (p q0 : Parser) (hinv : PInv p = true) (hreg : PRegOK p = true)
    (hG : q0.state = .Ground) (hP : PInv q0 = true) :
    ∃ d q, p.dump = some d ∧ pfeedAll q0 d = some (q, []) ∧ normP q = normP p :=
  parser_dump p q0 hinv hreg hG hP

/-- the same at `Vt` level: the terminal is not touched at all -/
theorem C11_parser_dump_vt (p : Parser) (v : Vt) (hinv : PInv p = true) (hreg : PRegOK p = true)
    (hG : v.parser.state = .Ground) (hP : PInv v.parser = true) :
    ∃ d v', p.dump = some d ∧ v.feedAll d = some v' ∧ v'.terminal = v.terminal
      ∧ normP v'.parser = normP p := by
  obtain ⟨d, q, hd, hf, hn⟩ := parser_dump p v.parser hinv hreg hG hP
  exact ⟨d, { v with parser := q }, hd, feedAll_of_silent v d q hf, rfl, hn⟩

/-- **numeric CSI sequences.**  For every parameter list `A` (≤ 32 parameters of ≤ 6 parts `< 65536`)
    and final byte, `CSI` + `A` rendered as `p;p:q;…` + final: the registers hold exactly `A` when the
    final byte dispatches, and the parser is back in `Ground`. -/
theorem C11_csi_roundtrip (q0 : Parser) (hG : q0.state = .Ground) (hP : PInv q0 = true)
    (A : Regs) (hA : RegsOK A) (fin : Nat) (h1 : 64 ≤ fin) (h2 : fin ≤ 126) :
    pfeedAll q0 (0x9b :: renderAll A ++ [fin])
      = (Parser.csiDispatch (conc .Ground none A) fin).map fun f => (conc .Ground none A, f.toList) := by
  rw [show 0x9b :: renderAll A ++ [fin] = [0x9b] ++ (renderAll A ++ [fin]) from rfl,
    pfeed_csi hP (.inr rfl) hA h1 h2, Avt.ParserSem.csiDispatch_eq (PInv_conc _ _ _ hA), written_conc _ _ hA]
  rfl

/-- **`Pen::dump`, parameter level.**  The parameter list `Pen::dump` writes decodes (`SgrOps`) to
    operations that turn ANY pen into the dumped pen. -/
theorem C11_pen_dump (p : Pen) (h : PenOK p) :
    ∃ ops, Parser.sgrOps ((penRegs p).map encParam) = some ops
      ∧ ∀ q : Pen, ops.foldl Terminal.applySgr q = p :=
  ⟨penOps p, sgrOps_penRegs p h, fun q => apply_penOps p q h⟩

/-- **`Pen::dump`, character level.**  Feeding the characters of `Pen.dump p` to a parser resting in
    `Ground` emits exactly one `Sgr` function, leaves the parser in `Ground`, and executing that
    function on a terminal with ANY pen sets the pen to `p` (and nothing else). -/
theorem C11_pen_dump_chars (p : Pen) (h : PenOK p) (q0 : Parser) (hG : q0.state = .Ground)
    (hP : PInv q0 = true) :
    ∃ d q ops, p.dump = some d ∧ pfeedAll q0 d = some (q, [Function.sgr ops]) ∧ q.state = .Ground
      ∧ ∀ t : Terminal, t.execute (.sgr ops) = some { t with pen := p } := by
  obtain ⟨d, q, hd, hf, hq, hops⟩ := pfeed_pen_dump p h q0 hP
  exact ⟨d, q, penOps p, hd, hf, hq, fun t => by simp [Terminal.execute, Terminal.sgr, hops]⟩

/-- **C11, restore half, for power-on screens**: the terminal `Vt::new` builds, of ANY size `≥ 1x1` (no KF6
    bound) and ANY scrollback limit, but with an ARBITRARY pen and the parser in ANY of its 14 states with
    arbitrary register contents, e.g. cut inside `CSI ?25;1:2`. -/
theorem C11_dump_blank_partial (cols rows : Nat) (lim : Option Nat) (pen : Pen) (p : Parser)
    (hc : 1 ≤ cols) (hr : 1 ≤ rows) (hpen : PenOK pen) (hinv : PInv p = true) (hreg : PRegOK p = true) :
    ∃ r, restoreOf { parser := p, terminal := blankT cols rows lim pen } = some r
      ∧ normD r = normD { parser := p, terminal := blankT cols rows lim pen } :=
  restore_blank cols rows lim pen p hc hr hpen hinv hreg

/-- `blankT` with the default pen is what `Vt::new` builds -/
theorem C11_blankT_new (cols rows : Nat) (lim : Option Nat) (hr : 1 ≤ rows) :
    Vt.new cols rows lim = some { parser := Parser.new, terminal := blankT cols rows lim {} } :=
  Vt.new_eq_some_iff.2 ⟨hr, rfl⟩

/-- equal normal forms show the same through the public API -/
theorem C11_norm_obs (a b : Vt) (h : normD a = normD b) : obs a = obs b := norm_obs h

/-- **normal-form soundness, partial**: for the functions that touch no buffer (cursor movement and
    addressing, tab stops, ANSI and non-alternate-screen DEC modes, SGR, character sets, save/restore
    cursor, margins, soft reset) terminals with equal normal forms stay so, and panic together. -/
theorem C11_norm_sound_step_partial (f : Function) (hf : simpleFn f = true) (s t : Terminal)
    (e : normT s = normT t) : (s.execute f).map normT = (t.execute f).map normT :=
  norm_sound_execute f hf s t e

/-- **normal-form soundness of the parser** (every character, every state): two parsers which agree
    up to dead registers (`normP`) emit the same function — or panic together — and agree afterwards. -/
theorem C11_normP_sound (a b : Parser) (ha : PInv a = true) (hb : PInv b = true) (ra : PRegOK a = true)
    (rb : PRegOK b = true) (h : normP a = normP b) (c : Nat) :
    (a.feed c).map (fun r => (normP r.1, r.2)) = (b.feed c).map (fun r => (normP r.1, r.2)) :=
  nstep_eq ⟨ha, hb, ra, rb, h⟩ c

/-- **normal-form soundness, one character, partial**: any parser state; the character may emit
    nothing or any function that touches no buffer. -/
theorem C11_norm_sound_feed_partial (a b : Vt) (ha : PInv a.parser = true) (hb : PInv b.parser = true)
    (ra : PRegOK a.parser = true) (rb : PRegOK b.parser = true) (h : normD a = normD b) (c : Nat)
    (hsimple : ∀ p' f, a.parser.feed c = some (p', some f) → simpleFn f = true) :
    (a.feed c).map normD = (b.feed c).map normD :=
  norm_sound_feed a b ⟨ha, hb, ra, rb, congrArg Vt.parser h⟩ (congrArg Vt.terminal h) c hsimple

theorem C11_reach_feedAll {s s' : Vt} (h : Lemmas.C11.Reach s) (xs : List Nat) (hf : s.feedAll xs = some s') :
    Lemmas.C11.Reach s' := h.feedAll xs hf

/-- VACUOUS: `hs` is refuted by `C11_norm_sound_false`, and `hd` implies `C11_dump_full'`, refuted by
    `C11_dump_full'_false` (Lemmas/C11KF7).  It shows only that the decomposition is right: two such halves
    give the property as the text words it — original and restored show the same through the public API at
    once and after every continuation input (and panic together, i.e. never — C01).  With the halves that
    hold: `C11_from_dump_full''`. -/
theorem C11_from_parts (hd : C11_dump_full) (hs : C11_norm_sound) (s : Vt) (hr : Lemmas.C11.Reach s)
    (hcols : 1 ≤ s.terminal.cols) (hrows : 1 ≤ s.terminal.rows)
    (h2 : resizedOnAlt s.terminal = false) (h1 : cursorStepFaithful s.terminal = true) :
    ∃ r, restoreOf s = some r ∧
      ∀ xs : List Nat, (s.feedAll xs).map obs = (r.feedAll xs).map obs := by
  obtain ⟨r, hrs, hn⟩ := hd s hr h2 h1
  have hrr : Lemmas.C11.Reach r := Lemmas.C11.Reach.restore hcols hrows hrs
  refine ⟨r, hrs, fun xs => ?_⟩
  exact map_obs_of_map_normD (Vt.feedAll_cong Lemmas.C11.Reach (fun xs _ _ h => h.feedAll xs)
    (fun c a b ha hb h => hs a b ha hb h c) xs s r hr hrr hn.symm)

/-- dump step 9 is faithful by definition unless origin mode is on and the cursor is parked outside
    the scroll region (the only situation in which `dump()` takes the `CSI u` route) -/
theorem C11_cursorStepFaithful_inside (t : Terminal)
    (h : t.originMode = false ∨ (t.topMargin ≤ t.cursor.row ∧ t.cursor.row ≤ t.bottomMargin)) :
    cursorStepFaithful t = true :=
  cursorStepFaithful_inside h

/-- **`Buffer::dump` round trip** (dump step 1 and, for the alternate screen, step 4): on a blank screen in
    the modes in force while the buffer part of a dump is replayed (`DMode`), feeding `Buffer.dump b` — pen
    runs as SGR sequences, runs of equal characters as `c ESC [ n b` (REP), CR LF after unwrapped rows only —
    yields a terminal whose view IS `b.view` (cells, pens, soft-wrap marks) and that differs from `t0` in
    nothing but view, cursor position, pending wrap, pen and dirty flags (`E`).  `cols ≤ 65536`: REP carries
    its count minus one in a 16-bit parameter. -/
theorem C11_buffer_dump (b : Buffer) (t0 : Terminal) (hb : BInv b = true) (hc : b.cols = t0.cols)
    (hr : b.rows = t0.rows) (hok : viewOKb b.view = true) (hcols : t0.cols ≤ 65536)
    (h0 : TInv t0 = true) (hm : DMode t0)
    (hblank : t0.buffer.view = List.replicate t0.rows (Line.blank t0.cols Pen.default))
    (hcur : t0.cursor.col = 0 ∧ t0.cursor.row = 0) (hpen : t0.pen = Pen.default) :
    ∃ d t1, b.dump = some d ∧ Feeds d t0 t1 ∧ t1.buffer.view = b.view ∧ E t1 = E t0
      ∧ TInv t1 = true ∧ DMode t1 :=
  buffer_dump b t0 hb hc hr (viewOKb_iff.1 hok) hcols h0 hm hblank hcur hpen

/-- `Feeds` is what it says at `Vt` level -/
theorem C11_feeds_iff (s : List Nat) (t t' : Terminal) :
    Feeds s t t' ↔ ∀ q : Parser, q.state = .Ground → PInv q = true →
      ∃ q', Vt.feedAll ⟨q, t⟩ s = some ⟨q', t'⟩ ∧ q'.state = .Ground ∧ PInv q' = true :=
  ⟨fun h q h1 h2 => h q ⟨h1, h2⟩, fun h q hq => h q hq.1 hq.2⟩

/-- **C11, restore half, PRIMARY screen**, over decidable hypotheses instead of reachability: the ALTERNATE
    screen's saved cursor context is in its default state (dump steps 4–6 then emit nothing; the primary
    screen's own saved context is arbitrary — step 3), and the cursor is inside the scroll region when origin
    mode is on (so `cursorStepFaithful` holds trivially).  `dump()` fed to a fresh terminal of the same size
    restores the state up to `normD`. -/
theorem C11_dump_primary_partial (s : Vt) (hinv : Inv s = true) (hreg : PRegOK s.parser = true)
    (hprim : s.terminal.activeBufferType = .primary)
    (ha : s.terminal.alternateSavedCtx.isDefault = true)
    (hcells : viewOKb s.terminal.buffer.view = true)
    (hpens : (penOKb s.terminal.pen && penOKb s.terminal.savedCtx.pen && penOKb s.terminal.alternateSavedCtx.pen) = true)
    (hcols : s.terminal.cols < 65535) (hrows : s.terminal.rows ≤ 65535)
    (hinside : s.terminal.originMode = false
      ∨ (s.terminal.topMargin ≤ s.terminal.cursor.row ∧ s.terminal.cursor.row ≤ s.terminal.bottomMargin)) :
    ∃ r, restoreOf s = some r ∧ normD r = normD s :=
  restore_of_dumpOK s hinv hreg fun hi => .of_b hi hcells (fun h => by rw [hprim] at h; cases h) hpens
    (resizedOnAlt_primary hprim) (cursorStepFaithful_inside hinside) ⟨hcols, hrows⟩
    (parkedCtx_iff.2 fun _ => .inl ha)

/-- the hypotheses of `C11_dump_primary_partial` imply the two side conditions of `C11_dump_full` -/
theorem C11_primary_not_excepted (t : Terminal) (hprim : t.activeBufferType = .primary)
    (hinside : t.originMode = false ∨ (t.topMargin ≤ t.cursor.row ∧ t.cursor.row ≤ t.bottomMargin)) :
    resizedOnAlt t = false ∧ cursorStepFaithful t = true :=
  ⟨resizedOnAlt_primary hprim, cursorStepFaithful_inside hinside⟩

/-- **normal-form soundness, EVERY control function**: terminals with equal normal forms, neither resized
    while on the alternate screen, are mapped to terminals with equal normal forms, and panic together.
    What the families read of `normT`: print / scroll / edit — view, size, cursor, pen, margins, modes
    (through the closed forms `printSpec`, `scrollCmdSpec`, `editSpec` of C04 / C06 / C07); entering the
    alternate screen — additionally the CLAMPED parked context; leaving it — the parked primary's view
    and the parked context, which under the two hypotheses is inside the screen.  Nothing reads scrollback,
    limits, trim flag, dirty flags (only their number), or the parked ALTERNATE buffer. -/
theorem C11_norm_sound_step (f : Function) (u v : Terminal) (hu : TInv u = true) (hv : TInv v = true)
    (gu : resizedOnAlt u = false) (gv : resizedOnAlt v = false) (e : normT u = normT v) :
    (u.execute f).map normT = (v.execute f).map normT :=
  norm_sound_execute_all f u v ⟨hu, gu⟩ ⟨hv, gv⟩ e

/-- the invariant of `C11_norm_sound_step` is kept by every function -/
theorem C11_norm_sound_step_inv {t t' : Terminal} {f : Function} (h : TInv t = true)
    (g : resizedOnAlt t = false) (hs : t.execute f = some t') :
    TInv t' = true ∧ resizedOnAlt t' = false :=
  pre_execute ⟨h, g⟩ hs

/-- **normal-form soundness, one character, every parser state and every emitted function** -/
theorem C11_norm_sound_feed (a b : Vt) (ha : Inv a = true) (hb : Inv b = true)
    (ra : PRegOK a.parser = true) (rb : PRegOK b.parser = true)
    (ga : resizedOnAlt a.terminal = false) (gb : resizedOnAlt b.terminal = false)
    (h : normD a = normD b) (c : Nat) :
    (a.feed c).map normD = (b.feed c).map normD :=
  norm_sound_feed_all a b (agree_of ⟨ha, ra, ga⟩ ⟨hb, rb, gb⟩ h) (Good.pre ⟨ha, ra, ga⟩) (Good.pre ⟨hb, rb, gb⟩)
    (congrArg Vt.terminal h) c

/-- **the parser's register-shape invariant is preserved by every character** (all 14 states, every
    `c : Nat`; what is evaluated are the ROWS of the reference diagram, `shapeRows`: a row fixes kind and next
    state, its ranges bound the class of the character) -/
theorem C11_pregOK_stable (p p' : Parser) (c : Nat) (f : Option Function) (hi : PInv p = true)
    (hr : PRegOK p = true) (h : p.feed c = some (p', f)) : PRegOK p' = true :=
  pregOK_stable p p' c f hi hr h

/-- **normal-form soundness, whole continuations**: `Good` states (invariant, register shape, not
    resized on the alternate screen — all three kept by every character) with equal normal forms have
    equal normal forms after ANY input, and panic together. -/
theorem C11_norm_sound_feedAll (xs : List Nat) (a b : Vt) (ha : Good a) (hb : Good b)
    (h : normD a = normD b) : (a.feedAll xs).map normD = (b.feedAll xs).map normD :=
  norm_sound_feedAll xs a b ha hb h

/-- **C11, restore half, with the size bound of finding KF6.**  FALSE (finding KF7,
    `C11_dump_full'_false_of_witness`); the statement that holds is `C11_dump_full''`. -/
def C11_dump_full' : Prop :=
  ∀ s : Vt, Lemmas.C11.Reach s → resizedOnAlt s.terminal = false → cursorStepFaithful s.terminal = true →
    sizeExceedsU16 s.terminal = false →
    ∃ r, restoreOf s = some r ∧ normD r = normD s

/-- **C11, continuation half**: `C11_norm_sound` is FALSE for states resized while on the
    alternate screen (leaving it reflows the parked primary, which reads its scrollback); with the
    exception the property names on both sides it is `C11_norm_sound_feed` -/
def C11_norm_sound' : Prop :=
  ∀ a b : Vt, Inv a = true → Inv b = true → PRegOK a.parser = true → PRegOK b.parser = true →
    resizedOnAlt a.terminal = false → resizedOnAlt b.terminal = false → normD a = normD b →
    ∀ c : Nat, (a.feed c).map normD = (b.feed c).map normD

theorem C11_norm_sound'_holds : C11_norm_sound' :=
  fun a b ha hb ra rb ga gb h c => C11_norm_sound_feed a b ha hb ra rb ga gb h c

/-- **C11 END TO END for the primary screen** (alternate screen's saved context default): under the hypotheses of
    `C11_dump_primary_partial`, `dump()` fed to a fresh terminal of the
    same size yields a terminal that shows the same through the public API — view cells, pens, wrap
    marks, cursor, cursor-key mode — now and after EVERY continuation input (all control functions,
    including screen switches and RIS, completing a cut escape sequence), and the two panic together. -/
theorem C11_primary_end_to_end (s : Vt) (hinv : Inv s = true) (hreg : PRegOK s.parser = true)
    (hprim : s.terminal.activeBufferType = .primary)
    (ha : s.terminal.alternateSavedCtx.isDefault = true)
    (hcells : viewOKb s.terminal.buffer.view = true)
    (hpens : (penOKb s.terminal.pen && penOKb s.terminal.savedCtx.pen && penOKb s.terminal.alternateSavedCtx.pen) = true)
    (hcols : s.terminal.cols < 65535) (hrows : s.terminal.rows ≤ 65535)
    (hinside : s.terminal.originMode = false
      ∨ (s.terminal.topMargin ≤ s.terminal.cursor.row ∧ s.terminal.cursor.row ≤ s.terminal.bottomMargin)) :
    ∃ r, restoreOf s = some r ∧ normD r = normD s
      ∧ ∀ xs : List Nat, (s.feedAll xs).map obs = (r.feedAll xs).map obs := by
  obtain ⟨r, h1, h2⟩ := C11_dump_primary_partial s hinv hreg hprim ha hcells hpens hcols hrows hinside
  exact ⟨r, h1, h2, obs_feedAll_of_restore hinv hreg (by simp [resizedOnAlt, hprim]) h1 h2⟩


theorem C11_reach_inv {s : Vt} (h : Lemmas.C11.Reach s) : Inv s = true ∧ PRegOK s.parser = true :=
  reach_pregOK h

/-- VACUOUS: `hd` is refuted by `C11_dump_full'_false` (Lemmas/C11KF7).  The decomposition with the
    continuation half discharged: the restore half `C11_dump_full'` alone would give the property as the
    text words it for every reachable state outside KF1/KF3 (`cursorStepFaithful`), KF2 (`resizedOnAlt`) and
    KF6 (size).  With the restore half that holds: `C11_from_dump_full''`. -/
theorem C11_from_dump_full' (hd : C11_dump_full') (s : Vt) (hr : Lemmas.C11.Reach s)
    (h2 : resizedOnAlt s.terminal = false) (h1 : cursorStepFaithful s.terminal = true)
    (h6 : sizeExceedsU16 s.terminal = false) :
    ∃ r, restoreOf s = some r ∧
      ∀ xs : List Nat, (s.feedAll xs).map obs = (r.feedAll xs).map obs := by
  obtain ⟨r, hrs, hn⟩ := hd s hr h2 h1 h6
  obtain ⟨hi, hreg⟩ := C11_reach_inv hr
  exact ⟨r, hrs, obs_feedAll_of_restore hi hreg h2 hrs hn⟩

/-! ### the known findings: negations on the witnesses (kernel evaluation of the whole model) -/

/-- KF1 witness (DESIGN.md §7), 4x6: `CSI ?6h` `CSI 2;3r` `ESC 7` `CSI 4;5r` `ESC 8` `CSI ?1047h` -/
def kf1Hist : List HOp :=
  [.feedStr [esc, 0x5b, 0x3f, 0x36, 0x68], .feedStr [esc, 0x5b, 0x32, 0x3b, 0x33, 0x72], .feedStr [esc, 0x37],
   .feedStr [esc, 0x5b, 0x34, 0x3b, 0x35, 0x72], .feedStr [esc, 0x38],
   .feedStr [esc, 0x5b, 0x3f, 0x31, 0x30, 0x34, 0x37, 0x68]]

/-- on the KF1 witness the classifier says KF1, the restored state differs from the dumped one
    (the public observation still agrees), and after the probe `CSI 1;1H` the public observations
    differ (row 3 vs row 0): `C11_dump_full`'s conclusion is FALSE here, which is why
    `cursorStepFaithful` is a hypothesis -/
theorem KF1_witness :
    witness 4 6 kf1Hist [esc, 0x5b, 0x31, 0x3b, 0x31, 0x48]
      = some { findings := [.kf1], sameAtRestore := false, obsSameAtRestore := true,
               sameAfterProbe := false, obsSameAfterProbe := false } := by decide +kernel

/-- the same history without the final `CSI ?1047h` (the saved context still agrees with the modes):
    no finding, restore exact, probe agrees -/
theorem KF1_neighbour_ok :
    witness 4 6 (kf1Hist.take 5) [esc, 0x5b, 0x31, 0x3b, 0x31, 0x48]
      = some { findings := [], sameAtRestore := true, obsSameAtRestore := true,
               sameAfterProbe := true, obsSameAfterProbe := true } := by decide +kernel

/-- KF2 witness, 6x3: `abcdefgh` `CSI ?1047h`, resize 4x3 -/
def kf2Hist : List HOp :=
  [.feedStr [0x61, 0x62, 0x63, 0x64, 0x65, 0x66, 0x67, 0x68],
   .feedStr [esc, 0x5b, 0x3f, 0x31, 0x30, 0x34, 0x37, 0x68], .resize 4 3]

/-- probe `CSI ?1047l`: a different primary screen comes back -/
theorem KF2_witness :
    witness 6 3 kf2Hist [esc, 0x5b, 0x3f, 0x31, 0x30, 0x34, 0x37, 0x6c]
      = some { findings := [.kf2], sameAtRestore := false, obsSameAtRestore := true,
               sameAfterProbe := false, obsSameAfterProbe := false } := by decide +kernel

/-- without the resize: exact -/
theorem KF2_neighbour_ok :
    witness 6 3 (kf2Hist.take 2) [esc, 0x5b, 0x3f, 0x31, 0x30, 0x34, 0x37, 0x6c]
      = some { findings := [], sameAtRestore := true, obsSameAtRestore := true,
               sameAfterProbe := true, obsSameAfterProbe := true } := by decide +kernel

/-- KF3 witness, 4x8: `CSI ?6h` `CSI 5;6r` `ESC 7` `CSI ?1047h` `CSI 7;8r` `ESC 7` `CSI ?1047l` `ESC 8`
    `CSI ?1047h` -/
def kf3Hist : List HOp :=
  [.feedStr [esc, 0x5b, 0x3f, 0x36, 0x68], .feedStr [esc, 0x5b, 0x35, 0x3b, 0x36, 0x72], .feedStr [esc, 0x37],
   .feedStr [esc, 0x5b, 0x3f, 0x31, 0x30, 0x34, 0x37, 0x68], .feedStr [esc, 0x5b, 0x37, 0x3b, 0x38, 0x72],
   .feedStr [esc, 0x37], .feedStr [esc, 0x5b, 0x3f, 0x31, 0x30, 0x34, 0x37, 0x6c], .feedStr [esc, 0x38],
   .feedStr [esc, 0x5b, 0x3f, 0x31, 0x30, 0x34, 0x37, 0x68]]

/-- the modes agree, the saved position lies beyond a margin: the cursor itself is restored wrongly
    (row 6 instead of 4), visible at once -/
theorem KF3_witness :
    witness 4 8 kf3Hist [0x58]
      = some { findings := [.kf3], sameAtRestore := false, obsSameAtRestore := false,
               sameAfterProbe := false, obsSameAfterProbe := false } := by decide +kernel

/-- the same history stopped before the last `CSI ?1047h` (cursor outside the region, origin mode on,
    saved context = the cursor's own): the `CSI u` route is taken and is faithful -/
theorem KF3_neighbour_ok :
    witness 4 8 (kf3Hist.take 8) [0x58]
      = some { findings := [], sameAtRestore := true, obsSameAtRestore := true,
               sameAfterProbe := true, obsSameAfterProbe := true } := by decide +kernel


/-! ### `C11_norm_sound` is false (states resized on the alternate screen) -/

/-- 4x2, unlimited scrollback: `x CR LF b CR LF c` (one line scrolls off), `CSI ?1047h`, resize to 4x3 on the
    alternate screen, then `ESC [ ? 1 0 4 7` fed character by character (cut before the final `l`) -/
def nsHist (x : Nat) : List HOp :=
  [.feedStr [x, 0x0d, 0x0a, 0x62, 0x0d, 0x0a, 0x63],
   .feedStr [esc, 0x5b, 0x3f, 0x31, 0x30, 0x34, 0x37, 0x68],
   .resize 4 3,
   .feedChars [esc, 0x5b, 0x3f, 0x31, 0x30, 0x34, 0x37]]

def nsState (x : Nat) : Option Vt := (Vt.new 4 2 none).bind fun v => runHist v (nsHist x)

/-- the histories with `x = 'a'` and `x = 'x'` end in states with EQUAL normal forms (they differ in the
    scrollback of the parked primary only) — and the next character `l` makes even the public
    observations differ: leaving the alternate screen reflows the parked primary to the new height,
    which pulls the scrolled-off line back into the view -/
def nsCheck : Bool :=
  match nsState 0x61, nsState 0x78 with
  | some a, some b => normD a == normD b && ((a.feed 0x6c).map normD != (b.feed 0x6c).map normD)
      && ((a.feed 0x6c).map obs != (b.feed 0x6c).map obs) && resizedOnAlt a.terminal
  | _, _ => false

theorem nsCheck_true : nsCheck = true := by decide +kernel

/-- **`C11_norm_sound` is FALSE**: it lacks the exception the property names (resized while the alternate
    screen is showing), which `C11_norm_sound'` has -/
theorem C11_norm_sound_false : ¬ C11_norm_sound := by
  intro h
  have hc := nsCheck_true
  unfold nsCheck at hc
  cases ha : nsState 0x61 with
  | none => simp [ha] at hc
  | some a =>
    cases hb : nsState 0x78 with
    | none => simp [ha, hb] at hc
    | some b =>
      simp only [ha, hb, Bool.and_eq_true, beq_iff_eq, bne_iff_ne, ne_eq] at hc
      obtain ⟨⟨⟨h1, h2⟩, _⟩, _⟩ := hc
      have ra : Lemmas.C11.Reach a := ⟨4, 2, none, nsHist 0x61, by decide, by decide, resizes_valid (by decide), ha⟩
      have rb : Lemmas.C11.Reach b := ⟨4, 2, none, nsHist 0x78, by decide, by decide, resizes_valid (by decide), hb⟩
      exact h2 (h a b ra rb h1 0x6c)

/-- 9x4: coloured and struck-through text that wraps, a cleared tab stop, the drawing charset in G1 and
    shifted in, margins 2..3 with origin mode, insert mode, new-line mode, auto-wrap off, application
    cursor keys, a hidden cursor, a saved context with another pen, an alternate-screen saved context,
    and the input cut inside `CSI ?25;1:2` -/
def exHist : List HOp :=
  [.feedStr [esc, 0x5b, 0x33, 0x38, 0x3a, 0x32, 0x3a, 0x31, 0x3a, 0x32, 0x3a, 0x33, 0x3b, 0x39, 0x6d],   -- CSI 38:2:1:2:3;9m
   .feedStr [0x61, 0x62, 0x63, 0x64, 0x65, 0x66, 0x67, 0x68, 0x69, 0x6a, 0x6b],                             -- abcdefghijk
   .feedStr [esc, 0x5b, 0x33, 0x67, esc, 0x29, 0x30, 0x0e],                                             -- CSI 3g  ESC )0  SO
   .feedStr [esc, 0x5b, 0x34, 0x34, 0x6d, esc, 0x37],                                                  -- CSI 44m ESC 7
   .feedStr [esc, 0x5b, 0x3f, 0x31, 0x30, 0x34, 0x37, 0x68, esc, 0x5b, 0x32, 0x3b, 0x32, 0x48, esc, 0x37,
             esc, 0x5b, 0x3f, 0x31, 0x30, 0x34, 0x37, 0x6c],                                            -- ?1047h CSI 2;2H ESC 7 ?1047l
   .feedStr [esc, 0x5b, 0x32, 0x3b, 0x33, 0x72, esc, 0x5b, 0x3f, 0x36, 0x68],                           -- CSI 2;3r CSI ?6h
   .feedStr [esc, 0x5b, 0x34, 0x3b, 0x32, 0x30, 0x68, esc, 0x5b, 0x3f, 0x37, 0x6c, esc, 0x5b, 0x3f, 0x31, 0x68], -- CSI 4;20h ?7l ?1h
   .feedStr [0x71, esc, 0x5b, 0x3f, 0x32, 0x35, 0x6c],                                                  -- q CSI ?25l
   .feedStr [esc, 0x5b, 0x3f, 0x32, 0x35, 0x3b, 0x31, 0x3a, 0x32]]                                       -- CSI ?25;1:2   (cut)

/-- on that state: reachable, parser registers in shape, parser stuck in `CsiParam` with a marker and a
    sub-parameter, pens valid; the restore is exact (`normD`), and stays exact after the probe that
    completes the cut sequence and walks through both saved contexts -/
example :
    witness 9 4 exHist [0x68, esc, 0x38, 0x58, esc, 0x5b, 0x3f, 0x31, 0x30, 0x34, 0x37, 0x68, esc, 0x38, 0x59]
      = some { findings := [], sameAtRestore := true, obsSameAtRestore := true,
               sameAfterProbe := true, obsSameAfterProbe := true }
    ∧ ((Vt.new 9 4 none).bind fun v => runHist v exHist).map
        (fun s => Inv s && PRegOK s.parser && (s.parser.state == .CsiParam) && (s.parser.intermediate == some 0x3f)
          && (s.terminal.tabs != Tabs.new 9) && s.terminal.originMode && !s.terminal.cursor.visible
          && (s.terminal.cursorKeysMode == .application) && !s.terminal.savedCtx.isDefault
          && !s.terminal.alternateSavedCtx.isDefault) = some true := by
  constructor <;> decide +kernel

def exState : Option Vt := (Vt.new 9 4 none).bind fun v => runHist v exHist

theorem exState_isSome : exState.isSome = true := by decide +kernel

/-- and the fragment theorems apply to its parser: the hypotheses of `C11_parser_dump` hold -/
example : ∃ s, exState = some s ∧
    ∃ d q, s.parser.dump = some d ∧ pfeedAll Parser.new d = some (q, []) ∧ normP q = normP s.parser := by
  have h : exState.any (fun s => PInv s.parser && PRegOK s.parser) = true := by decide +kernel
  obtain ⟨s, hs, hp⟩ := (Option.any_eq_true _ _).1 h
  simp only [Bool.and_eq_true] at hp
  exact ⟨s, hs, C11_parser_dump _ Parser.new hp.1 hp.2 rfl (by decide)⟩


/-! ### `C11_dump_primary_partial` applies to a concrete non-trivial state -/

/-- 9x4, primary screen: red bold text with a run of 14 equal characters that
    soft-wraps (REP + wrap mark), a second pen on the next row, a saved cursor context with that pen at
    (8, 2), a cleared and an added tab stop, margins
    2..4 with origin mode, the drawing set in G1 and shifted in, insert and new-line mode, application
    cursor keys, hidden cursor, the cursor parked wrap-pending at the end of row 2 inside the region, and
    the input cut inside `CSI 12;3` -/
def exPHist : List HOp :=
  [.feedStr [esc, 0x5b, 0x33, 0x31, 0x3b, 0x31, 0x6d],                                   -- CSI 31;1m
   .feedStr [0x61, 0x61, 0x61, 0x61, 0x61, 0x61, 0x61, 0x61, 0x61, 0x61, 0x61, 0x61, 0x61, 0x61, 0x0d, 0x0a], -- a×14 CR LF
   .feedStr [esc, 0x5b, 0x34, 0x34, 0x6d, 0x78, 0x79, 0x7a, 0x7a, 0x7a, 0x7a, 0x7a, 0x7a, esc, 0x37], -- CSI 44m xyzzzzzz ESC 7
   .feedStr [esc, 0x5b, 0x33, 0x47, esc, 0x48, esc, 0x5b, 0x39, 0x47, esc, 0x5b, 0x67],        -- CSI 3G HTS CSI 9G CSI g
   .feedStr [esc, 0x29, 0x30, 0x0e, esc, 0x5b, 0x34, 0x3b, 0x32, 0x30, 0x68],                 -- ESC )0 SO CSI 4;20h
   .feedStr [esc, 0x5b, 0x3f, 0x31, 0x68, esc, 0x5b, 0x3f, 0x32, 0x35, 0x6c],                 -- CSI ?1h CSI ?25l
   .feedStr [esc, 0x5b, 0x32, 0x3b, 0x34, 0x72, esc, 0x5b, 0x3f, 0x36, 0x68],                 -- CSI 2;4r CSI ?6h
   .feedStr [esc, 0x5b, 0x32, 0x3b, 0x39, 0x48, 0x71],                                      -- CSI 2;9H q  (wrap pending)
   .feedStr [esc, 0x5b, 0x31, 0x32, 0x3b, 0x33]]                                           -- CSI 12;3  (cut)

def exPState : Option Vt := (Vt.new 9 4 (some 5)).bind fun v => runHist v exPHist

theorem exPState_isSome : exPState.isSome = true := by decide +kernel

/-- the state is as described (non-default in every component the theorem leaves arbitrary), satisfies
    every hypothesis of `C11_dump_primary_partial`, hence its dump restores it -/
example : ∃ s r, exPState = some s
    ∧ s.terminal.pendingWrap = true ∧ s.terminal.originMode = true ∧ s.terminal.topMargin = 1
    ∧ s.terminal.tabs ≠ Tabs.new 9 ∧ s.parser.state = .CsiParam ∧ s.terminal.savedCtx.isDefault = false
    ∧ restoreOf s = some r ∧ normD r = normD s := by
  -- one kernel run of the history decides every closed fact about the state
  have h : exPState.any (fun s => Inv s && PRegOK s.parser
      && decide (s.terminal.activeBufferType = .primary) && s.terminal.alternateSavedCtx.isDefault
      && viewOKb s.terminal.buffer.view
      && (penOKb s.terminal.pen && penOKb s.terminal.savedCtx.pen && penOKb s.terminal.alternateSavedCtx.pen)
      && decide (s.terminal.cols < 65535) && decide (s.terminal.rows ≤ 65535)
      && decide (s.terminal.topMargin ≤ s.terminal.cursor.row ∧ s.terminal.cursor.row ≤ s.terminal.bottomMargin)
      && s.terminal.pendingWrap && s.terminal.originMode && decide (s.terminal.topMargin = 1)
      && decide (s.terminal.tabs ≠ Tabs.new 9) && decide (s.parser.state = .CsiParam)
      && !s.terminal.savedCtx.isDefault) = true := by decide +kernel
  obtain ⟨s, hs, hp⟩ := (Option.any_eq_true _ _).1 h
  simp only [Bool.and_eq_true, decide_eq_true_eq, Bool.not_eq_true'] at hp
  obtain ⟨⟨⟨⟨⟨⟨⟨⟨⟨⟨⟨⟨⟨⟨hinv, hreg⟩, hprim⟩, ha⟩, hcells⟩, hpens⟩, hcols⟩, hrows⟩, hin⟩, hpw⟩, hom⟩, htop⟩, htabs⟩,
    hst⟩, hctx⟩ := hp
  obtain ⟨r, h1, h2⟩ := C11_dump_primary_partial s hinv hreg hprim ha hcells
    (by simp only [Bool.and_eq_true]; exact hpens) hcols hrows (.inr hin)
  exact ⟨s, r, hs, hpw, hom, htop, htabs, hst, hctx, h1, h2⟩

/-- **every reachable state satisfies the cell / pen invariant**: every pen the terminal holds (current,
    both saved contexts) has five attribute bits and `u8` colour components, and every cell of BOTH
    buffers, scrollback included, holds a character the resting parser prints (`0x20..0x7F` or `≥ 0xA0`,
    after charset translation; the blank and DECALN's `E` are among them) and such a pen.  It holds because
    the parser emits `Print` only for printable characters and SGR colours through `as u8`, and `resize` /
    reflow only move cells or fill with default blanks. -/
theorem C11_reach_cellsInv {s : Vt} (h : Lemmas.C11.Reach s) : CellsInv s.terminal := reach_cellsInv h

/-- the same as the decidable predicates that `C11_dump_primary_partial` … `C11_csi_u_partial` take as hypotheses -/
theorem C11_reach_viewOK {s : Vt} (h : Lemmas.C11.Reach s) :
    viewOKb s.terminal.buffer.view = true ∧ viewOKb s.terminal.otherBuffer.view = true
      ∧ viewOKb s.terminal.buffer.sb = true ∧ viewOKb s.terminal.otherBuffer.sb = true
      ∧ (penOKb s.terminal.pen && penOKb s.terminal.savedCtx.pen && penOKb s.terminal.alternateSavedCtx.pen) = true := by
  have c := reach_cellsInv h
  refine ⟨viewOKb_iff.2 c.view, viewOKb_iff.2 c.oview, viewOKb_iff.2 c.sb, viewOKb_iff.2 c.osb, ?_⟩
  simp only [Bool.and_eq_true]
  exact ⟨⟨penOKb_iff.2 c.pen, penOKb_iff.2 c.sctx⟩, penOKb_iff.2 c.actx⟩

/-- one step of the invariant, for every function the parser can emit -/
theorem C11_cellsInv_execute {t t' : Terminal} {f : Function} (hi : TInv t = true) (hc : CellsInv t) (hf : FnOK f)
    (h : t.execute f = some t') : CellsInv t' := cellsInv_execute hc hf h

/-- what the parser guarantees about an emitted function -/
theorem C11_parser_emits_fnOK {p p' : Parser} {c : Nat} {f : Function} (hp : PInv p = true)
    (h : p.feed c = some (p', some f)) : FnOK f := parser_emits_fnOK hp h

theorem C11_cellsInv_resize {v v' : Vt} {c r : Nat} {ch : Changes} (hc : CellsInv v.terminal)
    (h : v.resize c r = some (v', ch)) : CellsInv v'.terminal := vtResize_cells hc h

/-- **`Terminal.dump` replayed on a fresh terminal, in general** (`Feeds` form): for ANY terminal satisfying
    `DumpOK` — invariant, well-formed cells and pens, parked primary at the terminal's geometry (KF2), sizes and
    the parked alternate saved position inside the 16-bit parameter range (KF6 / KF7), `cursorStepFaithful`
    (KF1 / KF3) — `dump()` succeeds and replays to a terminal with the same normal form -/
theorem C11_terminal_dump_general (T : Terminal) (h : DumpOK T) :
    ∃ d t', T.dump = some d ∧ Feeds d (freshT T.cols T.rows none) t' ∧ normT t' = normT T :=
  dump_general T h

/-- **C11, restore half, PRIMARY screen, saved context of the alternate screen arbitrary**:
    `C11_dump_primary_partial` with the KF7 bound on the parked position (`parkedCtxExceedsU16`) in place of
    `alternateSavedCtx.isDefault`, so that dump steps 4–6 are covered (their replay: `rep_456`,
    Lemmas/C11Replay) -/
theorem C11_alt_ctx_partial (s : Vt) (hinv : Inv s = true) (hreg : PRegOK s.parser = true)
    (hprim : s.terminal.activeBufferType = .primary)
    (hparked : parkedCtxExceedsU16 s.terminal = false)
    (hcells : viewOKb s.terminal.buffer.view = true)
    (hpens : (penOKb s.terminal.pen && penOKb s.terminal.savedCtx.pen && penOKb s.terminal.alternateSavedCtx.pen) = true)
    (hcols : s.terminal.cols < 65535) (hrows : s.terminal.rows ≤ 65535)
    (hinside : s.terminal.originMode = false
      ∨ (s.terminal.topMargin ≤ s.terminal.cursor.row ∧ s.terminal.cursor.row ≤ s.terminal.bottomMargin)) :
    ∃ r, restoreOf s = some r ∧ normD r = normD s :=
  restore_of_dumpOK s hinv hreg fun hi => .of_b hi hcells (fun h => by rw [hprim] at h; cases h) hpens
    (resizedOnAlt_primary hprim) (cursorStepFaithful_inside hinside) ⟨hcols, hrows⟩ hparked

/-- **C11, restore half, ALTERNATE screen** showing at dump time, the parked primary at the terminal's
    geometry (`resizedOnAlt = false`), both saved contexts arbitrary, the cursor inside the scroll region when
    origin mode is on (the replay: `dump_general_alternate`, Lemmas/C11Replay) -/
theorem C11_alternate_active_partial (s : Vt) (hinv : Inv s = true) (hreg : PRegOK s.parser = true)
    (halt : s.terminal.activeBufferType = .alternate)
    (hgeo : resizedOnAlt s.terminal = false)
    (hcells : viewOKb s.terminal.buffer.view = true) (hocells : viewOKb s.terminal.otherBuffer.view = true)
    (hpens : (penOKb s.terminal.pen && penOKb s.terminal.savedCtx.pen && penOKb s.terminal.alternateSavedCtx.pen) = true)
    (hcols : s.terminal.cols < 65535) (hrows : s.terminal.rows ≤ 65535)
    (hinside : s.terminal.originMode = false
      ∨ (s.terminal.topMargin ≤ s.terminal.cursor.row ∧ s.terminal.cursor.row ≤ s.terminal.bottomMargin)) :
    ∃ r, restoreOf s = some r ∧ normD r = normD s :=
  restore_of_dumpOK s hinv hreg fun hi => .of_b hi hcells (fun _ => hocells) hpens hgeo
    (cursorStepFaithful_inside hinside) ⟨hcols, hrows⟩ (parkedCtx_iff.2 fun h => by rw [halt] at h; cases h)

/-- **C11, restore half, the `CSI u` route of step 9**: origin mode on and the cursor parked OUTSIDE the
    scroll region (`cursorOutsideRegion`), where `dump()` writes `CSI u` and relative moves instead of CUP and
    `cursorStepFaithful` is a real hypothesis; either screen, arbitrary saved contexts, the other three
    exceptions excluded (the replay of the step: `feeds_cursor_outside`, Lemmas/C11Stages) -/
theorem C11_csi_u_partial (s : Vt) (hinv : Inv s = true) (hreg : PRegOK s.parser = true)
    (hout : cursorOutsideRegion s.terminal = true)
    (hf : cursorStepFaithful s.terminal = true)
    (hgeo : resizedOnAlt s.terminal = false) (h6 : sizeExceedsU16 s.terminal = false)
    (h7 : parkedCtxExceedsU16 s.terminal = false)
    (hcells : viewOKb s.terminal.buffer.view = true) (hocells : viewOKb s.terminal.otherBuffer.view = true)
    (hpens : (penOKb s.terminal.pen && penOKb s.terminal.savedCtx.pen && penOKb s.terminal.alternateSavedCtx.pen) = true) :
    ∃ r, restoreOf s = some r ∧ normD r = normD s
      ∧ s.terminal.originMode = true
      ∧ (s.terminal.cursor.row < s.terminal.topMargin ∨ s.terminal.cursor.row > s.terminal.bottomMargin) := by
  obtain ⟨r, h1, h2⟩ := restore_of_dumpOK s hinv hreg fun hi =>
    .of_b hi hcells (fun _ => hocells) hpens hgeo hf (sizeExceedsU16_iff.1 h6) h7
  simp only [cursorOutsideRegion, Bool.and_eq_true, Bool.or_eq_true, decide_eq_true_eq] at hout
  exact ⟨r, h1, h2, hout.1, hout.2⟩

/-- **C11, restore half**: `C11_dump_full'` with the parked-position bound of finding
    KF7 (`C11_dump_full'` itself is FALSE: 70000x1, `?1047h`, CUF 65535, CUF 1, `ESC 7`, `?1047l`, resize 10x1
    is reachable, within every exception of `C11_dump_full'`, and does not restore — known/KF7.script,
    `kf7State` in Avt/Lemmas/C11KF7Eval.lean) -/
def C11_dump_full'' : Prop :=
  ∀ s : Vt, Lemmas.C11.Reach s → resizedOnAlt s.terminal = false → cursorStepFaithful s.terminal = true →
    sizeExceedsU16 s.terminal = false → parkedCtxExceedsU16 s.terminal = false →
    ∃ r, restoreOf s = some r ∧ normD r = normD s

/-- **the restore half holds in full**: every reachable state that is not one of the known exceptions
    (KF2 `resizedOnAlt`, KF1/KF3 `¬cursorStepFaithful`, KF6 `sizeExceedsU16`, KF7 `parkedCtxExceedsU16`) is
    restored by its own `dump()` up to `normD` — either screen active, arbitrary contents, pens, saved
    contexts on both screens, tab stops, margins, modes, cursor anywhere incl. wrap-pending and outside the
    region under origin mode, parser cut anywhere -/
theorem C11_dump_full''_holds : C11_dump_full'' := by
  intro s hr h2 h1 h6 h7
  obtain ⟨hi, hreg⟩ := C11_reach_inv hr
  exact restore_general s hi hreg (reach_cellsInv hr) h2 h1 h6 h7

/-- `C11_dump_full'` for the states that also satisfy the KF7 bound — i.e. `C11_dump_full'` is proved up to
    finding KF7 -/
theorem C11_dump_full'_holds_up_to_KF7 (s : Vt) (hr : Lemmas.C11.Reach s)
    (h2 : resizedOnAlt s.terminal = false) (h1 : cursorStepFaithful s.terminal = true)
    (h6 : sizeExceedsU16 s.terminal = false) (h7 : parkedCtxExceedsU16 s.terminal = false) :
    ∃ r, restoreOf s = some r ∧ normD r = normD s := C11_dump_full''_holds s hr h2 h1 h6 h7

/-- **the decomposition with the continuation half discharged**: `C11_dump_full''` alone gives the property
    as the text words it -/
theorem C11_from_dump_full'' (hd : C11_dump_full'') (s : Vt) (hr : Lemmas.C11.Reach s)
    (h2 : resizedOnAlt s.terminal = false) (h1 : cursorStepFaithful s.terminal = true)
    (h6 : sizeExceedsU16 s.terminal = false) (h7 : parkedCtxExceedsU16 s.terminal = false) :
    ∃ r, restoreOf s = some r ∧ normD r = normD s ∧ obs r = obs s
      ∧ ∀ xs : List Nat, (s.feedAll xs).map obs = (r.feedAll xs).map obs := by
  obtain ⟨r, hrs, hn⟩ := hd s hr h2 h1 h6 h7
  obtain ⟨hi, hreg⟩ := C11_reach_inv hr
  exact ⟨r, hrs, hn, C11_norm_obs r s hn, obs_feedAll_of_restore hi hreg h2 hrs hn⟩

/-- **C11, the property itself**: for every reachable state that is not one of the known exceptions (KF2
    `resizedOnAlt`, KF1/KF3 `¬cursorStepFaithful`, KF6 `sizeExceedsU16`, KF7 `parkedCtxExceedsU16`), feeding
    `dump()` into a fresh terminal of the same size succeeds and yields a terminal with the same normal form
    that shows the same through the public API — view cells, pens, wrap marks, cursor, cursor-key mode — now
    and after EVERY continuation input (including the completion of an escape sequence the original input
    was cut in), and the two panic together (i.e. never — C01) -/
theorem C11_holds (s : Vt) (hr : Lemmas.C11.Reach s)
    (h2 : resizedOnAlt s.terminal = false) (h1 : cursorStepFaithful s.terminal = true)
    (h6 : sizeExceedsU16 s.terminal = false) (h7 : parkedCtxExceedsU16 s.terminal = false) :
    ∃ r, restoreOf s = some r ∧ normD r = normD s ∧ obs r = obs s
      ∧ ∀ xs : List Nat, (s.feedAll xs).map obs = (r.feedAll xs).map obs :=
  C11_from_dump_full'' C11_dump_full''_holds s hr h2 h1 h6 h7

/-- **C11 END TO END for the primary screen, over reachable states**: `C11_primary_end_to_end` without the
    well-formedness hypotheses on cells and pens, which hold in every reachable state -/
theorem C11_primary_end_to_end_reach (s : Vt) (hr : Lemmas.C11.Reach s)
    (hprim : s.terminal.activeBufferType = .primary)
    (ha : s.terminal.alternateSavedCtx.isDefault = true)
    (hcols : s.terminal.cols < 65535) (hrows : s.terminal.rows ≤ 65535)
    (hinside : s.terminal.originMode = false
      ∨ (s.terminal.topMargin ≤ s.terminal.cursor.row ∧ s.terminal.cursor.row ≤ s.terminal.bottomMargin)) :
    ∃ r, restoreOf s = some r ∧ normD r = normD s
      ∧ ∀ xs : List Nat, (s.feedAll xs).map obs = (r.feedAll xs).map obs := by
  obtain ⟨r, h1, h2, _, h4⟩ := C11_holds s hr (resizedOnAlt_primary hprim) (cursorStepFaithful_inside hinside)
    (sizeExceedsU16_iff.2 ⟨hcols, hrows⟩) (parkedCtx_iff.2 fun _ => .inl ha)
  exact ⟨r, h1, h2, h4⟩

/-! ### finding KF7: the parked alternate-screen saved position beyond the 16-bit parameter range -/

/-- a faithful neighbour of KF7, 20x1: the parked position (column 15) lies beyond the screen after the resize
    to 10x1 but inside the parameter range — CUP clamps it exactly as `normD` does, the restore is exact and
    stays so after `CSI ?1047h ESC 8 X` -/
theorem KF7_neighbour_ok :
    witness 20 1 [.feedStr [esc, 0x5b, 0x3f, 0x31, 0x30, 0x34, 0x37, 0x68], .feedStr [esc, 0x5b, 0x31, 0x35, 0x43],
        .feedStr [esc, 0x37], .feedStr [esc, 0x5b, 0x3f, 0x31, 0x30, 0x34, 0x37, 0x6c], .resize 10 1]
      [esc, 0x5b, 0x3f, 0x31, 0x30, 0x34, 0x37, 0x68, esc, 0x38, 0x58]
      = some { findings := [], sameAtRestore := true, obsSameAtRestore := true,
               sameAfterProbe := true, obsSameAfterProbe := true } := by decide +kernel

/-- `C11_dump_full'` is refuted by ANY reachable state on which the classifier finds nothing but KF7 and whose
    restore differs (the concrete one: `kf7Hist` from `Vt.new 70000 1`; `C11_dump_full'_false` in
    Avt/Lemmas/C11KF7.lean instantiates this with the kernel evaluation `kf7_refutes`) -/
theorem C11_dump_full'_false_of_witness (s r : Vt) (hr : Lemmas.C11.Reach s)
    (hf : findings s.terminal = [.kf7]) (hres : restoreOf s = some r) (hne : normD r ≠ normD s) :
    ¬ C11_dump_full' := by
  intro hd
  have h2 : resizedOnAlt s.terminal = false := by
    cases h : resizedOnAlt s.terminal with
    | false => rfl
    | true => simp [findings, h] at hf
  have h1 : cursorStepFaithful s.terminal = true := by
    cases h : cursorStepFaithful s.terminal with
    | true => rfl
    | false =>
      simp only [findings, h2, h, Bool.false_eq_true, if_false, List.nil_append] at hf
      split at hf <;> simp at hf
  have h6 : sizeExceedsU16 s.terminal = false := by
    cases h : sizeExceedsU16 s.terminal with
    | false => rfl
    | true => simp [findings, h2, h1, h] at hf
  obtain ⟨r', e, hn⟩ := hd s hr h2 h1 h6
  rw [hres] at e
  cases e
  exact hne hn

/-! ### `C11_holds` applies to a concrete non-trivial state on the ALTERNATE screen, `CSI u` route -/

/-- 6x8, scrollback limit 3: red text and a saved context on the primary screen; on the alternate screen blue-
    background text that soft-wraps, origin mode, margins 5..6, a saved context at (2, 4) with origin mode on,
    then margins 7..8 and `ESC 8`: the cursor is parked OUTSIDE the region with origin mode on; it is moved
    right and up (so dump step 9 emits `CSI u` `CSI 1 C` `CSI 1 A`), and the input is cut inside `CSI 1;` -/
def exAHist : List HOp :=
  [.feedStr [esc, 0x5b, 0x33, 0x31, 0x6d, 0x61, 0x62, 0x63, esc, 0x37],                          -- CSI 31m abc ESC 7
   .feedStr [esc, 0x5b, 0x3f, 0x31, 0x30, 0x34, 0x37, 0x68],                                    -- CSI ?1047h
   .feedStr [esc, 0x5b, 0x34, 0x34, 0x6d, 0x78, 0x78, 0x78, 0x78, 0x78, 0x78, 0x78, 0x78, 0x79],  -- CSI 44m x×8 y
   .feedStr [esc, 0x5b, 0x3f, 0x36, 0x68, esc, 0x5b, 0x35, 0x3b, 0x36, 0x72],                    -- CSI ?6h CSI 5;6r
   .feedStr [esc, 0x5b, 0x31, 0x3b, 0x33, 0x48, esc, 0x37],                                    -- CSI 1;3H ESC 7
   .feedStr [esc, 0x5b, 0x37, 0x3b, 0x38, 0x72, esc, 0x38],                                    -- CSI 7;8r ESC 8
   .feedStr [esc, 0x5b, 0x43, esc, 0x5b, 0x41],                                                -- CSI C  CSI A
   .feedStr [esc, 0x5b, 0x31, 0x3b]]                                                          -- CSI 1;  (cut)

def exAState : Option Vt := (Vt.new 6 8 (some 3)).bind fun v => runHist v exAHist

theorem exAState_isSome : exAState.isSome = true := by decide +kernel

/-- the state is as described, reachable, satisfies every hypothesis of `C11_holds`; hence its dump restores
    it, for all continuations -/
example : ∃ s r, exAState = some s
    ∧ s.terminal.activeBufferType = .alternate ∧ cursorOutsideRegion s.terminal = true
    ∧ step9Moves s.terminal = [.cuf 1, .cuu 1]
    ∧ s.terminal.savedCtx.isDefault = false ∧ s.terminal.alternateSavedCtx.isDefault = false
    ∧ s.parser.state = .CsiParam
    ∧ restoreOf s = some r ∧ normD r = normD s
    ∧ ∀ xs : List Nat, (s.feedAll xs).map obs = (r.feedAll xs).map obs := by
  -- one kernel run of the history decides every closed fact about the state
  have h : exAState.any (fun s => !resizedOnAlt s.terminal && cursorStepFaithful s.terminal
      && !sizeExceedsU16 s.terminal && !parkedCtxExceedsU16 s.terminal
      && decide (s.terminal.activeBufferType = .alternate) && cursorOutsideRegion s.terminal
      && decide (step9Moves s.terminal = [.cuf 1, .cuu 1])
      && !s.terminal.savedCtx.isDefault && !s.terminal.alternateSavedCtx.isDefault
      && decide (s.parser.state = .CsiParam)) = true := by decide +kernel
  obtain ⟨s, hs, hp⟩ := (Option.any_eq_true _ _).1 h
  simp only [Bool.and_eq_true, decide_eq_true_eq, Bool.not_eq_true'] at hp
  obtain ⟨⟨⟨⟨⟨⟨⟨⟨⟨h2, h1⟩, h6⟩, h7⟩, halt⟩, hout⟩, hmv⟩, hctx⟩, hactx⟩, hst⟩ := hp
  have reach : Lemmas.C11.Reach s := ⟨6, 8, some 3, exAHist, by decide, by decide, resizes_valid (by decide), hs⟩
  obtain ⟨r, hr1, hr2, _, hr4⟩ := C11_holds s reach h2 h1 h6 h7
  exact ⟨s, r, hs, halt, hout, hmv, hctx, hactx, hst, hr1, hr2, hr4⟩

end Avt.Props.C11
