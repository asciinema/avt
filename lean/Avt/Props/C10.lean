/-
  Avt.Props.C10 — resizing keeps the logical text and the cursor's place in it.

  In avt's terms (`C10_resize`, which proves `C10_resize_full`): `Vt::resize` to any width and height ≥ 1,
  from any state satisfying the invariant with the primary screen showing and no scrollback limit, keeps
  the cursor in the same logical line (rows joined along wrap marks), every line above it unchanged, the
  text before the cursor intact, the cursor on the same character when it was on one, and the lines from
  the cursor's on kept or cut short at the bottom, blank filler aside (`resizeRel`).
  `vt_resize_rel` is the general form (every wrap-pending flag the cursor's column allows);
  `C10_pending_place` (with `_width`, `_rows`, `_weak`) says where a wrap-pending cursor ends up;
  `C10_buffer_resize_lines` gives `keptOrCut` for EVERY `Buffer.resize` (no invariant, any cursor) and
  `C10_resize_lines` for `Vt.resize` on a buffer without limit; `C10_reflow_logical` is the `Reflow`
  iterator alone; `C10_chain` is the statement along chains of resizes, GIVEN that `Vt.resize` preserves
  the invariant (C02, a hypothesis here; `Closed.C10_chain` in Props/Closed2.lean supplies it).
  The idea (Lemmas/C10Rel.lean): a width-changing `Buffer.resize` is reflow + cursor translation, then
  a height-only change of the reflowed rows.
  The vocabulary is that of Avt/Spec/C10.lean, the definitions the oracle evaluates.
-/
import Avt.Lemmas.C10Rel
import Avt.Lemmas.InvVt

namespace Avt.Props.C10
open Avt Avt.Spec.C10 Avt.Lemmas

/-- the cursor's logical position of a terminal -/
def cursorOf (t : Terminal) : Nat × Nat := cursorLogical t.buffer (t.cursor.col, t.cursor.row)

/-- **C10, full statement** (`C10_resize` below proves it) -/
def C10_resize_full : Prop :=
  ∀ (v v' : Vt) (c r : Nat) (ch : Changes),
    Inv v = true → 1 ≤ c → 1 ≤ r →
    v.terminal.activeBufferType = .primary → v.terminal.scrollbackLimit = none →
    v.resize c r = some (v', ch) →
    resizeRel (logicalLines v.terminal.buffer.lines) (logicalLines v'.terminal.buffer.lines)
      (cursorOf v.terminal).1 (cursorOf v.terminal).2
      (cursorOf v'.terminal).1 (cursorOf v'.terminal).2 v.terminal.pendingWrap = true

/-- chains of resizes: the relation holds at every step of the chain (by `C10_resize_full` applied at
    each step; every step starts from a state satisfying `Inv` by C02) -/
def C10_chain_full : Prop :=
  ∀ (v : Vt) (sizes : List (Nat × Nat)), Inv v = true →
    v.terminal.activeBufferType = .primary → v.terminal.scrollbackLimit = none →
    (∀ s ∈ sizes, 1 ≤ s.1 ∧ 1 ≤ s.2) →
    ∀ (pre : List (Nat × Nat)) (c r : Nat) (post : List (Nat × Nat)), sizes = pre ++ (c, r) :: post →
    ∀ (v1 v2 : Vt) (ch : Changes),
      pre.foldlM (fun (w : Vt) s => (w.resize s.1 s.2).map (·.1)) v = some v1 →
      v1.resize c r = some (v2, ch) →
      resizeRel (logicalLines v1.terminal.buffer.lines) (logicalLines v2.terminal.buffer.lines)
        (cursorOf v1.terminal).1 (cursorOf v1.terminal).2
        (cursorOf v2.terminal).1 (cursorOf v2.terminal).2 v1.terminal.pendingWrap = true

/-- `Line::contract` keeps the logical lines: the two pieces read like the row they came from -/
theorem C10_contract_content (l : Line) (len : Nat) (tail : List Line) :
    logicalLines ((l.contract len).1 :: ((l.contract len).2.toList ++ tail)) = logicalLines (l :: tail) :=
  contract_content l len tail

/-- `Line::extend` keeps the logical lines: what it returns reads like the two rows it was given -/
theorem C10_extend_content {l other : Line} {len : Nat} {l' : Line} {emit : Bool} {r : Option Line}
    (h : l.extend other len = some (l', emit, r)) (tail : List Line) :
    logicalLines (l' :: (r.toList ++ tail)) = logicalLines (l :: other :: tail) :=
  (extend_spec h).1 tail

/-- reflowing any list of rows to any width keeps the logical lines -/
theorem C10_reflow_logical {ls out : List Line} {c : Nat} (h : Buffer.reflow ls c = some out) :
    logicalLines out = logicalLines ls :=
  reflow_logical h

/-- `Buffer.resize` for every geometry and every cursor -/
theorem C10_buffer_resize_lines {b b' : Buffer} {c r : Nat} {cur cur' : Nat × Nat}
    (h : b.resize c r cur = some (b', cur')) :
    keptOrCut (logicalLines b.lines) (logicalLines b'.lines) = true :=
  resize_lines h

/-- **C10 (line content), every resize.**  For `Vt.resize` to any width and height on an unlimited
    buffer: the logical lines afterwards are the old ones in order, where the last ones may have been
    dropped and one cut short (rows dropped at the bottom), followed at most by blank filler. -/
theorem C10_resize_lines {v v' : Vt} {c r : Nat} {ch : Changes}
    (hlim : v.terminal.buffer.limit = none) (h : v.resize c r = some (v', ch)) :
    keptOrCut (logicalLines v.terminal.buffer.lines) (logicalLines v'.terminal.buffer.lines) = true := by
  obtain ⟨b', cur', h1, h2, -⟩ := vt_resize_buffer hlim h
  rw [h2]; exact resize_lines h1

/-- what a height-only `Buffer.resize` does to the rows and to the cursor -/
theorem C10_rows_only_rows {b b' : Buffer} {r' : Nat} {cur cur' : Nat × Nat}
    (hview : b.view.length = b.rows) (hcur : cur.2 < b.rows)
    (h : b.resize b.cols r' cur = some (b', cur')) :
    rowsOnlyOK b b' cur cur' = true :=
  resize_rows_only hview hcur h

/-- **C10 for `Vt.resize`**, every flag: the whole relation read at the cursor's own wrap-pending
    flag and, after a width change, at the other one too (`p = false` for a wrap-pending cursor is
    what `C10_pending_place_width` needs); the same logical position when the width is kept.  Such a
    resize is `Buffer.resize` of the active buffer (`Lemmas.buffer_resize_rel`). -/
theorem vt_resize_rel {v v' : Vt} {c r : Nat} {ch : Changes} (hinv : Inv v = true) (hc1 : 1 ≤ c)
    (hprim : v.terminal.activeBufferType = .primary) (hlim : v.terminal.scrollbackLimit = none)
    (h : v.resize c r = some (v', ch)) :
    (∀ p : Bool, (c = v.terminal.cols → p = false → v.terminal.pendingWrap = false) →
      resizeRel (logicalLines v.terminal.buffer.lines) (logicalLines v'.terminal.buffer.lines)
        (cursorOf v.terminal).1 (cursorOf v.terminal).2
        (cursorOf v'.terminal).1 (cursorOf v'.terminal).2 p = true)
    ∧ (c = v.terminal.cols → cursorOf v'.terminal = cursorOf v.terminal) := by
  have T := ((Vt.inv_iff v).1 hinv).2
  have hl : v.terminal.buffer.limit = none := by rw [T.lim_primary hprim, hlim]; rfl
  obtain ⟨b', cur', h1, h2, h3, -, -, h6, h7⟩ := vt_resize_buffer hl h
  have hcur' : cursorOf v'.terminal = cursorLogical b' cur' := by
    simp only [cursorOf, cursorLogical, h2, h3, h6, h7]
  rw [hcur', h2, ← T.bcols]
  obtain ⟨k1, k2⟩ := buffer_resize_rel T.bok.hv T.bok.hr T.bok.lines_facts.2.1 T.bok.lines_facts.2.2
    T.brow hc1 (fun _ => T.bcol_le) h1
  refine ⟨fun p hp => k1 p fun e0 p0 => ?_, k2⟩
  rcases T.ccol with ⟨hw, -⟩ | ⟨-, hlt⟩
  · rw [hp e0 p0] at hw; cases hw
  · exact T.bcols ▸ hlt

/-- **C10 for resizes that keep the width** (any new height): the full relation — the cursor stays
    in the same logical line at the same offset, every line above is unchanged, the text before the
    cursor is intact, the cursor is on the same character, and the lines from the cursor's line on are
    kept or cut short at the bottom (blank filler may follow). -/
theorem C10_rows_only {v v' : Vt} {r : Nat} {ch : Changes} (hinv : Inv v = true)
    (hprim : v.terminal.activeBufferType = .primary) (hlim : v.terminal.scrollbackLimit = none)
    (h : v.resize v.terminal.cols r = some (v', ch)) :
    resizeRel (logicalLines v.terminal.buffer.lines) (logicalLines v'.terminal.buffer.lines)
      (cursorOf v.terminal).1 (cursorOf v.terminal).2
      (cursorOf v'.terminal).1 (cursorOf v'.terminal).2 v.terminal.pendingWrap = true :=
  (vt_resize_rel hinv ((Vt.inv_iff v).1 hinv).2.c1 hprim hlim h).1 _ fun _ h0 => h0

theorem C10_resize : C10_resize_full := fun v _ _ _ _ hinv hc1 _ hprim hlim h =>
  (vt_resize_rel hinv hc1 hprim hlim h).1 v.terminal.pendingWrap fun _ h0 => h0

/-- **C10, the wrap-pending cursor** (same hypotheses as `C10_resize_full`): if the cursor is
    wrap-pending and its logical offset names a character of the text (`pendingOnChar`: the row is
    soft-wrapped, the character is the first cell of the next row), then after the resize the cursor
    has the same logical offset, and
    * if the width changed, it is on that same character (`onCharOK`);
    * if only the height changed, the character at that offset is the same one, or the cursor's line
      now ends at the cursor (the rows below the cursor row were dropped) (`pendingPlaceOK`). -/
def C10_pending_place_full : Prop :=
  ∀ (v v' : Vt) (c r : Nat) (ch : Changes),
    Inv v = true → 1 ≤ c → 1 ≤ r →
    v.terminal.activeBufferType = .primary → v.terminal.scrollbackLimit = none →
    v.resize c r = some (v', ch) →
    pendingPlaceRel (logicalLines v.terminal.buffer.lines) (logicalLines v'.terminal.buffer.lines)
      (cursorOf v.terminal).1 (cursorOf v.terminal).2 (cursorOf v'.terminal).2
      v.terminal.pendingWrap (v'.terminal.buffer.cols != v.terminal.buffer.cols) = true

/-- a resize that changes the width: a wrap-pending cursor whose offset names a character of the text
    ends up ON that character (same offset, same cell) -/
theorem C10_pending_place_width {v v' : Vt} {c r : Nat} {ch : Changes} (hinv : Inv v = true)
    (hc1 : 1 ≤ c)
    (hprim : v.terminal.activeBufferType = .primary) (hlim : v.terminal.scrollbackLimit = none)
    (hne : c ≠ v.terminal.cols) (h : v.resize c r = some (v', ch))
    (hp : pendingOnChar (logicalLines v.terminal.buffer.lines)
      (cursorOf v.terminal).1 (cursorOf v.terminal).2 v.terminal.pendingWrap = true) :
    onCharOK (logicalLines v.terminal.buffer.lines) (logicalLines v'.terminal.buffer.lines)
      (cursorOf v.terminal).1 (cursorOf v.terminal).2 (cursorOf v'.terminal).2 = true :=
  onCharOK_of_rel_false ((vt_resize_rel hinv hc1 hprim hlim h).1 false fun e => absurd e hne) hp

/-- a resize that keeps the width (any new height), EVERY cursor (wrap-pending or not): the cursor
    keeps its logical offset, and the character at that offset is the same one — or the cursor's line
    was cut at the cursor (only possible for a wrap-pending cursor, whose character is on the next
    row: rows below the cursor row may be dropped) -/
theorem C10_pending_place_rows {v v' : Vt} {r : Nat} {ch : Changes} (hinv : Inv v = true)
    (hprim : v.terminal.activeBufferType = .primary) (hlim : v.terminal.scrollbackLimit = none)
    (h : v.resize v.terminal.cols r = some (v', ch)) :
    pendingPlaceOK (logicalLines v.terminal.buffer.lines) (logicalLines v'.terminal.buffer.lines)
      (cursorOf v.terminal).1 (cursorOf v.terminal).2 (cursorOf v'.terminal).2 = true := by
  obtain ⟨k1, k2⟩ := vt_resize_rel hinv ((Vt.inv_iff v).1 hinv).2.c1 hprim hlim h
  exact pendingPlaceOK_of_rel (k1 true fun _ => nofun) (congrArg Prod.snd (k2 rfl))

theorem C10_pending_place : C10_pending_place_full := by
  intro v v' c r ch hinv hc1 _ hprim hlim h
  rw [vt_resize_cols h, ((Vt.inv_iff v).1 hinv).2.bcols]
  simp only [pendingPlaceRel, Bool.or_eq_true, Bool.not_eq_true']
  cases hp : pendingOnChar (logicalLines v.terminal.buffer.lines)
      (cursorOf v.terminal).1 (cursorOf v.terminal).2 v.terminal.pendingWrap with
  | false => exact Or.inl rfl
  | true =>
    right
    by_cases hsame : c = v.terminal.cols
    · subst hsame
      rw [bne_self_eq_false, if_neg Bool.false_ne_true]
      exact C10_pending_place_rows hinv hprim hlim h
    · rw [bne_iff_ne.2 hsame, if_pos rfl]
      exact C10_pending_place_width hinv hc1 hprim hlim hsame h hp

/-- in every case (whatever changed) the wrap-pending cursor on a character keeps its logical offset,
    and the character there is the same one or the line was cut at the cursor -/
theorem C10_pending_place_weak {v v' : Vt} {c r : Nat} {ch : Changes} (hinv : Inv v = true)
    (hc1 : 1 ≤ c) (hr1 : 1 ≤ r)
    (hprim : v.terminal.activeBufferType = .primary) (hlim : v.terminal.scrollbackLimit = none)
    (h : v.resize c r = some (v', ch))
    (hp : pendingOnChar (logicalLines v.terminal.buffer.lines)
      (cursorOf v.terminal).1 (cursorOf v.terminal).2 v.terminal.pendingWrap = true) :
    pendingPlaceOK (logicalLines v.terminal.buffer.lines) (logicalLines v'.terminal.buffer.lines)
      (cursorOf v.terminal).1 (cursorOf v.terminal).2 (cursorOf v'.terminal).2 = true :=
  pendingPlaceOK_of_pendingPlaceRel (C10_pending_place v v' c r ch hinv hc1 hr1 hprim hlim h) hp

/-- the restriction of `C10_resize_full` to `c = cols` -/
theorem C10_resize_partial : ∀ (v v' : Vt) (r : Nat) (ch : Changes),
    Inv v = true → v.terminal.activeBufferType = .primary → v.terminal.scrollbackLimit = none →
    v.resize v.terminal.cols r = some (v', ch) →
    resizeRel (logicalLines v.terminal.buffer.lines) (logicalLines v'.terminal.buffer.lines)
      (cursorOf v.terminal).1 (cursorOf v.terminal).2
      (cursorOf v'.terminal).1 (cursorOf v'.terminal).2 v.terminal.pendingWrap = true :=
  fun _ _ _ _ => C10_rows_only

/-- **C10 along chains of resizes**, given that `Vt.resize` preserves the global invariant (C02's
    theorem, taken as a hypothesis) -/
theorem C10_chain
    (hC02 : ∀ (w w' : Vt) (c r : Nat) (ch : Changes), Inv w = true → 1 ≤ c → 1 ≤ r →
      w.resize c r = some (w', ch) → Inv w' = true) : C10_chain_full := by
  intro v sizes hinv hprim hlim hsz pre c r post hsplit v1 v2 ch hpre hstep
  -- the state reached after the prefix still satisfies the hypotheses
  have key : ∀ (pre : List (Nat × Nat)) (w : Vt), Inv w = true →
      w.terminal.activeBufferType = .primary → w.terminal.scrollbackLimit = none →
      (∀ s ∈ pre, 1 ≤ s.1 ∧ 1 ≤ s.2) → ∀ w1,
      pre.foldlM (fun (w : Vt) s => (w.resize s.1 s.2).map (·.1)) w = some w1 →
      Inv w1 = true ∧ w1.terminal.activeBufferType = .primary ∧ w1.terminal.scrollbackLimit = none := by
    intro pre
    induction pre with
    | nil =>
      intro w hw hp hl _ w1 h1
      simp only [List.foldlM_nil, Option.pure_def, Option.some.injEq] at h1
      subst h1; exact ⟨hw, hp, hl⟩
    | cons s rest ih =>
      intro w hw hp hl hs w1 h1
      simp only [List.foldlM_cons, Option.bind_eq_bind] at h1
      cases hres : w.resize s.1 s.2 with
      | none => simp [hres] at h1
      | some res =>
        obtain ⟨w', ch'⟩ := res
        simp only [hres, Option.map_some, Option.bind_some] at h1
        have hs1 := hs s (by simp)
        obtain ⟨k1, k2⟩ := resize_keeps_mode hres
        exact ih w' (hC02 w w' s.1 s.2 ch' hw hs1.1 hs1.2 hres) (by rw [k1]; exact hp)
          (by rw [k2]; exact hl) (fun x hx => hs x (by simp [hx])) w1 h1
  have hpre' : ∀ s ∈ pre, 1 ≤ s.1 ∧ 1 ≤ s.2 := fun s hs => hsz s (by rw [hsplit]; simp [hs])
  obtain ⟨i1, i2, i3⟩ := key pre v hinv hprim hlim hpre' v1 hpre
  have hcr := hsz (c, r) (by rw [hsplit]; simp)
  exact C10_resize v1 v2 c r ch i1 hcr.1 hcr.2 i2 i3 hstep

/-- `cursorLogical` (defined from the row structure) is what `Buffer::logical_position` computes -/
theorem C10_cursorLogical_eq_logicalPosition {b : Buffer} {cur : Nat × Nat}
    (hview : b.view.length = b.rows) (hlens : ∀ l ∈ b.lines, l.len = b.cols) (hcur : cur.2 < b.rows) :
    Buffer.logicalPosition b.lines cur b.cols b.rows
      = some ((cursorLogical b cur).2, (cursorLogical b cur).1) :=
  cursorLogical_eq_logicalPosition hview hlens hcur

/-! ### a concrete instance: 3x2 terminal after "abcd", cursor moved back onto the 'd' -/

def demo : Option Vt :=
  (Vt.new 3 2 none).bind fun v => (v.feedStr [0x61, 0x62, 0x63, 0x64, 0x1b, 0x5b, 0x44]).map (·.1)

def relOf (v v' : Vt) : Bool :=
  resizeRel (logicalLines v.terminal.buffer.lines) (logicalLines v'.terminal.buffer.lines)
    (cursorOf v.terminal).1 (cursorOf v.terminal).2
    (cursorOf v'.terminal).1 (cursorOf v'.terminal).2 v.terminal.pendingWrap

/-- the hypotheses of `C10_rows_only` / `C10_resize_full` are satisfiable, the cursor is on a
    character of the text (offset 3 of "abcd", wrapped over two rows), and the relation holds for a
    narrowing resize (3x2 → 2x2: three rows, the cursor's line index and offset are kept), a widening
    one (→ 5x1) and a height-only one (→ 3x1, which must not cut the text before the cursor) -/
example :
    (match demo with
     | some v =>
       Inv v && v.terminal.activeBufferType == .primary && v.terminal.scrollbackLimit == none
         && cursorOf v.terminal == (0, 3)
         && onChar (logicalLines v.terminal.buffer.lines) 0 3 v.terminal.pendingWrap
         && (match v.resize 2 2, v.resize 5 1, v.resize 3 1 with
             | some (a, _), some (b, _), some (c, _) =>
               relOf v a && relOf v b && relOf v c && cursorOf a.terminal == (0, 3)
                 && cursorOf b.terminal == (0, 3) && cursorOf c.terminal == (0, 3)
             | _, _, _ => false)
     | none => false) = true := by decide

/-! ### a concrete instance for the wrap-pending cursor: 4x3 terminal, "abcdefgh", CUP 1;4, "X" -/

/-- "abcdefgh" on 4 columns (row 0 "abcd" soft-wrapped, row 1 "efgh"), `CUP 1;4` (1-based: row 0,
    column 3), print "X" there: the cursor is wrap-pending in row 0 at column 4, its logical offset 4
    names the 'e' -/
def demoPending : Option Vt :=
  (Vt.new 4 3 none).bind fun v =>
    (v.feedStr [0x61, 0x62, 0x63, 0x64, 0x65, 0x66, 0x67, 0x68, 0x1b, 0x5b, 0x31, 0x3b, 0x34, 0x48, 0x58]).map (·.1)

def pendingRelOf (v v' : Vt) : Bool :=
  pendingPlaceRel (logicalLines v.terminal.buffer.lines) (logicalLines v'.terminal.buffer.lines)
    (cursorOf v.terminal).1 (cursorOf v.terminal).2 (cursorOf v'.terminal).2
    v.terminal.pendingWrap (v'.terminal.buffer.cols != v.terminal.buffer.cols)

/-- the hypotheses of `C10_pending_place` are satisfiable with `pendingOnChar = true`, and the clause
    holds for a widening resize (4x3 → 8x3: one row "abcXefgh", cursor on the 'e' at column 4, not
    pending), a narrowing one (→ 2x4: five rows, one in the scrollback, cursor on the 'e' at column 0
    of view row 1) and two height-only ones (→ 4x2 keeps the 'e' row; → 4x1 drops it: the line is cut
    at the cursor, the disjunct `b.length ≤ o`) -/
example :
    (match demoPending with
     | some v =>
       Inv v && v.terminal.activeBufferType == .primary && v.terminal.scrollbackLimit == none
         && v.terminal.pendingWrap && v.terminal.cursor.col == 4 && v.terminal.cursor.row == 0
         && cursorOf v.terminal == (0, 4)
         && pendingOnChar (logicalLines v.terminal.buffer.lines) 0 4 v.terminal.pendingWrap
         && (match v.resize 8 3, v.resize 2 4, v.resize 4 2, v.resize 4 1 with
             | some (a, _), some (b, _), some (c, _), some (d, _) =>
               pendingRelOf v a && pendingRelOf v b && pendingRelOf v c && pendingRelOf v d
                 && cursorOf a.terminal == (0, 4) && cursorOf b.terminal == (0, 4)
                 && cursorOf c.terminal == (0, 4) && cursorOf d.terminal == (0, 4)
                 && onCharOK (logicalLines v.terminal.buffer.lines) (logicalLines a.terminal.buffer.lines) 0 4 4
                 && onCharOK (logicalLines v.terminal.buffer.lines) (logicalLines b.terminal.buffer.lines) 0 4 4
                 && onCharOK (logicalLines v.terminal.buffer.lines) (logicalLines c.terminal.buffer.lines) 0 4 4
                 && !onCharOK (logicalLines v.terminal.buffer.lines) (logicalLines d.terminal.buffer.lines) 0 4 4
                 && (a.terminal.cursor.col, a.terminal.cursor.row, a.terminal.pendingWrap) == (4, 0, false)
                 && (b.terminal.cursor.col, b.terminal.cursor.row, b.terminal.pendingWrap) == (0, 1, false)
             | _, _, _, _ => false)
     | none => false) = true := by decide

end Avt.Props.C10
