/-
  Avt.Props.C12 — property C12: the result of feeding a string is independent of how it is chunked.

  Technique (DESIGN.md §6 C12): lock-step relation `Frame.Rel` ("`a` is `b` with more scrollback":
  every field equal except the amount of retained scrollback, `trimNeeded`, the dirty flags) is
  preserved by `Terminal.execute f` for EVERY `Function` (`Frame.execute_frame`, all 50 constructors,
  buffer switches and RIS included), `gc` only drops a prefix of the scrollback (`Frame.gc_spec`), and
  any series of `feed_str` calls is shadowed by one `feedAll` of the concatenated input
  (`Frame.runFeeds_ghost`).  The conclusions are stated with the decidable predicates of
  `Avt.Spec.C12` — the ones the oracle evaluates on the implementation's states.

  In avt's terms, with `Inv` of the start state as the only hypothesis: any two series of `feed_str`
  calls on consecutive pieces of the same input leave the same observable state (`equivChunk`) and,
  without scrollback limit, the same `lines()` while the primary screen shows (`C12_sessions`;
  `C12_feedStrs`, where the second series is one call, says what that means; `C12_feedStrs_total`:
  one panics iff the other does).  On the alternate screen `lines()` agrees given C13's `altClean`
  of the two end states (Props/Closed2.lean discharges it).  For per-character `Vt::feed` against
  `feed_str` the `lines()` clause holds when the primary screen is active at the end
  (`C12_feedChars_partial`); unrestricted (`C12_feed_full`) it is FALSE of the pinned code:
  `C12_feed_full_false`, known finding KF4, witness 7x1, `CSI ?47h` + 8 letters.
  `coveredFrame`, the functions the frame lemma covers, is constantly `true` (`C12_covered_all`).
-/
import Avt.Lemmas.FrameStream

namespace Avt.C12
open Avt Avt.Frame Avt.Spec.C12

/-- a series of `feed_str` calls on consecutive pieces -/
def feedStrs (v : Vt) (chunks : List (List Nat)) : Option Vt := (runFeeds v chunks).map (·.1)

/-- per-character feeding through `Vt::feed` is, by definition, the fold `Vt.feedAll` -/
def feedChars (v : Vt) (xs : List Nat) : Option Vt := v.feedAll xs

theorem feedChars_cons (v : Vt) (c : Nat) (cs : List Nat) :
    feedChars v (c :: cs) = match v.feed c with | some v' => feedChars v' cs | none => none := by
  unfold feedChars
  rw [Vt.feedAll]
  cases v.feed c <;> rfl

/-- Related terminals step to related terminals, or both panic (`Frame.execute_frame`, every
    `Function`). -/
theorem C12_frame_execute {P : Par} {a b a' : Terminal} {f : Function} (hg : P.g = true)
    (R : Rel P a b) (hs : P.s = true ∨ f ≠ .ris) (hc : coveredFrame f = true)
    (h : a.execute f = some a') :
    ∃ b' P', b.execute f = some b' ∧ Rel P' a' b' ∧ P'.g = true ∧ P'.s = P.s ∧ P'.L = P.L
      ∧ (f ≠ .ris → P'.prim = P.prim) ∧ (f = .ris → P'.prim = []) := by
  rcases execute_frame hg R f hs with ⟨ha, _⟩ | ⟨a2, b', P', ha, hb, r⟩
  · rw [h] at ha; cases ha
  · rw [h] at ha; cases ha; exact ⟨b', P', hb, r⟩

theorem C12_covered_all (f : Function) : coveredFrame f = true := rfl

private theorem prim_nil (s g : Bool) (L : Option Nat) (T : BufferType) :
    (⟨s, g, L, T, [], []⟩ : Par).prim = [] := by cases T <;> rfl

/-- a session from a state with the invariant, seen from the ghost -/
theorem session_ghost {v v' : Vt} {d : List Line} {ss : List (List Nat)} (hI : Inv v = true)
    (h : runFeeds v ss = some (v', d)) :
    ∃ g Q, v.feedAll ss.flatten = some g ∧ VRel Q g v' ∧ Q.s = true
      ∧ (v.terminal.scrollbackLimit = none → Q.prim = []) := by
  obtain ⟨g, Q, hg, R, _, hs, _, _, _, he⟩ := runFeeds_ghost ss (VRel.ofInv hI) rfl (Or.inl rfl) h
  exact ⟨g, Q, hg, R, hs, fun hL => he rfl hL (prim_nil ..)⟩

/-- **C12, any two chunkings.**  Two series of `feed_str` calls whose pieces concatenate to the same
    input; `C12_feedStrs` below, where the second series is one call, says what the conclusion means. -/
theorem C12_sessions {v v1 v2 : Vt} {d1 d2 : List Line} {ss1 ss2 : List (List Nat)}
    (hI : Inv v = true) (hcat : ss1.flatten = ss2.flatten)
    (h1 : runFeeds v ss1 = some (v1, d1)) (h2 : runFeeds v ss2 = some (v2, d2)) :
    equivChunk v1 v2 = true
    ∧ (v.terminal.scrollbackLimit = none →
        v1.terminal.primaryBuffer.sb = v2.terminal.primaryBuffer.sb
        ∧ (v1.terminal.activeBufferType = .primary → v1.lines = v2.lines)
        ∧ (altClean v1 = true → altClean v2 = true → equivLines v1 v2 = true)) := by
  -- both end states are strict relatives of the same ghost
  obtain ⟨g, P, hg, R1, hPs, hPp⟩ := session_ghost hI h1
  obtain ⟨g', Q, hg', R2, hQs, hQp⟩ := session_ghost hI h2
  rw [← hcat, hg] at hg'; cases hg'
  have heq : equivChunk v1 v2 = true := equivChunk_of R1 R2 hPs hQs
  refine ⟨heq, fun hL => ?_⟩
  have hsb := primarySb_of R1.term R2.term (hPp hL) (hQp hL)
  have hlines : v1.terminal.activeBufferType = .primary → v1.lines = v2.lines :=
    fun hT => lines_of R1.term R2.term (hPp hL) (hQp hL) hT
  refine ⟨hsb, hlines, fun c1 c2 => ?_⟩
  unfold equivLines
  have hl : v1.lines = v2.lines := by
    cases hT : v1.terminal.activeBufferType with
    | primary => exact hlines hT
    | alternate =>
      have hTw : v2.terminal.activeBufferType = .alternate := by
        rw [← R2.term.activeBufferType, R1.term.activeBufferType]; exact hT
      simp only [altClean, hT, hTw, bne_self_eq_false, Bool.false_or, List.isEmpty_iff] at c1 c2
      show v1.terminal.buffer.lines = v2.terminal.buffer.lines
      unfold Buffer.lines
      rw [c1, c2, ← R1.term.buf.view, ← R2.term.buf.view]
  simp [heq, hl, hsb]

/-- **C12, `feed_str`.**  Any series of `feed_str` calls on consecutive pieces (cut anywhere) and one
    `feed_str` of the whole leave the same visible screen, cursor, modes, parser and parked buffer
    (`equivChunk`), for every scrollback limit; with unlimited scrollback also the same primary
    scrollback, hence the same `lines()` while the primary screen is showing — and on the alternate
    screen too, given that `feed_str` leaves no scrollback there (`altClean`, property C13). -/
theorem C12_feedStrs {v v2 w : Vt} {cw : Changes} {chunks : List (List Nat)}
    (hI : Inv v = true) (h : feedStrs v chunks = some v2)
    (hw : v.feedStr chunks.flatten = some (w, cw)) :
    equivChunk v2 w = true
    ∧ (v.terminal.scrollbackLimit = none →
        v2.terminal.primaryBuffer.sb = w.terminal.primaryBuffer.sb
        ∧ (v2.terminal.activeBufferType = .primary → v2.lines = w.lines)
        ∧ (altClean v2 = true → altClean w = true → equivLines v2 w = true)) := by
  obtain ⟨⟨v2', d⟩, hr, rfl⟩ := Option.map_eq_some_iff.1 h
  exact C12_sessions (ss2 := [chunks.flatten]) hI (by simp) hr (runFeeds_one hw)

/-- the two-piece form of DESIGN.md: `feedStr (feedStr v xs).1 ys` vs `feedStr v (xs ++ ys)` -/
theorem C12_feedStr {v v1 v2 w : Vt} {c1 c2 cw : Changes} {xs ys : List Nat}
    (hI : Inv v = true) (h1 : v.feedStr xs = some (v1, c1)) (h2 : v1.feedStr ys = some (v2, c2))
    (hw : v.feedStr (xs ++ ys) = some (w, cw)) :
    equivChunk v2 w = true
    ∧ (v.terminal.scrollbackLimit = none →
        v2.terminal.primaryBuffer.sb = w.terminal.primaryBuffer.sb
        ∧ (v2.terminal.activeBufferType = .primary → v2.lines = w.lines)
        ∧ (altClean v2 = true → altClean w = true → equivLines v2 w = true)) := by
  exact C12_sessions (ss1 := [xs, ys]) (ss2 := [xs ++ ys]) hI (by simp)
    (by simp only [runFeeds, h1, h2, Option.map_some]; rfl) (runFeeds_one hw)

/-- chunking cannot turn a panic into a success or vice versa -/
theorem C12_feedStrs_total {v : Vt} (chunks : List (List Nat)) (hI : Inv v = true) :
    (feedStrs v chunks).isSome = (v.feedStr chunks.flatten).isSome := by
  rw [feedStrs, Option.isSome_map]
  exact runFeeds_total chunks (VRel.ofInv hI) rfl rfl

/-- **C12, `Vt::feed` per character (restricted).**  `feed_str v xs` and feeding `xs` one character at
    a time through `Vt::feed` agree on everything in `equivChunk` for every limit; with unlimited
    scrollback the primary scrollback agrees, and `lines()` agrees PROVIDED the primary screen is
    active at the end.  (On the alternate screen it does not: known finding KF4, see below.) -/
theorem C12_feedChars_partial {v g w : Vt} {cw : Changes} {xs : List Nat}
    (hI : Inv v = true) (hg : feedChars v xs = some g) (hw : v.feedStr xs = some (w, cw)) :
    equivChunk w g = true
    ∧ (v.terminal.scrollbackLimit = none →
        w.terminal.primaryBuffer.sb = g.terminal.primaryBuffer.sb
        ∧ (g.terminal.activeBufferType = .primary → w.lines = g.lines)) := by
  -- the ghost of the one-piece session is the per-character run itself
  obtain ⟨g', Q, hg', RQ, hQs, hQp⟩ := session_ghost hI (runFeeds_one hw)
  rw [List.flatten_singleton, show v.feedAll xs = some g from hg] at hg'; cases hg'
  have h0 := feedAll_rel (VRel.ofInv hI) rfl xs (Or.inl rfl)
  rw [show v.feedAll xs = some g from hg] at h0
  obtain ⟨P1, R1, st1⟩ := h0
  refine ⟨equivChunk_of RQ R1 hQs st1.s, fun hL => ?_⟩
  have p1 : P1.prim = [] := st1.reset.elim (fun h => h.trans (prim_nil ..)) id
  exact ⟨primarySb_of RQ.term R1.term (hQp hL) p1,
    fun hT => lines_of RQ.term R1.term (hQp hL) p1 (RQ.term.activeBufferType ▸ hT)⟩

/-- the full `lines()` clause of C12 for `Vt::feed`, as the property states it -/
def C12_feed_full : Prop :=
  ∀ (v : Vt) (xs : List Nat), Inv v = true → v.terminal.scrollbackLimit = none →
    (feedChars v xs).map Vt.lines = (v.feedStr xs).map (fun r => r.1.lines)

/-- KF4 witness: a fresh 7x1 terminal without scrollback limit, `CSI ? 47 h` followed by eight letters -/
def kf4Start : Vt := (Vt.new 7 1 none).getD default
def kf4Input : List Nat :=
  [0x1b, 0x5b, 0x3f, 0x34, 0x37, 0x68, 0x5a, 0x48, 0x44, 0x47, 0x59, 0x5a, 0x46, 0x58]

/-- On the witness everything C12 states apart from that clause does hold, the oracle's classifier
    recognises it, and the two sides have 2 resp. 1 lines. -/
theorem kf4_run :
    (match feedChars kf4Start kf4Input, kf4Start.feedStr kf4Input with
     | some g, some (w, _) => equivChunk w g && kf4 w g && (g.lines.length == 2) && (w.lines.length == 1)
     | _, _ => false) = true := by decide +kernel

/-- **The full statement is false of the pinned code** (known finding KF4): `Vt::feed` never runs `gc`,
    so the row scrolled off the alternate screen is still in `lines()` (2 lines vs 1). -/
theorem C12_feed_full_false : ¬ C12_feed_full := by
  intro h
  have h1 := h kf4Start kf4Input (by decide +kernel) (by decide +kernel)
  have h2 := kf4_run
  cases hg : feedChars kf4Start kf4Input with
  | none => rw [hg] at h2; cases h2
  | some g =>
    cases hw : kf4Start.feedStr kf4Input with
    | none => rw [hg, hw] at h2; cases h2
    | some r =>
      rw [hg, hw] at h1 h2
      simp only [Option.map_some, Option.some.injEq] at h1
      simp only [Bool.and_eq_true, beq_iff_eq] at h2
      have := h2.1.2
      rw [h1, h2.2] at this
      cases this

example :
    (match feedChars kf4Start kf4Input, kf4Start.feedStr kf4Input with
     | some g, some (w, _) => equivChunk w g && kf4 w g && (g.lines.length == 2) && (w.lines.length == 1)
     | _, _ => false) = true := kf4_run

/-- the hypotheses of `C12_feedStr` are satisfiable on a non-trivial state: 4x2, limit 1, text that
    wraps and scrolls, cut inside an escape sequence (an SGR) -/
example :
    (match Vt.new 4 2 (some 1) with
     | some v =>
       Inv v &&
       (match v.feedStr [0x61, 0x62, 0x63, 0x64, 0x65, 0x0a, 0x1b, 0x5b, 0x33],
              v.feedStr [0x61, 0x62, 0x63, 0x64, 0x65, 0x0a, 0x1b, 0x5b, 0x33, 0x31, 0x6d, 0x66, 0x0a, 0x67, 0x0a, 0x68] with
        | some (v1, _), some (w, _) =>
          (match v1.feedStr [0x31, 0x6d, 0x66, 0x0a, 0x67, 0x0a, 0x68] with
           | some (v2, _) => equivChunk v2 w && (v2 != v1) && (w.terminal.buffer.sb.length == 1)
           | none => false)
        | _, _ => false)
     | none => false) = true := by decide +kernel

end Avt.C12
