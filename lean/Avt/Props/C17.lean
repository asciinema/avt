/-
  Avt.Props.C17 — save/restore cursor round-trips the full context, per screen.

  Specification: `Avt.Spec.C17` (`ctxOf`, `defaultCtx`, `clampCtx`, `stepOK`, `touchesCtx`, …).  All
  statements are unbounded (every terminal state, every size, every `Function`).
-/
import Avt.Lemmas.C17Multi
import Avt.Lemmas.PowerOn

namespace Avt.Props.C17
open Avt Avt.Spec.C17

/-- the three spellings of a save that does nothing else -/
def IsPlainSave (f : Function) : Prop :=
  f = .decsc ∨ f = .scosc ∨ f = .decset [.saveCursor]

/-- the restores that do nothing else -/
def IsPlainRestore (f : Function) : Prop :=
  f = .decrc ∨ f = .scorc ∨ f = .decrst [.saveCursor]

/-- **Per-step specification** (all three clauses, every constructor of `Function`): whatever the
    model does in one function is what `stepOK` — the predicate the oracle evaluates on the
    implementation — allows. -/
theorem C17_step {t t' : Terminal} {f : Function} (hi : TInv t = true) (h : t.execute f = some t') :
    stepOK t f t' = true := step_ok hi h

/-- **Clause 1.**  A save records (min col (cols-1), row, pen, origin, auto-wrap) of the current
    state in the active context and changes nothing else. -/
theorem C17_save {t t' : Terminal} {f : Function} (hf : IsPlainSave f) (h : t.execute f = some t') :
    t' = { t with savedCtx := ctxOf t } := by
  rcases hf with rfl | rfl | rfl
  · exact saveCursor_eq h
  · exact saveCursor_eq h
  · exact saveCursor_eq ((Terminal.foldM'_single ..).symm.trans h)

/-- the save half of `?1049h`: the context of the screen that was showing is `ctxOf t` afterwards
    (it is parked in `alternateSavedCtx` when the switch happens, clamped in place otherwise) -/
theorem C17_save_1049 {t t' : Terminal} (h : t.execute (.decset [.saveCursorAltScreenBuffer]) = some t') :
    (t'.savedCtx, t'.alternateSavedCtx)
      = (if t.activeBufferType = .alternate
         then (clampCtx t.cols t.rows (ctxOf t), t.alternateSavedCtx)
         else (clampCtx t.cols t.rows t.alternateSavedCtx, ctxOf t)) := by
  have := decset_single_ok ((Terminal.foldM'_single ..).symm.trans h)
  simpa [stepOK, modeCtx, showScreen] using this

/-- **Clause 2.**  A restore sets column, row, pen, origin mode, auto-wrap mode from the active
    context, clears the pending wrap and leaves both contexts as they are. -/
theorem C17_restore_step {t t' : Terminal} {f : Function} (hf : IsPlainRestore f)
    (h : t.execute f = some t') :
    t'.cursor.col = t.savedCtx.cursorCol ∧ t'.cursor.row = t.savedCtx.cursorRow
      ∧ t'.pen = t.savedCtx.pen ∧ t'.originMode = t.savedCtx.originMode
      ∧ t'.autoWrapMode = t.savedCtx.autoWrapMode ∧ t'.pendingWrap = false
      ∧ t'.savedCtx = t.savedCtx ∧ t'.alternateSavedCtx = t.alternateSavedCtx := by
  have e : t' = t.restoreCursor := by
    rcases hf with rfl | rfl | rfl
    · simp only [Terminal.execute] at h; cases h; rfl
    · simp only [Terminal.execute] at h; cases h; rfl
    · cases (show t.decrstOne .saveCursor = some t' from (Terminal.foldM'_single ..).symm.trans h)
      rfl
  subst e
  simp [Terminal.restoreCursor]

/-- **Restore after save.**  If the active context at restore time is still the one the save wrote
    (clause 3 says when), the restore re-establishes column (clamped to the last real column), row,
    pen, origin mode and auto-wrap mode of the save-time state `s`, and no wrap is pending. -/
theorem C17_restore {s s1 t t' : Terminal} {f g : Function} (hf : IsPlainSave f) (hg : IsPlainRestore g)
    (hs : s.execute f = some s1) (hkeep : t.savedCtx = s1.savedCtx) (h : t.execute g = some t') :
    t'.cursor.col = min s.cursor.col (s.cols - 1) ∧ t'.cursor.row = s.cursor.row ∧ t'.pen = s.pen
      ∧ t'.originMode = s.originMode ∧ t'.autoWrapMode = s.autoWrapMode ∧ t'.pendingWrap = false := by
  have e := C17_save hf hs
  have r := C17_restore_step hg h
  rw [hkeep, e] at r
  exact ⟨r.1, r.2.1, r.2.2.1, r.2.2.2.1, r.2.2.2.2.1, r.2.2.2.2.2.1⟩

/-- **Clause 3 (frame), all ~50 constructors.**  A function that is not a save, a switch of screens,
    DECSTR or RIS leaves both saved contexts unchanged — moves, prints, SGR, erases, scrolls, mode
    changes, margin changes, tab operations, the restores themselves.  (`TInv` is needed only for
    `xtwinops`, which is inert because the flag is never set.) -/
theorem C17_frame {t t' : Terminal} {f : Function} (hi : TInv t = true) (h : t.execute f = some t')
    (hf : touchesCtx f = false) :
    t'.savedCtx = t.savedCtx ∧ t'.alternateSavedCtx = t.alternateSavedCtx := frame hi hf h

/-- a run of functions through states that satisfy the invariant (C02) -/
inductive Steps : Terminal → List Function → Terminal → Prop
  | nil (t : Terminal) : Steps t [] t
  | cons {t t1 t' : Terminal} {f : Function} {fs : List Function} :
      TInv t = true → t.execute f = some t1 → Steps t1 fs t' → Steps t (f :: fs) t'

/-- clause 3 over any history -/
theorem C17_frame_many {t t' : Terminal} {fs : List Function} (h : Steps t fs t')
    (hf : ∀ f ∈ fs, touchesCtx f = false) :
    t'.savedCtx = t.savedCtx ∧ t'.alternateSavedCtx = t.alternateSavedCtx := by
  induction h with
  | nil t => exact ⟨rfl, rfl⟩
  | cons hi he _ ih =>
    have h1 := frame hi (hf _ (by simp)) he
    have h2 := ih (fun f hm => hf f (by simp [hm]))
    exact ⟨h2.1.trans h1.1, h2.2.trans h1.2⟩

/-- **Round trip, regardless of what was executed in between** (moves, prints, SGR, mode and margin
    changes, restores …; excursions to the other screen and resets are the subject of
    `C17_separate`, `C17_default`, resizes of `C17_inside_after_resize`). -/
theorem C17_roundtrip {s s1 t t' : Terminal} {f g : Function} {fs : List Function}
    (hf : IsPlainSave f) (hg : IsPlainRestore g) (hs : s.execute f = some s1) (hmid : Steps s1 fs t)
    (hfs : ∀ x ∈ fs, touchesCtx x = false) (h : t.execute g = some t') :
    t'.cursor.col = min s.cursor.col (s.cols - 1) ∧ t'.cursor.row = s.cursor.row ∧ t'.pen = s.pen
      ∧ t'.originMode = s.originMode ∧ t'.autoWrapMode = s.autoWrapMode ∧ t'.pendingWrap = false :=
  C17_restore hf hg hs (C17_frame_many hmid hfs).1 h

/-- the exceptions of clause 3: DECSTR resets the active context only, RIS resets both -/
theorem C17_resets {t t' : Terminal} :
    (t.execute .decstr = some t' → t'.savedCtx = defaultCtx ∧ t'.alternateSavedCtx = t.alternateSavedCtx)
    ∧ (t.execute .ris = some t' → t'.savedCtx = defaultCtx ∧ t'.alternateSavedCtx = defaultCtx) := by
  constructor
  · intro h
    obtain ⟨-, rfl⟩ := Terminal.softReset_eq_some_iff.1 h
    exact ⟨rfl, rfl⟩
  · intro h
    obtain ⟨-, rfl⟩ := Terminal.hardReset_eq_some_iff.1 h
    exact ⟨rfl, rfl⟩

/-- **Defaults.**  On a fresh terminal both contexts are the power-on default; after DECSTR the active
    one is; and a restore from the default context gives (0,0), default pen, origin off, auto-wrap on. -/
theorem C17_default :
    (∀ (cols rows : Nat) (lim : Option Nat) (t : Terminal), Terminal.new cols rows lim = some t →
        t.savedCtx = defaultCtx ∧ t.alternateSavedCtx = defaultCtx)
    ∧ (∀ t t' : Terminal, t.execute .decstr = some t' → t'.savedCtx = defaultCtx)
    ∧ (∀ (t t' : Terminal) (g : Function), IsPlainRestore g → t.savedCtx = defaultCtx → t.execute g = some t' →
        t'.cursor.col = 0 ∧ t'.cursor.row = 0 ∧ t'.pen = Pen.default ∧ t'.originMode = false
          ∧ t'.autoWrapMode = true ∧ t'.pendingWrap = false) := by
  refine ⟨?_, ?_, ?_⟩
  · intro cols rows lim t h
    obtain ⟨-, rfl⟩ := Terminal.new_eq_some_iff.1 h
    exact ⟨rfl, rfl⟩
  · intro t t' h
    exact (C17_resets.1 h).1
  · intro t t' g hg hd h
    have r := C17_restore_step hg h
    rw [hd] at r
    exact ⟨r.1, r.2.1, r.2.2.1, r.2.2.2.1, r.2.2.2.2.1, r.2.2.2.2.2.1⟩

/-- **Separate contexts.**  An excursion to the other screen with a save there does not change this
    screen's context: switch away, save, switch back — the context is what it was, and the other
    screen's context is the one saved there.  (Both directions.) -/
theorem C17_separate {t t1 t2 t3 : Terminal} :
    (t.activeBufferType = .primary → t.switchToAlternateBuffer = some t1 → t1.saveCursor = some t2 →
      t2.switchToPrimaryBuffer = some t3 →
      t3.savedCtx = t.savedCtx ∧ t3.alternateSavedCtx = ctxOf t1)
    ∧ (t.activeBufferType = .alternate → t.switchToPrimaryBuffer = some t1 → t1.saveCursor = some t2 →
      t2.switchToAlternateBuffer = some t3 →
      t3.savedCtx = t.savedCtx ∧ t3.alternateSavedCtx = ctxOf t1) :=
  ⟨fun hp h1 h2 h3 => separate (to := .alternate) (by rw [hp]; decide) h1 h2 (by rw [hp]; exact h3),
   fun hp h1 h2 h3 => separate (to := .primary) (by rw [hp]; decide) h1 h2 (by rw [hp]; exact h3)⟩

/-- a save never writes the other screen's context (any spelling, including `?1049h` while the
    alternate screen is showing) -/
theorem C17_save_other {t t' : Terminal} {f : Function} (hf : IsPlainSave f) (h : t.execute f = some t') :
    t'.alternateSavedCtx = t.alternateSavedCtx := by
  rw [C17_save hf h]

/-- **Resize.**  After `Terminal.reflow` (the tail of every resize and of every switch of screens)
    the active context is the old one clamped into the screen, the other one is untouched, and the
    position a restore would go to lies inside the screen.  The hypothesis that `reflow` succeeds
    contains `Buffer.resize … = some …`; only the clamp matters here. -/
theorem C17_inside_after_resize {t t' : Terminal} (hc : 1 ≤ t.cols) (hr : 1 ≤ t.rows)
    (h : t.reflow = some t') :
    t'.savedCtx = clampCtx t.cols t.rows t.savedCtx ∧ t'.alternateSavedCtx = t.alternateSavedCtx
      ∧ t'.savedCtx.cursorCol < t'.cols ∧ t'.savedCtx.cursorRow < t'.rows
      ∧ t'.restoreCursor.cursor.col < t'.cols ∧ t'.restoreCursor.cursor.row < t'.rows := by
  have F := reflow_facts h
  have h1 : t'.savedCtx.cursorCol < t'.cols := by
    rw [F.saved, F.cols]; simp only [clampCtx]; omega
  have h2 : t'.savedCtx.cursorRow < t'.rows := by
    rw [F.saved, F.rows]; simp only [clampCtx]; omega
  exact ⟨F.saved, F.alt, h1, h2, h1, h2⟩

/-- the public resize: the clamp rule of the oracle (`resizeOK`) -/
theorem C17_resize {t t' : Terminal} {cols rows : Nat} (hc : 1 ≤ cols) (hr : 1 ≤ rows)
    (h : t.resize cols rows = some t') : resizeOK cols rows t t' = true := by
  have := resize_ok h
  simp only [resizeOK, this.1, this.2, beq_self_eq_true, Bool.true_and, ctxInside, clampCtx,
    Bool.and_eq_true, decide_eq_true_eq]
  omega

/-- **Lists of DEC modes act left to right**, each member exactly like the single-mode sequence
    (every list, every state): after `CSI ? ms h` the screen that is showing and the two saved
    contexts are those of the fold `afterDecset t ms` — a `?1048`/`?1049` inside the list records
    the column, row, pen, origin mode and auto-wrap mode in force at that point of the list
    (`(afterDecset t ms).cur`, which is also what the state shows at the end), in the context of the
    screen showing at that point; after `CSI ? ms l` they are those of `afterDecrst t ms`, and a
    restore at the end of the list shows the context of the screen showing at that point. -/
theorem C17_multi_mode {t t' : Terminal} {ms : List DecMode} (hi : TInv t = true) :
    (t.execute (.decset ms) = some t' →
        t'.activeBufferType = (afterDecset t ms).scr.active
        ∧ t'.savedCtx = (afterDecset t ms).scr.saved
        ∧ t'.alternateSavedCtx = (afterDecset t ms).scr.other
        ∧ ctxOf t' = (afterDecset t ms).cur)
    ∧ (t.execute (.decrst ms) = some t' →
        t'.activeBufferType = (afterDecrst t ms).active
        ∧ t'.savedCtx = (afterDecrst t ms).saved
        ∧ t'.alternateSavedCtx = (afterDecrst t ms).other
        ∧ lastRestoreOK ms t' = true) := by
  constructor
  · intro h
    simp only [Terminal.execute] at h
    have := decset_multi hi h
    simp only [Screens.holds, Bool.and_eq_true, beq_iff_eq] at this
    exact ⟨this.1.1.1, this.1.1.2, this.1.2, this.2⟩
  · intro h
    simp only [Terminal.execute] at h
    have := decrst_multi h
    simp only [Screens.holds, Bool.and_eq_true, beq_iff_eq] at this
    exact ⟨this.1.1.1, this.1.1.2, this.1.2, this.2⟩

/-- on a one-element list the fold is the single-mode rule `modeCtx` of `stepOK` -/
theorem C17_multi_single (t : Terminal) (m : DecMode) :
    ((afterDecset t [m]).scr.saved, (afterDecset t [m]).scr.other) = modeCtx t true m
    ∧ ((afterDecrst t [m]).saved, (afterDecrst t [m]).other) = modeCtx t false m :=
  ⟨afterDecset_single t m, afterDecrst_single t m⟩

/-- **`CSI ? 1047 ; 1048 h` vs `CSI ? 1048 ; 1047 h`** on the primary screen: with the switch first the
    save lands in the ALTERNATE screen's context and the primary screen's context is untouched (it is
    parked as the other one); with the save first the primary screen's context gets it and the
    alternate screen's (clamped into the screen) becomes active. -/
theorem C17_multi_order {t t' : Terminal} (hi : TInv t = true) (hp : t.activeBufferType = .primary) :
    (t.execute (.decset [.altScreenBuffer, .saveCursor]) = some t' →
        t'.activeBufferType = .alternate ∧ t'.savedCtx = ctxOf t ∧ t'.alternateSavedCtx = t.savedCtx)
    ∧ (t.execute (.decset [.saveCursor, .altScreenBuffer]) = some t' →
        t'.activeBufferType = .alternate ∧ t'.savedCtx = clampCtx t.cols t.rows t.alternateSavedCtx
        ∧ t'.alternateSavedCtx = ctxOf t) := by
  constructor
  · intro h
    obtain ⟨h1, h2, h3, _⟩ := (C17_multi_mode hi).1 h
    simpa [afterDecset, setOne, Screens.show, Screens.of, hp] using And.intro h1 (And.intro h2 h3)
  · intro h
    obtain ⟨h1, h2, h3, _⟩ := (C17_multi_mode hi).1 h
    simpa [afterDecset, setOne, Screens.show, Screens.of, hp] using And.intro h1 (And.intro h2 h3)

/-- what `stepOK` (hence `C17_step`, and the oracle on the implementation's states) says for a list of
    two or more DEC modes: exactly the fold -/
theorem C17_multi_step (t t' : Terminal) (m1 m2 : DecMode) (ms : List DecMode) :
    stepOK t (.decset (m1 :: m2 :: ms)) t' = (afterDecset t (m1 :: m2 :: ms)).scr.holds t'
    ∧ stepOK t (.decrst (m1 :: m2 :: ms)) t'
        = ((afterDecrst t (m1 :: m2 :: ms)).holds t' && lastRestoreOK (m1 :: m2 :: ms) t') :=
  ⟨rfl, rfl⟩

/-! ### the hypotheses are satisfiable on a concrete non-trivial state

  5x3 terminal, bold pen, cursor at (row 1, col 2): save, move and change the pen, go to the
  alternate screen and save there, come back, restore. -/

def exRun : Option (Terminal × Terminal × Terminal) := do
  let t ← Terminal.new 5 3 none
  let t ← t.execute (.sgr [.setBold, .setFg (.indexed 3)])
  let s ← t.execute (.cup 2 3)
  let s1 ← s.execute .decsc
  let t ← s1.execute (.cup 1 1)
  let t ← t.execute (.sgr [.reset])
  let t ← t.execute (.decset [.altScreenBuffer])
  let t ← t.execute .scosc
  let t ← t.execute (.decrst [.altScreenBuffer])
  let t' ← t.execute .decrc
  pure (s, t, t')

example : ∃ s t t', exRun = some (s, t, t') ∧ TInv s = true ∧ TInv t = true
    ∧ t.savedCtx = ctxOf s ∧ t'.cursor.col = 2 ∧ t'.cursor.row = 1 ∧ t'.pen = s.pen
    ∧ stepOK t .decrc t' = true := by
  refine ⟨_, _, _, rfl, ?_⟩
  decide

/-! 10x4 terminal, bold pen, a save on the primary screen at (col 5, row 2); then the cursor moves to
  (col 1, row 0) and the pen is reset, and one multi-mode sequence follows. -/

def exBase : Option (Terminal × Terminal) := do
  let t ← Terminal.new 10 4 none
  let t ← t.execute (.sgr [.setBold])
  let s ← t.execute (.cup 3 6)
  let t ← s.execute .decsc
  let t ← t.execute (.cup 1 2)
  let t ← t.execute (.sgr [.reset])
  pure (s, t)

/-- `?1047;1048h`: the ALTERNATE screen's context gets the save, the primary's (5,2,bold) is untouched -/
example : ∃ s t t', exBase = some (s, t) ∧ t.execute (.decset [.altScreenBuffer, .saveCursor]) = some t'
    ∧ TInv t = true ∧ t.savedCtx = ctxOf s ∧ (ctxOf s).cursorCol = 5 ∧ (ctxOf s).cursorRow = 2
    ∧ t'.activeBufferType = .alternate ∧ t'.savedCtx = ctxOf t ∧ (ctxOf t).cursorCol = 1
    ∧ t'.alternateSavedCtx = ctxOf s
    ∧ stepOK t (.decset [.altScreenBuffer, .saveCursor]) t' = true := by
  refine ⟨_, _, _, rfl, rfl, ?_⟩
  decide

/-- `?1048;1047h`: the PRIMARY screen's context gets the save, the alternate's stays the default -/
example : ∃ s t t', exBase = some (s, t) ∧ t.execute (.decset [.saveCursor, .altScreenBuffer]) = some t'
    ∧ t'.activeBufferType = .alternate ∧ t'.savedCtx = defaultCtx ∧ t'.alternateSavedCtx = ctxOf t
    ∧ t'.alternateSavedCtx ≠ ctxOf s
    ∧ stepOK t (.decset [.saveCursor, .altScreenBuffer]) t' = true
    -- the two orders are told apart: the result of one does not satisfy the specification of the other
    ∧ stepOK t (.decset [.altScreenBuffer, .saveCursor]) t' = false := by
  refine ⟨_, _, _, rfl, rfl, ?_⟩
  decide

/-- `?6;1048h` saves the homed cursor with origin mode on -/
example : ∃ s t t', exBase = some (s, t) ∧ t.execute (.decset [.origin, .saveCursor]) = some t'
    ∧ t'.savedCtx = { ctxOf t with cursorCol := 0, cursorRow := 0, originMode := true }
    ∧ stepOK t (.decset [.origin, .saveCursor]) t' = true := by
  refine ⟨_, _, _, rfl, rfl, ?_⟩
  decide

/-- `?1047;1048l` from the alternate screen (where (col 3, row 1) was saved): back on the primary
    screen, THEN the restore — from the primary screen's context (5,2,bold) -/
example : ∃ s t u t', exBase = some (s, t)
    ∧ (do let u ← t.execute (.decset [.altScreenBuffer]); let u ← u.execute (.cup 2 4); u.execute .scosc) = some u
    ∧ u.execute (.decrst [.altScreenBuffer, .saveCursor]) = some t'
    ∧ TInv u = true ∧ u.savedCtx.cursorCol = 3
    ∧ t'.activeBufferType = .primary ∧ t'.savedCtx = ctxOf s ∧ t'.alternateSavedCtx = u.savedCtx
    ∧ t'.cursor.col = 5 ∧ t'.cursor.row = 2 ∧ t'.pen = s.pen
    ∧ stepOK u (.decrst [.altScreenBuffer, .saveCursor]) t' = true
    -- the second `?47l` of `?1047;47l` is a swap that does nothing
    ∧ afterDecrst u [.altScreenBuffer, .altScreenBuffer] = afterDecrst u [.altScreenBuffer] := by
  refine ⟨_, _, _, _, rfl, rfl, rfl, ?_⟩
  decide

example : IsPlainSave .scosc ∧ IsPlainRestore (.decrst [.saveCursor]) := ⟨Or.inr (Or.inl rfl), Or.inr (Or.inr rfl)⟩

/-- leaving the alternate screen (`?47l` / `?1047l`) makes the parked context the active one again,
    clamped into the screen as it is now -/
theorem C17_leave {t t' : Terminal} (hi : TInv t = true) (ha : t.activeBufferType = .alternate)
    (h : t.execute (.decrst [.altScreenBuffer]) = some t') :
    t'.savedCtx = clampCtx t.cols t.rows t.alternateSavedCtx := by
  have hst := C17_step hi h
  simp only [stepOK, modeCtx, showScreen, ha, Bool.and_eq_true, beq_iff_eq] at hst
  have e := hst.1.1
  rw [if_neg (by decide)] at e
  exact (Prod.mk.inj e).1

end Avt.Props.C17
