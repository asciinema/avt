/-
  Avt.Props.C16 — the alternate screen never disturbs the primary screen.

  In avt's terms: from `?47/1047/1049h` until `?47/1047/1049l` or RIS (`endsExcursion`) nothing, neither a
  control function nor `Terminal::resize`, touches `other_buffer` (the parked primary), `alternate_saved_ctx`
  (its saved context) or the active screen, so `text()` is constant: `C16_frame`, `C16_frame_resize`,
  `C16_text_const`; through the parser and the public calls `C16_feedAll`, `C16_feedStr`, `C16_vtResize`.
  Entering shows a blank screen of the current pen and (1049) saves the cursor context: `C16_enter`.
  Without a resize in between, leaving gives back the primary's view, scrollback, size and limit
  (`C16_roundtrip`; `C16_roundtrip_api` after the `gc()` that ends the leaving call) and `?1049l` the
  cursor, pen and modes of the mark (`C16_1049`).  With resizes in between, the primary's logical lines
  are kept or cut short at the bottom and a 1049 excursion puts the cursor back on the same character:
  `C16_resized`, `C16_resized_1049`, `C16_excursion_resized`; leaving is ONE `Buffer.resize` of the
  parked buffer, so C10 applies.
  Left out: for `?47l`/`?1047l` the cursor fed to that resize is the alternate screen's (current
  geometry), so "same character" is claimed for 1049 only, as the property does.
  The vocabulary is that of Avt/Spec/C16.lean, the definitions the oracle evaluates.
-/
import Avt.Lemmas.C16Text
import Avt.Lemmas.ResizeSame
import Avt.Lemmas.InvTerminal
import Avt.Lemmas.C16Resized

namespace Avt.Props.C16
open Avt Avt.Spec.C16 Avt.C16

/-- what an unchanged `fr` says while the alternate screen is showing: the parked primary, its saved
    context and the active screen stay, hence `text()` (which reads the parked buffer) is constant -/
theorem frame_of_fr {t t' : Terminal} (ha : t.activeBufferType = .alternate) (h : fr t' = fr t) :
    t'.otherBuffer = t.otherBuffer ∧ t'.alternateSavedCtx = t.alternateSavedCtx
      ∧ t'.activeBufferType = .alternate ∧ t'.text = t.text := by
  obtain ⟨h1, h2, h3⟩ := fr_parts h
  exact ⟨h1, h2, h3.trans ha, by rw [Terminal.text_alt ha, Terminal.text_alt (h3.trans ha), h1]⟩

/-- **C16_frame.**  On the alternate screen every function other than leaving it (DECRST
    47/1047/1049) and RIS leaves the parked primary buffer, its saved context and the active screen
    as they are.  (`?1049h` while already on the alternate screen saves into `savedCtx`, the
    alternate's own context.) -/
theorem C16_frame {t t' : Terminal} {f : Function} (ha : t.activeBufferType = .alternate)
    (hf : endsExcursion f = false) (h : t.execute f = some t') :
    t'.otherBuffer = t.otherBuffer ∧ t'.alternateSavedCtx = t.alternateSavedCtx
      ∧ t'.activeBufferType = .alternate :=
  let ⟨h1, h2, h3, _⟩ := frame_of_fr ha (fr_execute ha hf h)
  ⟨h1, h2, h3⟩

/-- `resize` reflows the active buffer only -/
theorem C16_frame_resize {t t' : Terminal} {c r : Nat} (h : t.resize c r = some t') :
    t'.otherBuffer = t.otherBuffer ∧ t'.alternateSavedCtx = t.alternateSavedCtx
      ∧ t'.activeBufferType = t.activeBufferType := fr_parts (fr_resize h)

/-- `text()` reads the primary buffer, which is parked: it is constant while the alternate screen shows -/
theorem C16_text_const {t t' : Terminal} {f : Function} (ha : t.activeBufferType = .alternate)
    (hf : endsExcursion f = false) (h : t.execute f = some t') : t'.text = t.text :=
  (frame_of_fr ha (fr_execute ha hf h)).2.2.2

/-- the frame property through the parser: a whole input string none of whose emitted functions
    leaves the alternate screen or is RIS -/
theorem C16_feedAll {v v' : Vt} {s : List Nat} (ha : v.terminal.activeBufferType = .alternate)
    (hf : ∀ f ∈ emitted v.parser s, endsExcursion f = false) (h : v.feedAll s = some v') :
    v'.terminal.otherBuffer = v.terminal.otherBuffer
      ∧ v'.terminal.alternateSavedCtx = v.terminal.alternateSavedCtx
      ∧ v'.terminal.activeBufferType = .alternate ∧ v'.text = v.text :=
  frame_of_fr ha (fr_kept.feedAll s (emitted_eq s v.parser ▸ hf) h ha)

/-- the frame property through `feed_str` (which ends with `changes()` and `gc()` of the *active* buffer) -/
theorem C16_feedStr {v v' : Vt} {s : List Nat} {ch : Changes}
    (ha : v.terminal.activeBufferType = .alternate)
    (hf : ∀ f ∈ emitted v.parser s, endsExcursion f = false) (h : v.feedStr s = some (v', ch)) :
    v'.terminal.otherBuffer = v.terminal.otherBuffer
      ∧ v'.terminal.alternateSavedCtx = v.terminal.alternateSavedCtx
      ∧ v'.terminal.activeBufferType = .alternate ∧ v'.text = v.text :=
  frame_of_fr ha (fr_kept.feedStr (emitted_eq s v.parser ▸ hf) h ha)

/-- the frame property through `Vt::resize`, which reflows the active buffer only -/
theorem C16_vtResize {v v' : Vt} {c r : Nat} {ch : Changes}
    (ha : v.terminal.activeBufferType = .alternate) (h : v.resize c r = some (v', ch)) :
    v'.terminal.otherBuffer = v.terminal.otherBuffer
      ∧ v'.terminal.alternateSavedCtx = v.terminal.alternateSavedCtx
      ∧ v'.terminal.activeBufferType = .alternate ∧ v'.text = v.text :=
  frame_of_fr ha (fr_kept.vtResize (fun h _ => fr_resize h) h ha)

theorem exec_decset_one {t : Terminal} {m : DecMode} : t.execute (.decset [m]) = t.decsetOne m :=
  Terminal.foldM'_single ..

theorem exec_decrst_one {t : Terminal} {m : DecMode} : t.execute (.decrst [m]) = t.decrstOne m :=
  Terminal.foldM'_single ..

/-- **C16_enter.**  `DECSET 47/1047/1049` on the primary screen: the new screen is `rows × cols`
    blank cells carrying the current pen, unwrapped, without scrollback; the primary buffer is parked
    as it is; its saved context is parked too — for 1049 after saving the cursor (column clamped to
    `cols-1`), pen, origin mode and auto-wrap mode; `text()` is unchanged. -/
theorem C16_enter {m t : Terminal} {me : DecMode} (hinv : TInv m = true)
    (hp : m.activeBufferType = .primary) (hme : isAltScreenMode me = true)
    (h : m.execute (.decset [me]) = some t) :
    freshAlternate m t = true ∧ t.otherBuffer = m.buffer
      ∧ t.alternateSavedCtx = parkedCtx m (me == .saveCursorAltScreenBuffer) ∧ t.pen = m.pen
      ∧ t.text = m.text := by
  rw [exec_decset_one] at h
  obtain ⟨e1, e2, hb, hpen⟩ := enter_spec hp hme h
  obtain ⟨hc, hr⟩ := geo_parts e2
  simp only [fr, Prod.mk.injEq] at e1
  obtain ⟨h1, h2, h3⟩ := e1
  refine ⟨?_, h1, h2, hpen, ?_⟩
  · simp [freshAlternate, h3, hc, hr, hb, Buffer.new, blankScreen]
  · rw [Terminal.text_alt h3, Terminal.text_prim hp, h1]

/-- what holds at every point of an excursion entered from `m` with mode `me` -/
structure During (m : Terminal) (me : DecMode) (t : Terminal) : Prop where
  inv : TInv t = true
  alt : t.activeBufferType = .alternate
  parked : t.otherBuffer = m.buffer
  ctx : t.alternateSavedCtx = parkedCtx m (me == .saveCursorAltScreenBuffer)
  size : t.cols = m.cols ∧ t.rows = m.rows

theorem during_enter {m t : Terminal} {me : DecMode} (hinv : TInv m = true)
    (hp : m.activeBufferType = .primary) (hme : isAltScreenMode me = true)
    (h : m.execute (.decset [me]) = some t) : During m me t := by
  have h' := h
  rw [exec_decset_one] at h'
  obtain ⟨e1, e2, _⟩ := enter_spec hp hme h'
  simp only [fr, Prod.mk.injEq] at e1
  exact ⟨Terminal.execute_tinv hinv h, e1.2.2, e1.1, e1.2.1, geo_parts e2⟩

theorem during_step {m t t' : Terminal} {me : DecMode} {f : Function} (hd : During m me t)
    (hf : endsExcursion f = false) (h : t.execute f = some t') : During m me t' := by
  obtain ⟨h1, h2, h3⟩ := C16_frame hd.alt hf h
  obtain ⟨hc, hr⟩ := geo_parts (geo_execute (TOK.of_TInv hd.inv).xt h)
  exact ⟨Terminal.execute_tinv hd.inv h, h3, h1.trans hd.parked, h2.trans hd.ctx, hc.trans hd.size.1,
    hr.trans hd.size.2⟩

/-- the `changes()` + `gc()` that end a call touch the active buffer and the dirty flags only -/
theorem during_finish {m t : Terminal} {me : DecMode} (hd : During m me t) : During m me (Spec.finishT t) :=
  ⟨(Terminal.gc_ok (Terminal.changes_ok (TOK.of_TInv hd.inv))).TInv, hd.alt, hd.parked, hd.ctx, hd.size⟩

theorem during_all {m t0 t1 : Terminal} {me : DecMode} {fs : List Function} (hd : During m me t0)
    (hfs : ∀ f ∈ fs, endsExcursion f = false) (h : Terminal.foldM' Terminal.execute fs t0 = some t1) :
    During m me t1 :=
  Terminal.foldM'_inv (f := Terminal.execute) (During m me) (ms := fs)
    (fun _ f _ hmem hb hs => during_step hb (hfs f hmem) hs) hd h

/-- leaving from any state of an excursion without resizes: the parked buffer still has the
    terminal's size, so the deferred `Buffer.resize` only sets `trim_needed` -/
theorem during_leave {m t1 t2 : Terminal} {me ml : DecMode} (hinv : TInv m = true)
    (hd : During m me t1) (hml : isAltScreenMode ml = true)
    (h2 : t1.execute (.decrst [ml]) = some t2) :
    t2.activeBufferType = .primary ∧ geo t2 = geo t1
      ∧ t2.buffer = { m.buffer with trimNeeded := true }
      ∧ (ml = .saveCursorAltScreenBuffer →
          ctxRestored (parkedCtx m (me == .saveCursorAltScreenBuffer)) t2 = true) := by
  rw [exec_decrst_one] at h2
  have k := TOK.of_TInv hinv
  have := leave_spec hd.inv hd.alt hml
    (by rw [hd.parked, k.bcols, hd.size.1]) (by rw [hd.parked, k.brows, hd.size.2]) h2
  rwa [hd.parked, hd.ctx] at this

/-- **C16_roundtrip.**  Enter (`?47/1047/1049h`) from any state `m` of the primary screen, execute
    any functions that neither leave nor hard-reset, leave (`?47/1047/1049l`, any of the three): the
    terminal is back on the primary screen with the size of `m`, and the primary's view, scrollback,
    geometry and limit are those of `m` (only `trim_needed` is set) — hence `text()` too. -/
theorem C16_roundtrip {m t0 t1 t2 : Terminal} {me ml : DecMode} {fs : List Function}
    (hinv : TInv m = true) (hp : m.activeBufferType = .primary)
    (hme : isAltScreenMode me = true) (hml : isAltScreenMode ml = true)
    (h0 : m.execute (.decset [me]) = some t0)
    (hfs : ∀ f ∈ fs, endsExcursion f = false)
    (h1 : Terminal.foldM' Terminal.execute fs t0 = some t1)
    (h2 : t1.execute (.decrst [ml]) = some t2) :
    t2.activeBufferType = .primary ∧ t2.buffer = { m.buffer with trimNeeded := true }
      ∧ sameBuffer t2.buffer m.buffer = true ∧ t2.cols = m.cols ∧ t2.rows = m.rows
      ∧ t2.text = m.text := by
  have hd := during_all (during_enter hinv hp hme h0) hfs h1
  obtain ⟨a1, a2, a3, _⟩ := during_leave hinv hd hml h2
  obtain ⟨hc, hr⟩ := geo_parts a2
  refine ⟨a1, a3, ?_, hc.trans hd.size.1, hr.trans hd.size.2, ?_⟩
  · simp [sameBuffer, a3]
  · rw [Terminal.text_prim a1, Terminal.text_prim hp, a3]; rfl

/-- the same seen through the API: after the `changes()` + `gc()` that end the leaving call the
    primary is `primaryRestored` — view identical, scrollback identical up to the trim `gc()` performs
    when it is longer than the hard limit (never after a `feed_str`/`resize` call) -/
theorem C16_roundtrip_api {m t0 t1 t2 : Terminal} {me ml : DecMode} {fs : List Function}
    (hinv : TInv m = true) (hp : m.activeBufferType = .primary)
    (hme : isAltScreenMode me = true) (hml : isAltScreenMode ml = true)
    (h0 : m.execute (.decset [me]) = some t0)
    (hfs : ∀ f ∈ fs, endsExcursion f = false)
    (h1 : Terminal.foldM' Terminal.execute fs t0 = some t1)
    (h2 : t1.execute (.decrst [ml]) = some t2) :
    primaryRestored m (Spec.finishT t2) = true := by
  obtain ⟨a1, a2, _⟩ := C16_roundtrip hinv hp hme hml h0 hfs h1 h2
  have g2 := gc_trimmed t2.buffer (by rw [a2])
  obtain ⟨g1, g3, g4, g5, -⟩ := Frame.gc_view t2.buffer
  have hb : (Spec.finishT t2).buffer = t2.buffer.gc.1 := rfl
  have ha : (Spec.finishT t2).activeBufferType = t2.activeBufferType := rfl
  have ht : trimmedSb t2.buffer = trimmedSb m.buffer := by rw [a2]; rfl
  have hv : t2.buffer.view = m.buffer.view := by rw [a2]
  have hc : t2.buffer.cols = m.buffer.cols := by rw [a2]
  have hr : t2.buffer.rows = m.buffer.rows := by rw [a2]
  have hl : t2.buffer.limit = m.buffer.limit := by rw [a2]
  simp only [primaryRestored, hb, ha, a1, g1, g2, g3, g4, g5, ht, hv, hc, hr, hl, beq_self_eq_true,
    Bool.and_self]

/-- **C16_1049.**  With `?1049h … ?1049l` the cursor is back at `(min col (cols-1), row)` of the mark,
    with the mark's pen, origin mode and auto-wrap mode; `pending_wrap` is off. -/
theorem C16_1049 {m t0 t1 t2 : Terminal} {fs : List Function}
    (hinv : TInv m = true) (hp : m.activeBufferType = .primary)
    (h0 : m.execute (.decset [.saveCursorAltScreenBuffer]) = some t0)
    (hfs : ∀ f ∈ fs, endsExcursion f = false)
    (h1 : Terminal.foldM' Terminal.execute fs t0 = some t1)
    (h2 : t1.execute (.decrst [.saveCursorAltScreenBuffer]) = some t2) :
    t2.cursor.col = min m.cursor.col (m.cols - 1) ∧ t2.cursor.row = m.cursor.row ∧ t2.pen = m.pen
      ∧ t2.originMode = m.originMode ∧ t2.autoWrapMode = m.autoWrapMode ∧ t2.pendingWrap = false := by
  have hd := during_all (during_enter hinv hp rfl h0) hfs h1
  have := (during_leave hinv hd (ml := .saveCursorAltScreenBuffer) rfl h2).2.2.2 rfl
  simp only [ctxRestored, Bool.and_eq_true, beq_iff_eq, Bool.not_eq_true', and_assoc] at this
  exact this

/-- a leave with 1049 after an entry with 47/1047 restores whatever context the primary had saved -/
theorem C16_1049_mixed {m t0 t1 t2 : Terminal} {me : DecMode} {fs : List Function}
    (hinv : TInv m = true) (hp : m.activeBufferType = .primary) (hme : isAltScreenMode me = true)
    (h0 : m.execute (.decset [me]) = some t0)
    (hfs : ∀ f ∈ fs, endsExcursion f = false)
    (h1 : Terminal.foldM' Terminal.execute fs t0 = some t1)
    (h2 : t1.execute (.decrst [.saveCursorAltScreenBuffer]) = some t2) :
    ctxRestored (parkedCtx m (me == .saveCursorAltScreenBuffer)) t2 = true :=
  (during_leave hinv (during_all (during_enter hinv hp hme h0) hfs h1)
    (ml := .saveCursorAltScreenBuffer) rfl h2).2.2.2 rfl

/-- the linear-time `textOf` the oracle evaluates (Spec/C16.lean) is `text()` -/
theorem C16_textOf (t : Terminal) : textOf t = t.text := by
  simp [textOf, Terminal.text, Buffer.text, fastTextGo_eq]

/-- **C16_resized_full** (holds: `C16_resized_full_holds`; the sharper clauses are `C16_resized`,
    `C16_resized_1049`, `C16_excursion_resized`).  If the terminal was resized while the alternate screen
    was showing, then on return the invariant holds, the primary's logical text is that of the mark up
    to what the shrinking cut off at the end (`textRel`, before the `gc()` of the leaving call hands
    out scrollback lines), and the API-level geometry is consistent.  This is the statement of C10
    (resize keeps the logical text and the cursor's place) applied to the deferred `Buffer.resize`
    of the parked buffer, with the old-geometry cursor; the sharper clause about the cursor ("a 1049
    excursion puts the cursor back on the same character") is the clause `onCharOK` of C10's
    `resizeRel`. -/
def C16_resized_full : Prop :=
  ∀ (m t1 t2 : Terminal) (ml : DecMode),
    TInv m = true → m.activeBufferType = .primary →
    TInv t1 = true → t1.activeBufferType = .alternate → t1.otherBuffer = m.buffer →
    isAltScreenMode ml = true → t1.execute (.decrst [ml]) = some t2 →
      TInv t2 = true ∧ t2.activeBufferType = .primary ∧ t2.buffer.cols = t1.cols ∧ t2.buffer.rows = t1.rows
        ∧ textRel m.text t2.text = true

/-- 4×2 terminal, one line of scrollback, text on the screen, cursor at (3,1) with a bold pen:
    `?1049h`, print, erase display, scroll, `?1049l`. -/
def exM : Terminal :=
  let t := (Terminal.new 4 2 (some 10)).getD default
  let t := (Terminal.foldM' Terminal.execute
    [.print 0x61, .print 0x62, .lf, .lf, .print 0x63, .sgr [.setBold], .cup 2 4] t).getD default
  (Spec.finishT t)

def exFs : List Function := [.print 0x78, .ed .all, .lf, .lf, .print 0x79, .decset [.saveCursorAltScreenBuffer], .decaln]

example : TInv exM = true ∧ exM.activeBufferType = .primary ∧ exM.buffer.sb.length = 1
    ∧ exM.cursor.col = 3 ∧ exM.cursor.row = 1 := by decide

def exT0 : Terminal := (exM.execute (.decset [.saveCursorAltScreenBuffer])).getD default
def exT1 : Terminal := (Terminal.foldM' Terminal.execute exFs exT0).getD default
def exT2 : Terminal := (exT1.execute (.decrst [.saveCursorAltScreenBuffer])).getD default

example : exM.execute (.decset [.saveCursorAltScreenBuffer]) = some exT0
    ∧ Terminal.foldM' Terminal.execute exFs exT0 = some exT1
    ∧ exT1.execute (.decrst [.saveCursorAltScreenBuffer]) = some exT2
    ∧ exT1.buffer.view ≠ exT0.buffer.view
    ∧ sameBuffer exT2.buffer exM.buffer = true ∧ exT2.cursor.col = 3 ∧ exT2.cursor.row = 1
    ∧ exT2.text = exM.text ∧ exT2.pen.intensity = .bold := by decide +kernel

/-- the cursor's logical position (line index, offset) of a terminal, as in C10 -/
def cursorOf (t : Terminal) : Nat × Nat :=
  Spec.C10.cursorLogical t.buffer (t.cursor.col, t.cursor.row)

/-- **C16_resized** (the leaving step, any geometry).  `t1` is any state of an excursion: the
    alternate screen is showing, the invariant holds, the parked buffer is the marked primary
    `m.buffer` — the terminal may have been resized any number of times since the mark.  After
    `DECRST 47/1047/1049`:
    * the invariant holds again (all geometry invariants), the primary is showing at the terminal's
      current size;
    * the primary's logical lines are the marked ones, re-wrapped: each kept, or the last one cut
      short, followed at most by blank filler (`keptOrCut` — none altered, reordered or invented);
      hence `textRel` for `text()`;
    * if the row of the cursor fed to the deferred resize lies inside the parked screen (always for
      `?1049l`, see `C16_resized_1049`), the whole relation of C10 holds w.r.t. that cursor: same
      logical line, lines above unchanged, text before it intact, same character under it, later
      lines kept or cut short (`resizeRel`). -/
theorem C16_resized {m t1 t2 : Terminal} {ml : DecMode}
    (hinv : TInv t1 = true) (ha : t1.activeBufferType = .alternate)
    (hpark : t1.otherBuffer = m.buffer) (hml : isAltScreenMode ml = true)
    (h : t1.execute (.decrst [ml]) = some t2) :
    TInv t2 = true ∧ t2.activeBufferType = .primary ∧ t2.cols = t1.cols ∧ t2.rows = t1.rows
      ∧ Spec.C10.keptOrCut (Spec.C10.logicalLines m.buffer.lines)
          (Spec.C10.logicalLines t2.buffer.lines) = true
      ∧ textRel m.buffer.text t2.text = true
      ∧ ((leaveCursor t1 ml).2 < m.buffer.rows →
          Spec.C10.resizeRel (Spec.C10.logicalLines m.buffer.lines)
            (Spec.C10.logicalLines t2.buffer.lines)
            (Spec.C10.cursorLogical m.buffer (leaveCursor t1 ml)).1
            (Spec.C10.cursorLogical m.buffer (leaveCursor t1 ml)).2
            (cursorOf t2).1 (cursorOf t2).2 (leavePending t1 ml) = true) := by
  have hok := TOK.of_TInv hinv
  have hok2 := TOK.of_TInv (Terminal.execute_tinv hinv h)
  have h' := h
  rw [exec_decrst_one] at h'
  obtain ⟨cur', hres, hcc, hcr, hprim, hcols, hrows, _⟩ := leave_resize ha hml h'
  rw [hpark] at hres
  have hbm : BInv m.buffer = true := by rw [← hpark]; exact hok.ook.BInv
  have hkc := Lemmas.resize_lines hres
  refine ⟨hok2.TInv, hprim, hcols, hrows, hkc, ?_, ?_⟩
  · rw [Terminal.text_prim hprim, buffer_text_eq_logical hbm, buffer_text_eq_logical hok2.bok.BInv]
    exact textRel_of_keptOrCut _ _ hkc
  · intro hrow
    have hcur' : cursorOf t2 = Spec.C10.cursorLogical t2.buffer cur' := by
      simp only [cursorOf, hcc, hcr]
    rw [hcur']
    -- same width: the column fed to the resize is inside the parked screen (or wrap-pending)
    have hcol : t1.cols = m.buffer.cols → (leaveCursor t1 ml).1 ≤ m.buffer.cols
        ∧ (leavePending t1 ml = false → (leaveCursor t1 ml).1 < m.buffer.cols) := by
      intro hsame
      unfold leaveCursor leavePending
      split
      · rcases hok.actx with hx | hx
        · rw [ha] at hx; cases hx
        · rw [hpark] at hx
          exact ⟨Nat.le_of_lt hx.1, fun _ => hx.1⟩
      · rw [← hsame]
        rcases hok.ccol with ⟨hp, hc⟩ | ⟨hp, hc⟩
        · exact ⟨by rw [hc]; exact Nat.le_refl _, fun hf => by rw [hp] at hf; cases hf⟩
        · exact ⟨Nat.le_of_lt hc, fun _ => hc⟩
    have hk := BOK.of_BInv hbm
    exact (Lemmas.buffer_resize_rel hk.hv hk.hr hk.lines_facts.2.1 hk.lines_facts.2.2 hrow hok.c1
      (fun e => (hcol e).1) hres).1 _ fun e => (hcol e).2

/-- the summary `C16_resized_full`, read off `C16_resized` -/
theorem C16_resized_full_holds : C16_resized_full := by
  intro m t1 t2 ml _ hp hinv1 ha hpark hml h
  obtain ⟨a1, a2, a3, a4, _, a6, _⟩ := C16_resized hinv1 ha hpark hml h
  have k := TOK.of_TInv a1
  refine ⟨a1, a2, k.bcols.trans a3, k.brows.trans a4, ?_⟩
  rw [Terminal.text_prim hp]; exact a6

/-- **C16_resized_1049.**  `?1049l` after an excursion whose parked context is the cursor saved by
    `?1049h` at the mark `m` (column clamped to `cols-1`), whatever resizes happened in between: the
    cursor is back in the same logical line of the primary's text, every line above it unchanged,
    the text before it intact, ON THE SAME CHARACTER when it was on one (`resizeRel` with the entry
    cursor, no wrap pending), later lines kept or cut short; pen, origin mode and auto-wrap mode are
    those of the mark and no wrap is pending. -/
theorem C16_resized_1049 {m t1 t2 : Terminal}
    (hinvm : TInv m = true) (hinv : TInv t1 = true) (ha : t1.activeBufferType = .alternate)
    (hpark : t1.otherBuffer = m.buffer) (hctx : t1.alternateSavedCtx = entryCtx m)
    (h : t1.execute (.decrst [.saveCursorAltScreenBuffer]) = some t2) :
    Spec.C10.resizeRel (Spec.C10.logicalLines m.buffer.lines) (Spec.C10.logicalLines t2.buffer.lines)
        (Spec.C10.cursorLogical m.buffer (min m.cursor.col (m.cols - 1), m.cursor.row)).1
        (Spec.C10.cursorLogical m.buffer (min m.cursor.col (m.cols - 1), m.cursor.row)).2
        (cursorOf t2).1 (cursorOf t2).2 false = true
      ∧ t2.pen = m.pen ∧ t2.originMode = m.originMode ∧ t2.autoWrapMode = m.autoWrapMode
      ∧ t2.pendingWrap = false := by
  obtain ⟨_, _, _, _, _, _, hrel⟩ := C16_resized (m := m) hinv ha hpark rfl h
  have k := TOK.of_TInv hinvm
  rw [leaveCursor_1049, leavePending_1049, hctx] at hrel
  refine ⟨hrel (by rw [k.brows]; exact k.crow), ?_⟩
  rw [exec_decrst_one] at h
  obtain ⟨p1, p2, p3, p4⟩ := leave_1049_ctx ha h
  rw [hctx] at p1 p2 p3
  exact ⟨p1, p2, p3, p4⟩

/-- one step of an excursion at the terminal level: a control function, or `Terminal::resize` -/
inductive ExOp where
  | fn (f : Function)
  | resize (c r : Nat)
  deriving DecidableEq, Repr

/-- allowed during an excursion: any function that neither leaves the alternate screen nor is RIS;
    any resize within the API contract (`cols, rows ≥ 1`) -/
def ExOp.ok : ExOp → Prop
  | .fn f => endsExcursion f = false
  | .resize c r => 1 ≤ c ∧ 1 ≤ r

instance : DecidablePred ExOp.ok := fun op => by
  cases op <;> simp only [ExOp.ok] <;> exact inferInstance

def exStep (t : Terminal) : ExOp → Option Terminal
  | .fn f => t.execute f
  | .resize c r => t.resize c r

/-- what holds at every point of an excursion entered from `m` with mode `me`, resizes allowed -/
structure DuringR (m : Terminal) (me : DecMode) (t : Terminal) : Prop where
  inv : TInv t = true
  alt : t.activeBufferType = .alternate
  parked : t.otherBuffer = m.buffer
  ctx : t.alternateSavedCtx = parkedCtx m (me == .saveCursorAltScreenBuffer)

theorem DuringR.text {m t : Terminal} {me : DecMode} (hp : m.activeBufferType = .primary)
    (hd : DuringR m me t) : t.text = m.text := by
  rw [Terminal.text_alt hd.alt, Terminal.text_prim hp, hd.parked]

theorem duringR_enter {m t : Terminal} {me : DecMode} (hinv : TInv m = true)
    (hp : m.activeBufferType = .primary) (hme : isAltScreenMode me = true)
    (h : m.execute (.decset [me]) = some t) : DuringR m me t :=
  let hd := during_enter hinv hp hme h
  ⟨hd.inv, hd.alt, hd.parked, hd.ctx⟩

theorem duringR_step {m t t' : Terminal} {me : DecMode} {op : ExOp} (hd : DuringR m me t)
    (hop : op.ok) (h : exStep t op = some t') : DuringR m me t' := by
  cases op with
  | fn f =>
    simp only [exStep] at h
    obtain ⟨h1, h2, h3⟩ := C16_frame hd.alt hop h
    exact ⟨Terminal.execute_tinv hd.inv h, h3, h1.trans hd.parked, h2.trans hd.ctx⟩
  | resize c r =>
    simp only [exStep] at h
    obtain ⟨h1, h2, h3⟩ := C16_frame_resize h
    obtain ⟨t'', ht'', hok⟩ := Terminal.resize_ok resizeOK (TOK.of_TInv hd.inv) hop.1 hop.2
    rw [h] at ht''; cases ht''
    exact ⟨hok.TInv, h3.trans hd.alt, h1.trans hd.parked, h2.trans hd.ctx⟩

theorem duringR_all {m t0 t1 : Terminal} {me : DecMode} {ops : List ExOp} (hd : DuringR m me t0)
    (hops : ∀ op ∈ ops, op.ok) (h : Terminal.foldM' exStep ops t0 = some t1) : DuringR m me t1 :=
  Terminal.foldM'_inv (f := exStep) (DuringR m me) (ms := ops)
    (fun _ op _ hmem hb hs => duringR_step hb (hops op hmem) hs) hd h

/-- **C16_excursion_resized.**  Enter (`?47/1047/1049h`) from any state `m` of the primary screen;
    then any list of control functions (none leaving, none RIS) and terminal resizes (wider,
    narrower, taller, shorter, interleaved in any order); leave (`?47/1047/1049l`, any of the three).
    Throughout, the parked primary and its saved context are untouched and `text()` is constant; on
    return the invariant holds, the primary shows at the final size, its logical lines are those of
    `m` re-wrapped — none altered, at most cut short at the bottom (`keptOrCut`, `textRel`) — and when
    both the entry and the exit are 1049 the cursor is back on the same character of the primary's
    text (C10's `resizeRel` for the entry cursor) with the pen and modes of the mark. -/
theorem C16_excursion_resized {m t0 t1 t2 : Terminal} {me ml : DecMode} {ops : List ExOp}
    (hinv : TInv m = true) (hp : m.activeBufferType = .primary)
    (hme : isAltScreenMode me = true) (hml : isAltScreenMode ml = true)
    (h0 : m.execute (.decset [me]) = some t0)
    (hops : ∀ op ∈ ops, op.ok)
    (h1 : Terminal.foldM' exStep ops t0 = some t1)
    (h2 : t1.execute (.decrst [ml]) = some t2) :
    (t1.otherBuffer = m.buffer ∧ t1.text = m.text)
      ∧ TInv t2 = true ∧ t2.activeBufferType = .primary ∧ t2.cols = t1.cols ∧ t2.rows = t1.rows
      ∧ Spec.C10.keptOrCut (Spec.C10.logicalLines m.buffer.lines)
          (Spec.C10.logicalLines t2.buffer.lines) = true
      ∧ textRel m.text t2.text = true
      ∧ (me = .saveCursorAltScreenBuffer → ml = .saveCursorAltScreenBuffer →
          Spec.C10.resizeRel (Spec.C10.logicalLines m.buffer.lines)
              (Spec.C10.logicalLines t2.buffer.lines)
              (Spec.C10.cursorLogical m.buffer (min m.cursor.col (m.cols - 1), m.cursor.row)).1
              (Spec.C10.cursorLogical m.buffer (min m.cursor.col (m.cols - 1), m.cursor.row)).2
              (cursorOf t2).1 (cursorOf t2).2 false = true
            ∧ t2.pen = m.pen ∧ t2.originMode = m.originMode ∧ t2.autoWrapMode = m.autoWrapMode
            ∧ t2.pendingWrap = false) := by
  have hd := duringR_all (duringR_enter hinv hp hme h0) hops h1
  obtain ⟨a1, a2, a3, a4, a5, a6, _⟩ := C16_resized hd.inv hd.alt hd.parked hml h2
  refine ⟨⟨hd.parked, hd.text hp⟩, a1, a2, a3, a4, a5, ?_, ?_⟩
  · rw [Terminal.text_prim hp]; exact a6
  · intro e1 e2
    subst e1 e2
    have hctx : t1.alternateSavedCtx = entryCtx m := by
      rw [hd.ctx]; simp [parkedCtx]
    exact C16_resized_1049 hinv hd.inv hd.alt hd.parked hctx h2

/-! ### a concrete excursion with resizes

  `exM2`: 4×2, limit 10, rows "z" / "" (scrollback) and "abcd"⏎"ef" (one logical line wrapped over the
  two visible rows), bold pen, cursor moved back onto the 'f' (logical line 2, offset 5).
  `?1049h`, print, resize to 3×3, scroll, print, resize to 2×2, DECALN, `?1049l` at 2×2: the parked
  primary kept its 4×2 rows all along; on return "abcdef" occupies three rows of width 2, `text()` is
  unchanged, the cursor is on the 'f' again, the pen is bold again. -/

def exM2 : Terminal :=
  let t := (Terminal.new 4 2 (some 10)).getD default
  let t := (Terminal.foldM' Terminal.execute
    [.print 0x7a, .lf, .cr, .lf, .cr, .print 0x61, .print 0x62, .print 0x63, .print 0x64, .print 0x65,
     .print 0x66, .sgr [.setBold], .cub 1] t).getD default
  (Spec.finishT t)

def exOpsR : List ExOp :=
  [.fn (.print 0x78), .resize 3 3, .fn .lf, .fn .lf, .fn .lf, .fn (.print 0x79), .resize 2 2, .fn .decaln]

def exR0 : Terminal := (exM2.execute (.decset [.saveCursorAltScreenBuffer])).getD default
def exR1 : Terminal := (Terminal.foldM' exStep exOpsR exR0).getD default
def exR2 : Terminal := (exR1.execute (.decrst [.saveCursorAltScreenBuffer])).getD default

example : (∀ op ∈ exOpsR, op.ok) := by decide

/-- the hypotheses of `C16_excursion_resized` hold on this excursion … -/
example : TInv exM2 = true ∧ exM2.activeBufferType = .primary ∧ exM2.buffer.sb.length = 2
    ∧ (exM2.cursor.col, exM2.cursor.row) = (1, 1)
    ∧ exM2.execute (.decset [.saveCursorAltScreenBuffer]) = some exR0
    ∧ Terminal.foldM' exStep exOpsR exR0 = some exR1
    ∧ exR1.execute (.decrst [.saveCursorAltScreenBuffer]) = some exR2 := by decide +kernel

/-- … and this is what its conclusion says there -/
example : (exR1.cols, exR1.rows) = (2, 2) ∧ exR1.otherBuffer = exM2.buffer ∧ exR1.otherBuffer.cols = 4
    ∧ (exR2.cols, exR2.rows, exR2.buffer.cols, exR2.buffer.rows) = (2, 2, 2, 2)
    ∧ exR2.activeBufferType = .primary
    ∧ exR2.buffer.lines.map (fun l => (l.cells.map Cell.ch, l.wrapped))
        = [([0x7a, 0x20], false), ([0x20, 0x20], false), ([0x61, 0x62], true), ([0x63, 0x64], true),
           ([0x65, 0x66], false)]
    ∧ exR2.text = exM2.text
    ∧ Spec.C10.cursorLogical exM2.buffer (1, 1) = (2, 5) ∧ cursorOf exR2 = (2, 5)
    ∧ Spec.C10.onChar (Spec.C10.logicalLines exM2.buffer.lines) 2 5 false = true
    ∧ (exR2.cursor.col, exR2.cursor.row) = (1, 1)
    ∧ Spec.C10.resizeRel (Spec.C10.logicalLines exM2.buffer.lines) (Spec.C10.logicalLines exR2.buffer.lines)
        2 5 (cursorOf exR2).1 (cursorOf exR2).2 false = true
    ∧ exR2.pen.intensity = .bold ∧ exR2.pendingWrap = false := by decide +kernel

end Avt.Props.C16
