/-
  Avt.Lemmas.GenEqLine — the generated translation of src/line.rs (Avt/Gen/LineGen.lean, regenerated from
  /repo/src/line.rs by translate/rs2lean_buf.py on every run) EQUALS the hand-written model `Avt.Line.*`,
  for all inputs.  One theorem `<name>_eq` per generated function; `coverage_complete` compares the translator's
  list of function names with the hand-kept `provedFunctions`.  A change in the Rust body of a translated
  function changes the generated definition and the corresponding theorem stops checking.  The stems `<name>` are
  keys of `GENEQ_FN_PROPS` in `bin/check` (see GenEq.lean's header): function -> properties that go through it; a
  failing theorem whose stem is not a key counts against every property in the module's scope.
-/
import Avt.Gen.LineGen
import Avt.Lemmas.GenEq
import Avt.Lemmas.Prim


namespace Avt.GenEqLine
open Avt

theorem slice_eq_some {α} (l : List α) (a b : Nat) (h1 : a ≤ b) (h2 : b ≤ l.length) :
    GenL.slice l a b = some ((l.take b).drop a) := by
  simp [GenL.slice, h1, h2]

theorem popWhile_eq {α} (p : α → Bool) (l : List α) :
    GenL.popWhile p l = (l.reverse.dropWhile p).reverse := rfl

theorem blank_eq (cols : Nat) (pen : Pen) : GenL.blank cols pen = Line.blank cols pen := rfl

theorem len_eq (l : Line) : GenL.len l = l.len := rfl

theorem clear_eq (l : Line) (a b : Nat) (pen : Pen) : GenL.clear l (a, b) pen = Line.clear l a b pen := by
  simp only [GenL.clear, Line.clear, GenEq.Cell.blank_eq]
  cases fillRange l.cells a b (Cell.blank pen) <;> rfl

theorem print_eq (l : Line) (col : Nat) (cell : Cell) : GenL.print l col cell = Line.print l col cell := by
  simp only [GenL.print, Line.print]
  cases setAt l.cells col cell <;> rfl

theorem insert_eq (l : Line) (col n : Nat) (cell : Cell) :
    GenL.insert l col n cell = Line.insert l col n cell := by
  simp only [GenL.insert, Line.insert]
  cases rotRRange l.cells col l.cells.length n with
  | none => rfl
  | some cs => simp only []; cases fillRange cs col (col + n) cell <;> rfl

theorem delete_eq (l : Line) (col n : Nat) (pen : Pen) :
    GenL.delete l col n pen = Line.delete l col n pen := by
  simp only [GenL.delete, Line.delete, GenEq.Cell.blank_eq]
  cases rotLRange l.cells col l.cells.length n with
  | none => rfl
  | some cs =>
    simp only []
    cases csub cs.length n with
    | none => rfl
    | some st => simp only []; cases fillRange cs st cs.length (Cell.blank pen) <;> rfl

theorem slice_to_end {α} (l : List α) (n : Nat) (h : n ≤ l.length) :
    GenL.slice l n l.length = some (l.drop n) := by
  rw [slice_eq_some l n _ h (Nat.le_refl _), List.take_length]
theorem trailers_eq (l : Line) : GenL.trailers l = l.trailers := by
  simp only [GenL.trailers, Line.trailers]
  congr 2
  funext c
  exact GenEq.Cell.isDefault_eq c

theorem trailers_le (l : Line) : l.trailers ≤ l.cells.length := by
  have := (List.takeWhile_sublist Cell.isDefault (l := l.cells.reverse)).length_le
  simpa [Line.trailers] using this

theorem trim_eq (l : Line) : GenL.trim l = some l.trim := by
  have hle := trailers_le l
  simp only [GenL.trim, trailers_eq, GenL.len, Line.trim]
  by_cases h : l.trailers > 0
  · simp [h, csub, hle]
  · have h0 : l.trailers = 0 := by omega
    simp [h0]

theorem contract_eq (l : Line) (len : Nat) : GenL.contract l len = some (l.contract len) := by
  obtain ⟨cells, w⟩ := l
  have hle := trailers_le ⟨cells, w⟩
  cases w
  · simp only [GenL.contract, Line.contract, trailers_eq, GenL.len, Line.len, trim_eq,
      Bool.not_false, if_true, csub, hle]
    split
    · rename_i h
      rw [slice_to_end _ _ (by omega)]
      simp only []
      split <;> rfl
    · rfl
  · simp only [GenL.contract, Line.contract, trailers_eq, GenL.len, Line.len, trim_eq,
      Bool.not_true, if_false, Bool.false_eq_true]
    split
    · rename_i h
      rw [slice_to_end _ _ (by omega)]
      simp only []
      split <;> rfl
    · rfl

theorem slice_zero {α} (l : List α) (n : Nat) (h : n ≤ l.length) : GenL.slice l 0 n = some (l.take n) :=
  slice_eq_some l 0 n (Nat.zero_le _) h

theorem expand_eq (l : Line) (len : Nat) (pen : Pen) : GenL.expand l len pen = Line.expand l len pen := by
  simp only [GenL.expand, Line.expand, GenEq.Cell.blank_eq, GenL.len, Line.len]
  cases csub len l.cells.length <;> rfl

/-- the generated `extend` after the `needed` / `self.wrapped` tests, for the (possibly trimmed) `other`.  The left
    side is not the text of LineGen but what the `simp only` sets of `extend_eq` make of it (`let`s reduced,
    `GenL.len` / `GenL.expand` / `GenT.Pen.default` rewritten into the model's); `exact this` there depends on them. -/
theorem extend_tail (cells : List Cell) (o : Line) (len needed : Nat) :
    (if needed < o.cells.length then
      match GenL.slice o.cells 0 needed with
      | none => none
      | some x3 =>
        match rotLRange o.cells 0 o.cells.length needed with
        | none => none
        | some x4 =>
          match csub x4.length needed with
          | none => none
          | some x5 =>
            some (({ cells := cells ++ x3, wrapped := true } : Line), (true,
              some ({ cells := List.take x5 x4, wrapped := o.wrapped } : Line)))
    else
      if (!o.wrapped) = true then
        match (if (cells ++ o.cells).length < len then
                 Line.expand { cells := cells ++ o.cells, wrapped := false } len Pen.default
               else some { cells := cells ++ o.cells, wrapped := false }) with
        | none => none
        | some l => some (l, (true, none))
      else some (({ cells := cells ++ o.cells, wrapped := true } : Line), (false, none)))
    =
    (if needed < o.len then
      some (({ cells := cells ++ o.cells.take needed, wrapped := true } : Line), true,
            some { cells := o.cells.drop needed, wrapped := o.wrapped })
    else
      if (!o.wrapped) = true then
        if ({ cells := cells ++ o.cells, wrapped := false } : Line).len < len then
          (Line.expand { cells := cells ++ o.cells, wrapped := false } len Pen.default).map
            fun l3 => (l3, true, none)
        else some ({ cells := cells ++ o.cells, wrapped := false }, true, none)
      else some ({ cells := cells ++ o.cells, wrapped := true }, false, none)) := by
  simp only [Line.len]
  by_cases hn : needed < o.cells.length
  · simp only [hn, if_true]
    rw [slice_zero _ _ (by omega), rotLRange_eq_some (Nat.zero_le _) (Nat.le_refl _) (by omega)]
    simp only [List.take_zero, List.drop_zero, List.take_length, List.nil_append,
      List.drop_length, List.append_nil, List.length_append, List.length_drop, List.length_take, csub]
    have h2 : needed ≤ o.cells.length - needed + min needed o.cells.length := by omega
    simp only [h2, if_true]
    have h3 : o.cells.length - needed + min needed o.cells.length - needed = o.cells.length - needed := by omega
    rw [h3, List.take_append_of_le_length (by simp), List.take_of_length_le (Nat.le_of_eq List.length_drop)]
  · simp only [hn, if_false]
    by_cases ho : (!o.wrapped) = true
    · simp only [ho, if_true]
      by_cases hl : (cells ++ o.cells).length < len
      · simp only [hl, if_true]
        cases Line.expand { cells := cells ++ o.cells, wrapped := false } len Pen.default <;> rfl
      · simp only [hl, if_false]
    · simp [ho]

theorem penDefault_eq : GenT.Pen.default = Pen.default := rfl

theorem extend_eq (l other : Line) (len : Nat) : GenL.extend l other len = Line.extend l other len := by
  obtain ⟨cells, w⟩ := l
  simp only [GenL.extend, Line.extend, GenL.len, expand_eq, penDefault_eq, trim_eq, Line.len]
  cases csub len cells.length with
  | none => rfl
  | some needed =>
    simp only []
    by_cases h0 : needed = 0
    · rw [if_pos h0, if_pos h0]
    · rw [if_neg h0, if_neg h0]
      cases w
      · simp only [Bool.not_false, if_true]
        cases Line.expand ⟨cells, false⟩ len Pen.default <;> rfl
      · simp only [Bool.not_true, if_false, Bool.false_eq_true]
        cases ho : other.wrapped
        · simp only [Bool.not_false, if_true]
          have := extend_tail cells other.trim len needed
          simp only [Line.trim, ho, Bool.not_false, if_true] at this ⊢
          exact this
        · simp only [Bool.not_true, if_false, Bool.false_eq_true]
          have := extend_tail cells other len needed
          simp only [ho, Bool.not_true, if_false, Bool.false_eq_true] at this ⊢
          exact this

theorem isEmpty_eq (l : Line) : GenL.isEmpty l = (l.len == 0) := by
  simp only [GenL.isEmpty, len_eq]; exact GenEq.dec_beq _ _

theorem cells_eq (l : Line) : GenL.cells l = l.cells := rfl

theorem chars_eq (l : Line) : GenL.chars l = l.text := rfl

theorem text_eq (l : Line) : GenL.text l = l.text := rfl

theorem isBlank_eq (l : Line) : GenL.isBlank l = l.isBlank := by
  simp only [GenL.isBlank, Line.isBlank]
  congr 1
  funext c
  exact GenEq.Cell.isDefault_eq c

/-- hand-kept list of the functions of line.rs with an equality theorem above -/
def provedFunctions : List String := [
  "Line::blank", "Line::clear", "Line::print", "Line::insert", "Line::delete", "Line::extend", "Line::expand",
  "Line::contract", "Line::len", "Line::is_empty", "Line::cells", "Line::chars", "Line::text", "Line::trim",
  "Line::trailers", "Line::is_blank"]

/-- what translate/rs2lean_buf.py leaves out of line.rs: `Chunks::new` / `Chunks::next`, a generic iterator over a
    closure, used only by `dump` / `Debug`.  rs2lean_p5.py translates both into Gen/DumpGen.lean; GenEqDump has them. -/
def untranslatedFunctions : List String := ["Chunks::new", "Chunks::next"]

/-- the translator's list against the hand-kept one: a function of line.rs entering or leaving the translated
    set fails here.  That every listed name has its theorem is by inspection. -/
theorem coverage_complete : GenL.translated = provedFunctions := rfl

theorem untranslated_as_expected : GenL.untranslated.length = untranslatedFunctions.length := by decide

/-- the place functions (`Index` impls) that were expanded inside the functions above -/
theorem inlined_as_expected :
    GenL.inlined = ["<Line as Index<Range<usize>>>::index", "<Line as Index<RangeFull>>::index"] := rfl

end Avt.GenEqLine
