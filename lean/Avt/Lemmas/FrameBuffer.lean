/-
  Avt.Lemmas.FrameBuffer — the frame lemma at the level of `Buffer`.

  `BRel s p x y`: the two buffers have the same view and geometry, and `x` holds `p` more (older)
  scrollback lines than `y`: `x.sb = p ++ y.sb`.  `trimNeeded` is unconstrained; `limit` is equal only
  in the strict variant (`s = true`).  No buffer operation other than `resize`/`gc` reads anything
  above the view, so every operation maps related buffers to related buffers with the SAME prefix,
  and fails on one side exactly when it fails on the other.  C12 uses the strict variant (two sessions
  of one terminal, `VRel.ofInv`), C14 also the other (an unlimited terminal against a limited one,
  `new_rel`).
-/
import Avt.Model.Vt
import Avt.Spec.Inv
import Avt.Lemmas.Prim
import Avt.Lemmas.Resize
import Avt.Lemmas.BufferGc

namespace Avt.Frame
open Avt

structure BRel (s : Bool) (p : List Line) (x y : Buffer) : Prop where
  sb : x.sb = p ++ y.sb
  view : x.view = y.view
  cols : x.cols = y.cols
  rows : x.rows = y.rows
  limit : s = true → x.limit = y.limit

/-- what every operation other than `resize` keeps of a buffer -/
structure Keep (x x' : Buffer) : Prop where
  vlen : x'.view.length = x.view.length
  cols : x'.cols = x.cols
  rows : x'.rows = x.rows
  limit : x'.limit = x.limit

theorem Keep.refl (x : Buffer) : Keep x x := ⟨rfl, rfl, rfl, rfl⟩

theorem Keep.trans {x y z : Buffer} (h1 : Keep x y) (h2 : Keep y z) : Keep x z :=
  ⟨h2.vlen.trans h1.vlen, h2.cols.trans h1.cols, h2.rows.trans h1.rows, h2.limit.trans h1.limit⟩

/-- related results of an operation that may panic: both panic, or both succeed, are related, and
    the result keeps the shape of `x0` -/
def BRelO (s : Bool) (p : List Line) (x0 : Buffer) : Option Buffer → Option Buffer → Prop
  | some x, some y => BRel s p x y ∧ Keep x0 x
  | none, none => True
  | _, _ => False

theorem BRel.refl (s : Bool) (x : Buffer) : BRel s [] x x :=
  ⟨rfl, rfl, rfl, rfl, fun _ => rfl⟩

/-- Both sides get the same new view and the same lines pushed onto their scrollbacks (what scrolling
    off the top does); `trimNeeded` is free.  The geometry is the same term on both sides, as it is
    in a goal once `y.cols`, `y.rows` have been rewritten to those of `x`. -/
theorem BRel.push {s p x y} (h : BRel s p x y) {w v : List Line} {tx ty : Bool} {c r : Nat} :
    BRel s p ⟨x.sb ++ w, v, c, r, x.limit, tx⟩ ⟨y.sb ++ w, v, c, r, y.limit, ty⟩ :=
  ⟨by simp only [h.sb, List.append_assoc], rfl, rfl, rfl, h.limit⟩

theorem BRel.setView {s p x y} (h : BRel s p x y) {v : List Line} {tx ty : Bool} {c r : Nat} :
    BRel s p ⟨x.sb, v, c, r, x.limit, tx⟩ ⟨y.sb, v, c, r, y.limit, ty⟩ :=
  ⟨h.sb, rfl, rfl, rfl, h.limit⟩

theorem BRelO.elim {s p x0} {ox oy : Option Buffer} (h : BRelO s p x0 ox oy) :
    (ox = none ∧ oy = none) ∨ ∃ x y, ox = some x ∧ oy = some y ∧ BRel s p x y ∧ Keep x0 x :=
  match ox, oy, h with
  | none, none, _ => .inl ⟨rfl, rfl⟩
  | some x, some y, h => .inr ⟨x, y, rfl, rfl, h⟩
  | some _, none, h => False.elim h
  | none, some _, h => False.elim h

theorem BRelO.trans {s p x0 x1} {ox oy : Option Buffer} (hk : Keep x0 x1) (h : BRelO s p x1 ox oy) :
    BRelO s p x0 ox oy :=
  match ox, oy, h with
  | none, none, _ => trivial
  | some _, some _, ⟨h, k⟩ => ⟨h, hk.trans k⟩
  | some _, none, h => False.elim h
  | none, some _, h => False.elim h

/-- sequencing after a related partial buffer step (the model's
    `match … with | none => none | some b => …`) -/
theorem bindB {α β} {Q : Option α → Option β → Prop} {s p x0} {ox oy : Option Buffer}
    {f : Buffer → Option α} {g : Buffer → Option β} (h : BRelO s p x0 ox oy) (hn : Q none none)
    (hs : ∀ x y, BRel s p x y → Keep x0 x → Q (f x) (g y)) :
    Q (match (generalizing := false) ox with | none => none | some t => f t)
      (match (generalizing := false) oy with | none => none | some t => g t) := by
  rcases h.elim with ⟨ha, hb⟩ | ⟨a, b, ha, hb, R, K⟩
  · subst ha; subst hb; exact hn
  · subst ha; subst hb; exact hs a b R K

/-- both sides branch on the same condition (much cheaper to check than `split` on a large goal) -/
theorem ite_rel {α β} {Q : α → β → Prop} {c : Prop} [Decidable c] {t e : α} {t' e' : β}
    (h1 : c → Q t t') (h2 : ¬ c → Q e e') : Q (if c then t else e) (if c then t' else e') := by
  split
  · exact h1 ‹_›
  · exact h2 ‹_›

theorem BRelO.ite {s p x0 x y} {c : Prop} [Decidable c] {ox oy : Option Buffer} (h : BRel s p x y)
    (k : Keep x0 x) (hf : BRelO s p x ox oy) :
    BRelO s p x0 (if c then ox else some x) (if c then oy else some y) :=
  ite_rel (Q := BRelO s p x0) (fun _ => hf.trans k) (fun _ => ⟨h, k⟩)

theorem updRow_rel {s p x y} (h : BRel s p x y) (row : Nat) (f : Line → Option Line) :
    BRelO s p x (x.updRow row f) (y.updRow row f) := by
  unfold Buffer.updRow
  rw [← h.view, ← h.cols, ← h.rows]
  cases hm : modAtM x.view row f with
  | none => trivial
  | some v => exact ⟨h.setView, modAtM_length hm, rfl, rfl, rfl⟩

theorem print_rel {s p x y} (h : BRel s p x y) (col row : Nat) (cell : Cell) :
    BRelO s p x (x.print col row cell) (y.print col row cell) := updRow_rel h _ _

theorem wrap_rel {s p x y} (h : BRel s p x y) (row : Nat) : BRelO s p x (x.wrap row) (y.wrap row) :=
  updRow_rel h _ _

theorem unwrapRow_rel {s p x y} (h : BRel s p x y) (row : Nat) :
    BRelO s p x (x.unwrapRow row) (y.unwrapRow row) := updRow_rel h _ _

theorem insert_rel {s p x y} (h : BRel s p x y) (col row n : Nat) (cell : Cell) :
    BRelO s p x (x.insert col row n cell) (y.insert col row n cell) := by
  unfold Buffer.insert
  rw [← h.cols]
  cases csub x.cols col with
  | none => trivial
  | some room => exact updRow_rel h _ _

theorem delete_rel {s p x y} (h : BRel s p x y) (col row n : Nat) (pen : Pen) :
    BRelO s p x (x.delete col row n pen) (y.delete col row n pen) := by
  unfold Buffer.delete
  rw [← h.cols]
  cases csub x.cols col with
  | none => trivial
  | some room => exact updRow_rel h _ _

theorem clear_rel {s p x y} (h : BRel s p x y) (a c : Nat) (pen : Pen) :
    BRelO s p x (x.clear a c pen) (y.clear a c pen) := by
  unfold Buffer.clear
  rw [← h.view, ← h.cols, ← h.rows]
  cases hf : fillRange x.view a c (Line.blank x.cols pen) with
  | none => trivial
  | some v => exact ⟨h.setView, fillRange_length hf, rfl, rfl, rfl⟩

theorem erase_rel {s p x y} (h : BRel s p x y) (col row : Nat) (mode : Buffer.EraseMode) (pen : Pen) :
    BRelO s p x (x.erase col row mode pen) (y.erase col row mode pen) := by
  cases mode <;> simp only [Buffer.erase]
  case wholeView => rw [← h.rows]; exact clear_rel h _ _ _
  all_goals rw [← h.cols]
  case nextChars n =>
    cases csub x.cols col with
    | none => trivial
    | some room => exact updRow_rel h _ _
  case fromCursorToEndOfView =>
    refine bindB (Q := BRelO s p x) (updRow_rel h _ _) trivial fun x' y' h' k => ?_
    rw [← h'.rows]
    exact (clear_rel h' _ _ _).trans k
  case fromStartOfViewToCursor =>
    exact bindB (Q := BRelO s p x) (updRow_rel h _ _) trivial fun x' y' h' k => (clear_rel h' _ _ _).trans k
  all_goals exact updRow_rel h _ _

theorem scrollDown_rel {s p x y} (h : BRel s p x y) (a e n : Nat) (pen : Pen) :
    BRelO s p x (x.scrollDown a e n pen) (y.scrollDown a e n pen) := by
  unfold Buffer.scrollDown
  cases csub e a with
  | none => trivial
  | some hh =>
    simp only []
    rw [← h.view, ← h.cols, ← h.rows]
    cases hr : rotRRange x.view a e (min n hh) with
    | none => trivial
    | some v =>
      have k0 : Keep x { x with view := v } := ⟨rotRRange_length hr, rfl, rfl, rfl⟩
      refine bindB (Q := BRelO s p x) ((clear_rel h.setView _ _ _).trans k0) trivial
        fun x1 y1 h1 k1 => ?_
      refine bindB (Q := BRelO s p x) (BRelO.ite h1 k1 (unwrapRow_rel h1 _)) trivial fun x2 y2 h2 k2 => ?_
      cases csub e 1 with
      | none => trivial
      | some e1 => exact (unwrapRow_rel h2 _).trans k2

theorem scrollUp_rel {s p x y} (h : BRel s p x y) (a e n : Nat) (pen : Pen) :
    BRelO s p x (x.scrollUp a e n pen) (y.scrollUp a e n pen) := by
  unfold Buffer.scrollUp
  rw [← h.rows]
  cases csub e a with
  | none => trivial
  | some hh =>
    cases csub e 1 with
    | none => trivial
    | some e1 =>
      cases csub x.rows 1 with
      | none => trivial
      | some r1 =>
        simp only []
        refine bindB (Q := BRelO s p x) (BRelO.ite h (Keep.refl x) (unwrapRow_rel h _)) trivial
          fun x1 y1 h1 k1 => ?_
        refine ite_rel (Q := BRelO s p x) (fun _ => ?_) (fun _ => ?_)
        · -- scrolling the whole width of the screen off its top: the lines go to both scrollbacks
          rw [← h1.rows, ← h1.view, ← h1.cols]
          refine ite_rel (Q := BRelO s p x) (fun _ => ?_) (fun _ => ?_)
          · exact ⟨h1.push, k1.trans ⟨length_drop_append _ _ _, rfl, rfl, rfl⟩⟩
          · refine ite_rel (Q := BRelO s p x) (fun he => ?_) (fun _ => trivial)
            exact ⟨h1.push, k1.trans ⟨length_drop_insert _ _ _ he.2, rfl, rfl, rfl⟩⟩
        · cases csub a 1 with
          | none => trivial
          | some a1 =>
            refine bindB (Q := BRelO s p x) ((unwrapRow_rel h1 a1).trans k1) trivial fun x2 y2 h2 k2 => ?_
            rw [← h2.view, ← h2.cols, ← h2.rows]
            cases hr : rotLRange x2.view a e (min n hh) with
            | none => trivial
            | some v =>
              have k3 : Keep x { x2 with view := v } := k2.trans ⟨rotLRange_length hr, rfl, rfl, rfl⟩
              refine bindB (Q := BRelO s p x) ((clear_rel h2.setView _ _ _).trans k3) trivial
                fun x3 y3 h3 k => ?_
              rw [← h3.view, ← h3.cols, ← h3.rows]
              exact ⟨h3.setView, k.trans ⟨rfl, rfl, rfl, rfl⟩⟩

/-! ### `gc` on the smaller side: what it hands out joins the extra scrollback -/

theorem gc_keep (b : Buffer) : Keep b (b.gc).1 := by
  have hv := gc_view b
  exact ⟨by rw [hv.1], hv.2.1, hv.2.2.1, hv.2.2.2.1⟩

theorem gc_rel_right {s p x y} (h : BRel s p x y) : BRel s (p ++ (y.gc).2) x (y.gc).1 := by
  have hv := gc_view y
  exact { sb := by rw [List.append_assoc, gc_partition]; exact h.sb
          view := by rw [hv.1]; exact h.view
          cols := by rw [hv.2.1]; exact h.cols
          rows := by rw [hv.2.2.1]; exact h.rows
          limit := fun hs => by rw [hv.2.2.2.1]; exact h.limit hs }

/-- `resize` reads the lines and the geometry only, and keeps `limit` -/
theorem resize_congr {s x y} (h : BRel s [] x y) (c r : Nat) (cur : Nat × Nat) :
    (x.resize c r cur = none ∧ y.resize c r cur = none) ∨
    ∃ x' y' cur', x.resize c r cur = some (x', cur') ∧ y.resize c r cur = some (y', cur') ∧ BRel s [] x' y'
      ∧ x'.cols = c ∧ x'.rows = r ∧ x'.view.length = r ∧ x'.limit = x.limit := by
  have hl : x.lines = y.lines := by simp [Buffer.lines, h.sb, h.view]
  rw [Buffer.resize_eq, Buffer.resize_eq, hl, h.cols, h.rows]
  cases Buffer.logicalPosition y.lines cur y.cols y.rows with
  | none => exact .inl ⟨rfl, rfl⟩
  | some lp =>
    simp only []
    cases Buffer.rsStep1 y.lines y.cols y.rows c cur lp with
    | none => exact .inl ⟨rfl, rfl⟩
    | some t1 =>
      simp only []
      cases Buffer.rsStep2 c r t1.1 t1.2.1 t1.2.2 with
      | none => exact .inl ⟨rfl, rfl⟩
      | some t2 =>
        simp only []
        cases hk : csub t2.1.length r with
        | none => exact .inl ⟨rfl, rfl⟩
        | some k =>
          obtain ⟨hle, rfl⟩ := csub_eq_some_iff.1 hk
          exact .inr ⟨_, _, _, rfl, rfl, ⟨rfl, rfl, rfl, rfl, h.limit⟩, rfl, rfl,
            by rw [List.length_drop]; omega, rfl⟩

/-- the two ways `resize` is reached inside a feed: at an unchanged geometry (identity on the
    lines), or on a buffer that is the same on both sides -/
theorem resize_rel {s p x y} (h : BRel s p x y) (c r : Nat) (cur : Nat × Nat)
    (hc : (x.cols = c ∧ x.rows = r ∧ x.view.length = x.rows) ∨ p = []) :
    (x.resize c r cur = none ∧ y.resize c r cur = none) ∨
    ∃ x' y' cur', x.resize c r cur = some (x', cur') ∧ y.resize c r cur = some (y', cur') ∧ BRel s p x' y'
      ∧ x'.cols = c ∧ x'.rows = r ∧ x'.view.length = r ∧ x'.limit = x.limit := by
  rcases hc with ⟨rfl, rfl, hv⟩ | rfl
  · have hy : y.resize x.cols x.rows cur = some ({ y with trimNeeded := true }, cur) := by
      rw [h.cols, h.rows]
      exact resize_same y cur (by rw [← h.view, ← h.rows]; exact hv)
    exact .inr ⟨_, _, _, resize_same x cur hv, hy, ⟨h.sb, h.view, h.cols, h.rows, h.limit⟩, rfl, rfl, hv, rfl⟩
  · exact resize_congr h c r cur

end Avt.Frame
