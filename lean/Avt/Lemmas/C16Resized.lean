/-
  Avt.Lemmas.C16Resized — what the resized-excursion clause of C16 needs.  `Buffer::text` is `lineText`
  (characters, `trim_end`) of the logical lines of the rows (`text_eq_logical`), so C10's "kept or cut
  short at the bottom" gives C16's `textRel` on `text()` (`textRel_of_keptOrCut`).  Leaving the
  alternate screen (`DECRST 47/1047/1049`) is ONE `Buffer.resize` of the parked buffer to the
  terminal's size, fed with `leaveCursor`: the parked saved cursor (1049) resp. the alternate screen's
  cursor (47/1047) (`leave_resize`); at the geometry of the mark it only sets `trim_needed` (`leave_spec`).
-/
import Avt.Lemmas.C16Text
import Avt.Lemmas.C16Switch
import Avt.Lemmas.C09Text
import Avt.Lemmas.C10Rel
import Avt.Lemmas.ResizeSame
import Avt.Lemmas.InvTerminal

namespace Avt.C16
open Avt Avt.Lemmas

/-- the string `text()` shows for a logical line: its characters, trailing white space removed -/
def lineText (cs : List Cell) : List Nat := trimEnd (cs.map Cell.ch)

theorem lineText_nil : lineText [] = [] := rfl

def glueHead (cur : List Nat) : List (List Nat) → List (List Nat)
  | [] => []
  | x :: xs => (cur ++ x) :: xs

theorem joinRows_ne_nil {ls : List Line} (h : ls ≠ []) : Spec.C10.joinRows ls ≠ [] :=
  fun h0 => h (joinRows_eq_nil.1 h0)

theorem joinText_joinRows : ∀ (ls : List Line) (cur : List Nat), ls ≠ [] → lastUnwrapped ls = true →
    joinText ls cur = glueHead cur ((Spec.C10.joinRows ls).map (List.map Cell.ch))
  | [], _, h, _ => absurd rfl h
  | [l], cur, _, hl => by
    have hw : l.wrapped = false := lastUnwrapped_singleton hl
    simp [joinText, Spec.C10.joinRows, hw, glueHead, Line.text]
  | l :: l2 :: t, cur, _, hl => by
    have hl' : lastUnwrapped (l2 :: t) = true := lastUnwrapped_tail hl
    obtain ⟨x, xs, hj⟩ := List.exists_cons_of_ne_nil (joinRows_ne_nil (List.cons_ne_nil l2 t))
    have ih := fun cur => joinText_joinRows (l2 :: t) cur (List.cons_ne_nil l2 t) hl'
    cases hw : l.wrapped with
    | false =>
      rw [joinText_cons_unwrapped hw, joinRows_cons_unwrapped hw, ih, hj]
      simp [glueHead, Line.text]
    | true =>
      rw [joinText_cons_wrapped hw, ih, joinRows_cons_wrapped hw hj, hj]
      simp [glueHead, Line.text]

/-- default cells are blanks, so stripping them does not change the trimmed text -/
theorem lineText_strip (cs : List Cell) : lineText (Spec.C10.stripDefault cs) = lineText cs := by
  obtain ⟨d, hd, hall⟩ := rstrip_decomp Cell.isDefault cs
  rw [stripDefault_eq]
  unfold lineText
  conv => rhs; rw [hd, List.map_append]
  rw [trimEnd_append_ws]
  intro c hc
  obtain ⟨x, hx, rfl⟩ := List.mem_map.1 hc
  have := hall x hx
  simp only [Cell.isDefault, Bool.and_eq_true, beq_iff_eq] at this
  rw [this.1]; decide

/-- `Buffer::text` of rows whose last row is not soft-wrapped (every buffer: `BInv`) is the list
    of its logical lines, each shown as `lineText` -/
theorem text_eq_logical {ls : List Line} (h : lastUnwrapped ls = true) :
    Buffer.textGo ls [] = (Spec.C10.logicalLines ls).map lineText := by
  by_cases hne : ls = []
  · subst hne; rfl
  · rw [textGo_spec, joinText_joinRows ls [] hne h]
    cases hj : Spec.C10.joinRows ls with
    | nil => exact absurd hj (joinRows_ne_nil hne)
    | cons x xs =>
      simp only [Spec.C10.logicalLines, hj, List.map_cons, glueHead, List.nil_append, List.map_map,
        List.cons.injEq]
      refine ⟨(lineText_strip x).symm, ?_⟩
      apply List.map_congr_left
      intro y _
      exact (lineText_strip y).symm

theorem buffer_text_eq_logical {b : Buffer} (h : BInv b = true) :
    b.text = (Spec.C10.logicalLines b.lines).map lineText :=
  text_eq_logical (BOK.of_BInv h).lines_facts.2.2

open Spec.C16 in
theorem dropTrailingEmpty_cons (x : List Nat) (xs : List (List Nat)) :
    dropTrailingEmpty (x :: xs)
      = if (dropTrailingEmpty xs).isEmpty && x.isEmpty then [] else x :: dropTrailingEmpty xs :=
  rstrip_cons List.isEmpty x xs

open Spec.C16 in
theorem isPrefixOf_of_prefix {n o : List Nat} (h : n <+: o) : isPrefixOf n o = true := by
  obtain ⟨r, rfl⟩ := h
  simp [isPrefixOf]

theorem lineText_prefix {a b : List Cell} (h : b <+: a) : lineText b <+: lineText a := by
  obtain ⟨s, rfl⟩ := h
  unfold lineText
  rw [List.map_append]
  exact rstrip_prefix_append _ _ _

open Spec.C16 Spec.C10 in
theorem dte_of_blank : ∀ (bs : List (List Cell)), keptOrCut [] bs = true →
    dropTrailingEmpty (bs.map lineText) = []
  | [], _ => rfl
  | b :: bs, h => by
    simp only [keptOrCut, Bool.and_eq_true, List.isEmpty_iff] at h
    rw [List.map_cons, dropTrailingEmpty_cons, dte_of_blank bs h.2, h.1]
    rfl

open Spec.C16 Spec.C10 in
/-- logical lines kept or cut short at the bottom (C10) ⟹ the text is never altered, at most cut
    short at the end (C16's `textRel`) -/
theorem textRel_of_keptOrCut : ∀ (as bs : List (List Cell)), keptOrCut as bs = true →
    textRel (as.map lineText) (bs.map lineText) = true
  | _, [], _ => by simp [textRel, dropTrailingEmpty, prefixLines]
  | [], b :: bs, h => by
    unfold textRel
    rw [dte_of_blank (b :: bs) h]; rfl
  | a :: as, b :: bs, h => by
    unfold textRel
    rw [List.map_cons, List.map_cons, dropTrailingEmpty_cons]
    simp only [keptOrCut, Bool.or_eq_true, Bool.and_eq_true, beq_iff_eq, List.isEmpty_iff] at h
    rcases h with ⟨hba, hk⟩ | ⟨hp, hbs⟩
    · subst hba
      have ih := textRel_of_keptOrCut as bs hk
      unfold textRel at ih
      cases hd : dropTrailingEmpty (bs.map lineText) with
      | nil =>
        cases (lineText b).isEmpty
        · simp [prefixLines, isPrefixOf]
        · simp [prefixLines]
      | cons n ns =>
        rw [hd] at ih
        simp [prefixLines, ih]
    · subst hbs
      have hp' : b <+: a := List.isPrefixOf_iff_prefix.1 hp
      have := isPrefixOf_of_prefix (lineText_prefix hp')
      cases (lineText b).isEmpty
      · simp [dropTrailingEmpty, prefixLines, this]
      · simp [dropTrailingEmpty, prefixLines]

/-- the cursor handed to the deferred `Buffer.resize` when the alternate screen is left with mode `m`:
    `?1049l` restores the parked saved cursor first (old geometry of the primary), `?47l`/`?1047l`
    use the alternate screen's cursor (current geometry) -/
def leaveCursor (t : Terminal) (m : DecMode) : Nat × Nat :=
  if m = .saveCursorAltScreenBuffer then (t.alternateSavedCtx.cursorCol, t.alternateSavedCtx.cursorRow)
  else (t.cursor.col, t.cursor.row)

/-- was a wrap pending for the cursor handed to the deferred resize? (never after `restore_cursor`) -/
def leavePending (t : Terminal) (m : DecMode) : Bool :=
  if m = .saveCursorAltScreenBuffer then false else t.pendingWrap

theorem leaveCursor_1049 (t : Terminal) : leaveCursor t .saveCursorAltScreenBuffer
    = (t.alternateSavedCtx.cursorCol, t.alternateSavedCtx.cursorRow) := rfl

theorem leavePending_1049 (t : Terminal) : leavePending t .saveCursorAltScreenBuffer = false := rfl

/-- leaving, in any of the three modes, is one `Buffer.resize` of the parked buffer to the terminal's
    size; `restore_cursor` (1049) only replaces the cursor handed to it (`leaveCursor`) -/
theorem leave_resize {t t' : Terminal} {m : DecMode} (ha : t.activeBufferType = .alternate)
    (hm : Spec.C16.isAltScreenMode m = true) (h : t.decrstOne m = some t') :
    ∃ cur', t.otherBuffer.resize t.cols t.rows (leaveCursor t m) = some (t'.buffer, cur')
      ∧ t'.cursor.col = cur'.1 ∧ t'.cursor.row = cur'.2
      ∧ t'.activeBufferType = .primary ∧ t'.cols = t.cols ∧ t'.rows = t.rows
      ∧ t'.scrollbackLimit = t.scrollbackLimit := by
  obtain ⟨t1, h1, h2⟩ := Terminal.decrstOne_screen hm h
  obtain ⟨d, rfl⟩ := Terminal.switchTo_other (by rw [ha]; decide) h1
  obtain ⟨_, _, _, cur', hres, rfl⟩ := Terminal.reflow_eq_some.1 h2
  cases m <;> cases hm <;> exact ⟨cur', hres, rfl, rfl, rfl, rfl, rfl, rfl⟩

/-- `?1049l`: besides the cursor position (which goes through the deferred resize) the pen, origin
    mode and auto-wrap mode come back from the parked context, and no wrap is pending -/
theorem leave_1049_ctx {t t' : Terminal} (ha : t.activeBufferType = .alternate)
    (h : t.decrstOne .saveCursorAltScreenBuffer = some t') :
    t'.pen = t.alternateSavedCtx.pen ∧ t'.originMode = t.alternateSavedCtx.originMode
      ∧ t'.autoWrapMode = t.alternateSavedCtx.autoWrapMode ∧ t'.pendingWrap = false := by
  obtain ⟨t1, h1, h2⟩ := Terminal.decrstOne_screen rfl h
  obtain ⟨d, rfl⟩ := Terminal.switchTo_other (by rw [ha]; decide) h1
  obtain ⟨_, _, _, _, _, rfl⟩ := Terminal.reflow_eq_some.1 h2
  exact ⟨rfl, rfl, rfl, ite_self _⟩

/-- leaving when the parked primary still has the terminal's size: the deferred resize only sets
    `trim_needed` (`Frame.resize_same`), and `?1049l` puts the cursor where the parked context says -/
theorem leave_spec {t t' : Terminal} {m : DecMode} (hinv : TInv t = true)
    (ha : t.activeBufferType = .alternate) (hm : Spec.C16.isAltScreenMode m = true)
    (hg1 : t.otherBuffer.cols = t.cols) (hg2 : t.otherBuffer.rows = t.rows) (h : t.decrstOne m = some t') :
    t'.activeBufferType = .primary ∧ geo t' = geo t ∧ t'.buffer = { t.otherBuffer with trimNeeded := true }
      ∧ (m = .saveCursorAltScreenBuffer → Spec.C16.ctxRestored t.alternateSavedCtx t' = true) := by
  obtain ⟨cur', hres, hcc, hcr, hprim, _⟩ := leave_resize ha hm h
  rw [← hg1, ← hg2, Frame.resize_same _ _ (TOK.of_TInv hinv).ook.hv] at hres
  simp only [Option.some.injEq, Prod.mk.injEq] at hres
  refine ⟨hprim, geo_decrstOne h, hres.1.symm, fun hm1 => ?_⟩
  subst hm1
  obtain ⟨p1, p2, p3, p4⟩ := leave_1049_ctx ha h
  simp [Spec.C16.ctxRestored, hcc, hcr, ← hres.2, leaveCursor, p1, p2, p3, p4]

end Avt.C16
