/-
  Avt.Lemmas.C06Props — what the clauses of the property are read off.  `namespace Avt.C06L`, for
  Avt/Props/C06.lean: no function outside `mayChangeScrollback` changes the lines above the view or the
  parked buffer (`keeps_scrollback`: only an upward scroll does, and those functions make none); the two
  scroll specifications row by row.  `namespace Avt.Props.Api`, for `Api_C06` in Avt/Props/Api.lean: which
  rows a command scrolls, in the property's words (`Scroll`, `scrollOf`, `scrollCmd_buffer`).
-/
import Avt.Lemmas.C06Cmd
import Avt.Lemmas.Writes
import Avt.Lemmas.C08Cells

namespace Avt.C06L
open Avt.Spec.C06

/-- what a function that writes neither buffer field gives, read off the table of Lemmas/Writes (`of_same`,
    `decModes_same`) -/
def SameBufs (t t' : Terminal) : Prop := t'.buffer = t.buffer ∧ t'.otherBuffer = t.otherBuffer

/-- `SameBufs` weakened to the scrollback, which a function that draws without an upward scroll still
    gives (`sameSb_of_paint`): the conclusion of `keeps_scrollback` -/
def SameSb (t t' : Terminal) : Prop := t'.buffer.sb = t.buffer.sb ∧ t'.otherBuffer = t.otherBuffer

theorem SameBufs.toSb {t t' : Terminal} (h : SameBufs t t') : SameSb t t' := ⟨by rw [h.1], h.2⟩

theorem SameBufs.refl (t : Terminal) : SameBufs t t := ⟨rfl, rfl⟩
theorem SameSb.trans {a b c : Terminal} (h1 : SameSb a b) (h2 : SameSb b c) : SameSb a c :=
  ⟨h2.1.trans h1.1, h2.2.trans h1.2⟩

theorem SameBufs.of_same {W : Field → Bool} {t t' : Terminal} (h : Same W t t')
    (w : W .buffer = false ∧ W .otherBuffer = false) : SameBufs t t' :=
  ⟨h .buffer w.1, h .otherBuffer w.2⟩

section
open Avt.Spec.C08

theorem run_sb {op : BufOp} {b b' : Buffer} (hn : ∀ s e n p, op ≠ .scrollUp s e n p)
    (h : op.run b = some b') : b'.sb = b.sb := by
  cases op
  case scrollUp s e n p => exact absurd rfl (hn s e n p)
  case print => exact updRow_sb h
  case insert => exact bufInsert_sb h
  case delete => exact bufDelete_sb h
  case erase => exact bufErase_sb h
  case scrollDown => exact bufScrollDown_sb h
  case wrap => exact updRow_sb h

theorem sameSb_of_paint {K : BufOp → Prop} {t t' : Terminal} (h : Paint K t t')
    (hk : ∀ op, K op → ∀ s e n p, op ≠ .scrollUp s e n p) : SameSb t t' := by
  induction h with
  | refl t => exact ⟨rfl, rfl⟩
  | trans _ _ ih1 ih2 => exact ih1.trans ih2
  | move m => exact ⟨by rw [m .buffer rfl], m .otherBuffer rfl⟩
  | edit op k hb _ => exact ⟨run_sb (hk op k) hb, rfl⟩
  | flag => exact ⟨rfl, rfl⟩

theorem some_inj' {α} {a b : α} (h : some a = some b) : a = b := Option.some.inj h

/-- every function outside `mayChangeScrollback` leaves the scrollback of the active buffer and the
    whole parked buffer as they were: the erasures, insertions and downward scrolls because none of
    their calls into the buffer is an upward scroll, the others because they write neither buffer -/
theorem keeps_scrollback {t t' : Terminal} {f : Function} (hf : mayChangeScrollback f = false)
    (he : t.execute f = some t') : SameSb t t' := by
  cases f
  case dch n | decaln | ech n | ed s | el s | ich n | il n | ri | sd n =>
    refine sameSb_of_paint (Paint.execute rfl he) fun op ho => ?_
    first
      | (cases ho; exact fun _ _ _ _ => BufOp.noConfusion)
      | (obtain ⟨_, rfl⟩ := ho; exact fun _ _ _ _ => BufOp.noConfusion)
      | (obtain ⟨_, _, rfl⟩ := ho; exact fun _ _ _ _ => BufOp.noConfusion)
  case sm ms | rm ms =>
    exact (SameBufs.of_same (Terminal.execute_same he) ⟨any_writes_false ms (by intro m; cases m <;> rfl),
      any_writes_false ms (by intro m; cases m <;> rfl)⟩).toSb
  all_goals first | exact (SameBufs.of_same (Terminal.execute_same he) ⟨rfl, rfl⟩).toSb | cases hf

end

/-- the two conditional un-markings of a scroll, read at one index, collapse into one condition (`unmark`
    is idempotent) -/
theorem unmark_twice (A B : Prop) [Decidable A] [Decidable B] (o : Option Line) :
    (if A then (if B then o.map unmark else o).map unmark else (if B then o.map unmark else o))
      = if A ∨ B then o.map unmark else o := by
  by_cases hA : A <;> by_cases hB : B <;> simp only [hA, hB, if_true, if_false, or_self, or_true, true_or]
  cases o <;> rfl

theorem getElem?_upMarks (s e rows : Nat) (v : List Line) (i : Nat) :
    (upMarks s e rows v)[i]? =
      if (s > 0 ∧ i = s - 1) ∨ (e < rows ∧ i = e - 1) then (v[i]?).map unmark else v[i]? := by
  simp only [upMarks, unmarkAt_eq_modify, getElem?_ite_modify, unmark_twice]

theorem map_cells_unmark_if (c : Prop) [Decidable c] (o : Option Line) :
    (if c then o.map unmark else o).map Line.cells = o.map Line.cells := by
  split
  · cases o <;> rfl
  · rfl

theorem map_cells_upMarks (s e rows : Nat) (v : List Line) :
    (upMarks s e rows v).map Line.cells = v.map Line.cells :=
  List.ext_getElem? fun i => by
    rw [List.getElem?_map, List.getElem?_map, getElem?_upMarks, map_cells_unmark_if]

theorem scrollUp_getElem? (s e n : Nat) (pen : Pen) (b : Buffer) (hse : s ≤ e) (he : e ≤ b.view.length)
    (i : Nat) :
    (scrollUpSpec s e n pen b).view[i]? =
      if s ≤ i ∧ i < e then
        (if i + min n (e - s) < e then (upMarks s e b.rows b.view)[i + min n (e - s)]?
         else some (Line.blank b.cols pen))
      else (upMarks s e b.rows b.view)[i]? := by
  have hk : min n (e - s) ≤ e - s := Nat.min_le_right _ _
  simp only [scrollUpSpec, blankRows]
  rw [getElem?_shiftL (by rw [length_upMarks]; exact he) (by omega) List.length_replicate]
  split
  · split
    · rfl
    · rw [List.getElem?_replicate, if_pos (by omega)]
  · rfl

theorem scrollDown_getElem? (s e n : Nat) (pen : Pen) (b : Buffer) (hse : s ≤ e) (he : e ≤ b.view.length)
    (i : Nat) :
    (scrollDownSpec s e n pen b).view[i]? =
      (fun o : Option Line => if i = e - 1 ∨ (s > 0 ∧ i = s - 1) then o.map unmark else o)
        (if s ≤ i ∧ i < e then
          (if i < s + min n (e - s) then some (Line.blank b.cols pen) else b.view[i - min n (e - s)]?)
         else b.view[i]?) := by
  have hk : min n (e - s) ≤ e - s := Nat.min_le_right _ _
  have hw : (b.view.take s ++ List.replicate (min n (e - s)) (Line.blank b.cols pen)
      ++ (b.view.take (e - min n (e - s))).drop s ++ b.view.drop e)[i]? =
      if s ≤ i ∧ i < e then
        (if i < s + min n (e - s) then some (Line.blank b.cols pen) else b.view[i - min n (e - s)]?)
      else b.view[i]? := by
    rw [getElem?_shiftR he (by omega) List.length_replicate]
    split
    · split
      · rw [List.getElem?_replicate, if_pos (by omega)]
      · rfl
    · rfl
  simp only [scrollDownSpec, blankRows, unmarkAt_eq_modify, getElem?_modify_if, getElem?_ite_modify, unmark_twice,
    ← hw]

theorem scrollUp_sb (s e n : Nat) (pen : Pen) (b : Buffer) :
    (scrollUpSpec s e n pen b).sb =
      if s = 0 then b.sb ++ (upMarks 0 e b.rows b.view).take (min n e) else b.sb := by
  unfold scrollUpSpec
  split
  · subst_vars; rfl
  · rfl

theorem scrollUp_lines (e n : Nat) (pen : Pen) (b : Buffer) :
    (scrollUpSpec 0 e n pen b).lines
      = b.sb ++ (upMarks 0 e b.rows b.view).take (min n e) ++ (scrollUpSpec 0 e n pen b).view := by
  rw [Buffer.lines, scrollUp_sb, if_pos rfl]

theorem scrollDown_sb (s e n : Nat) (pen : Pen) (b : Buffer) : (scrollDownSpec s e n pen b).sb = b.sb := rfl

theorem decModes_same (t t' : Terminal) (f : Function) (hf : replacesBuffer f = false)
    (hd : (∃ ms, f = .decset ms) ∨ (∃ ms, f = .decrst ms)) (he : t.execute f = some t') :
    SameBufs t t' := by
  rcases hd with ⟨ms, rfl⟩ | ⟨ms, rfl⟩ <;>
    exact .of_same (Terminal.execute_same he) ⟨any_writes_of hf (by intro m; cases m <;> decide),
      any_writes_of hf (by intro m; cases m <;> decide)⟩

/-- the alternate screen keeps no scrollback: after `changes()` + `gc()` nothing is above the view -/
theorem alt_keeps_none (t : Terminal) (h : TInv t = true) (ha : t.activeBufferType = .alternate) :
    (Spec.finishT t).buffer.sb = [] := by
  have p := TOK.of_TInv h
  exact List.eq_nil_of_length_eq_zero (Nat.le_zero.1 (Buffer.gc_bound p.bok _ (p.lim_alt ha)))

end Avt.C06L

namespace Avt.Props.Api
open Avt Avt.Spec Avt.Spec.C06

/-- what a covered command does to the rows, in the property's words: nothing, or a scroll of rows
    `s..e` up / down by `n` -/
inductive Scroll where
  | none
  | up (s e n : Nat)
  | down (s e n : Nat)

/-- the range and count the property names for each command: the region for SU / SD and for LF / IND /
    NEL / RI on the margin (by one); the rows from the cursor to the bottom margin — or to the last row
    when the cursor is below the region — for IL / DL; nothing otherwise -/
def scrollOf (t : Terminal) : Function → Scroll
  | .su n => .up t.topMargin (t.bottomMargin + 1) (asUsize n 1)
  | .sd n => .down t.topMargin (t.bottomMargin + 1) (asUsize n 1)
  | .il n => .down (lineRange t).1 (lineRange t).2 (asUsize n 1)
  | .dl n => .up (lineRange t).1 (lineRange t).2 (asUsize n 1)
  | .lf | .nel => if t.cursor.row = t.bottomMargin then .up t.topMargin (t.bottomMargin + 1) 1 else .none
  | .ri => if t.cursor.row = t.topMargin then .down t.topMargin (t.bottomMargin + 1) 1 else .none
  | _ => .none

def Scroll.apply (pen : Pen) (b : Buffer) : Scroll → Buffer
  | .none => b
  | .up s e n => scrollUpSpec s e n pen b
  | .down s e n => scrollDownSpec s e n pen b

def Scroll.valid (rows : Nat) : Scroll → Prop
  | .none => True
  | .up s e _ => s < e ∧ e ≤ rows
  | .down s e _ => s < e ∧ e ≤ rows

theorem down1_scroll (t : Terminal) :
    (down1 t).buffer = (scrollOf t .lf).apply t.pen t.buffer
      ∧ (down1 t).activeBufferType = t.activeBufferType := by
  unfold down1
  show _ = (if t.cursor.row = t.bottomMargin then Scroll.up _ _ _ else Scroll.none).apply _ _ ∧ _
  split
  · exact ⟨rfl, rfl⟩
  · split <;> exact ⟨rfl, rfl⟩

theorem up1_scroll (t : Terminal) :
    (up1 t).buffer = (scrollOf t .ri).apply t.pen t.buffer
      ∧ (up1 t).activeBufferType = t.activeBufferType := by
  unfold up1
  show _ = (if t.cursor.row = t.topMargin then Scroll.down _ _ _ else Scroll.none).apply _ _ ∧ _
  split
  · exact ⟨rfl, rfl⟩
  · split <;> exact ⟨rfl, rfl⟩

/-- every command changes the buffer by exactly the scroll the property names and keeps the screen
    that is showing -/
theorem scrollCmd_buffer (t : Terminal) (f : Function) :
    (scrollCmdSpec t f).buffer = (scrollOf t f).apply t.pen t.buffer
      ∧ (scrollCmdSpec t f).activeBufferType = t.activeBufferType := by
  cases f
  case lf =>
    have e : (scrollCmdSpec t .lf).buffer = (down1 t).buffer
        ∧ (scrollCmdSpec t .lf).activeBufferType = (down1 t).activeBufferType := by
      simp only [scrollCmdSpec]; split <;> exact ⟨rfl, rfl⟩
    rw [e.1, e.2]
    exact down1_scroll t
  case nel => exact down1_scroll t
  case ri => exact up1_scroll t
  all_goals exact ⟨rfl, rfl⟩

theorem scrollOf_valid {t : Terminal} (h : TInv t = true) (f : Function) : (scrollOf t f).valid t.rows := by
  have k := TOK.of_TInv h
  have hm := k.marg
  have hreg : t.topMargin < t.bottomMargin + 1 ∧ t.bottomMargin + 1 ≤ t.rows := by omega
  have hlr := C06L.lineRange_ok k
  unfold scrollOf
  split
  · exact hreg
  · exact hreg
  · exact hlr
  · exact hlr
  · split
    · exact hreg
    · trivial
  · split
    · exact hreg
    · trivial
  · split
    · exact hreg
    · trivial
  · trivial

theorem lines_grow {b b' : Buffer} {k : Nat}
    (h : b'.sb.map Line.cells = b.sb.map Line.cells ++ (b.view.take k).map Line.cells) :
    b'.lines.map Line.cells
      = (b.lines.map Line.cells).take (b.sb.length + k) ++ b'.view.map Line.cells := by
  have hl : (b.sb.map Line.cells).length = b.sb.length := List.length_map ..
  simp only [Buffer.lines, List.map_append, h]
  rw [← hl, List.take_length_add_append, List.map_take]

end Avt.Props.Api
