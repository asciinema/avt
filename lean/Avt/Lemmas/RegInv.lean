/-
  Avt.Lemmas.RegInv — the register invariant (`Param.ok`, `PInv`) unpacked, and what it says about one
  register and about the registers in use.  Nothing here looks at the parser's tables, so the SGR
  decoder (C08Decode) is characterised on top of this and ParserSem can use that characterisation.
-/
import Avt.Spec.Inv

namespace Avt.ParserSem
open Avt

theorem ok_iff (q : Param) : Param.ok q = true ↔
    q.parts.length = 6 ∧ q.curPart < 6 ∧ (∀ x ∈ q.parts.drop (q.curPart + 1), x = 0) ∧ (∀ x ∈ q.parts, x < 65536) := by
  simp only [Param.ok, Bool.and_eq_true, beq_iff_eq, List.all_eq_true, and_assoc, decide_eq_true_iff]
  exact Iff.rfl

theorem isZero_iff (q : Param) : Param.isZero q = true ↔ q.curPart = 0 ∧ ∀ x ∈ q.parts, x = 0 := by
  simp [Param.isZero]

theorem pinv_iff (p : Parser) : PInv p = true ↔
    p.params.length = 32 ∧ p.curParam < 32 ∧ (∀ q ∈ p.params, Param.ok q = true)
      ∧ (∀ q ∈ p.params.drop (p.curParam + 1), Param.isZero q = true) := by
  simp only [PInv, Bool.and_eq_true, beq_iff_eq, List.all_eq_true, and_assoc, decide_eq_true_iff]
  exact Iff.rfl

/-- the sub-parts of one parameter that were written -/
def wparts (q : Param) : List Nat := q.parts.take (q.curPart + 1)

theorem partsSlice_ok {q : Param} (hq : Param.ok q = true) : q.partsSlice = some (wparts q) := by
  rw [ok_iff] at hq
  unfold Param.partsSlice wparts
  rw [if_pos (by omega)]

theorem asU16_ok {q : Param} (hq : Param.ok q = true) : q.asU16 = some (q.parts.headD 0) := by
  rw [ok_iff] at hq
  unfold Param.asU16
  obtain ⟨cp, parts⟩ := q
  cases parts with
  | nil => simp at hq
  | cons x xs => rfl

theorem wparts_cons {q : Param} (hq : Param.ok q = true) : ∃ r, wparts q = q.parts.headD 0 :: r := by
  rw [ok_iff] at hq
  obtain ⟨cp, parts⟩ := q
  cases parts with
  | nil => simp at hq
  | cons x xs => exact ⟨xs.take cp, rfl⟩

theorem wparts_head {q : Param} (hq : Param.ok q = true) : (wparts q).headD 0 = q.parts.headD 0 := by
  obtain ⟨r, hr⟩ := wparts_cons hq
  rw [hr]
  rfl

theorem activeParams_eq {p : Parser} (hp : PInv p = true) :
    p.activeParams = some (p.params.take (p.curParam + 1)) := by
  rw [pinv_iff] at hp
  unfold Parser.activeParams
  rw [if_pos (by omega)]

theorem ok_of_mem_active {p : Parser} (hp : PInv p = true) :
    ∀ q ∈ p.params.take (p.curParam + 1), Param.ok q = true :=
  fun q hq => ((pinv_iff p).1 hp).2.2.1 q (List.mem_of_mem_take hq)

end Avt.ParserSem
