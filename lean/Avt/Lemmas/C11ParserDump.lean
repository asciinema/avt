/-
  Avt.Lemmas.C11ParserDump — `Parser.dump` round trip, all fourteen states.

  The parameter registers of the parser as the list of written parameters (`Spec.C03.written`), and the
  round trip "render them as `p;p:q;…`, feed the characters, get the registers back": at text level
  `stepW` folded over the rendering rebuilds the list (`foldl_stepW_renderAll`), and by
  `ParserSem.run_refRun` the run of the parser is the reference run, whose result `conc` reads back into
  registers (`run_conc`).
-/
import Avt.Lemmas.C11
import Avt.Lemmas.PenDump

namespace Avt
namespace Lemmas.C11
open Avt.Spec.C11 Avt.Spec.C03 Avt.ParserSem

/-- the register holding the parts `ps`; the same function as `Spec.C03.mkParam` -/
def encParam (ps : List Nat) : Param :=
  { curPart := ps.length - 1, parts := ps ++ List.replicate (6 - ps.length) 0 }

/-- an untouched register, `Param::default()` -/
def dflt : Param := {}

/-- the 32 registers of `Parser.params` holding `A`, the unused ones untouched -/
def encParams (A : Regs) : List Param := A.map encParam ++ List.replicate (32 - A.length) dflt

/-- the parser in state `st` whose registers hold `A` -/
def conc (st : PState) (im : Option Nat) (A : Regs) : Parser :=
  { state := st, params := encParams A, curParam := A.length - 1, intermediate := im }

/-- what one register can hold: `MAX_PARAM_LEN = 6` parts, each a `u16` -/
def PartsOK (ps : List Nat) : Prop := 1 ≤ ps.length ∧ ps.length ≤ 6 ∧ ∀ x ∈ ps, x < 65536

/-- what the registers can hold: between one and `PARAMS_LEN = 32` parameters (the condition
    `ParserSeq.shapeOK` puts on written parameters) -/
def RegsOK (A : Regs) : Prop := 1 ≤ A.length ∧ A.length ≤ 32 ∧ ∀ ps ∈ A, PartsOK ps

theorem ok_encParam (ps : List Nat) (h : PartsOK ps) : Param.ok (encParam ps) = true := by
  obtain ⟨h1, h2, h3⟩ := h
  refine (ok_iff _).2 ⟨?_, ?_, fun x hx => ?_, fun x hx => ?_⟩
  · show (ps ++ List.replicate (6 - ps.length) 0).length = 6
    rw [List.length_append, List.length_replicate]; omega
  · show ps.length - 1 < 6; omega
  · have hx' : x ∈ (ps ++ List.replicate (6 - ps.length) 0).drop (ps.length - 1 + 1) := hx
    rw [List.drop_left' (by omega)] at hx'
    exact (List.mem_replicate.1 hx').2
  · rcases List.mem_append.1 (hx : x ∈ ps ++ List.replicate (6 - ps.length) 0) with hx | hx
    · exact h3 x hx
    · rw [(List.mem_replicate.1 hx).2]; decide

theorem PInv_conc (st : PState) (im : Option Nat) (A : Regs) (hA : RegsOK A) : PInv (conc st im A) = true := by
  obtain ⟨h1, h2, h3⟩ := hA
  refine (pinv_iff _).2 ⟨?_, ?_, fun q hq => ?_, fun q hq => ?_⟩
  · show (A.map encParam ++ List.replicate (32 - A.length) dflt).length = 32
    rw [List.length_append, List.length_map, List.length_replicate]; omega
  · show A.length - 1 < 32; omega
  · rcases List.mem_append.1 (hq : q ∈ A.map encParam ++ List.replicate (32 - A.length) dflt) with hq | hq
    · obtain ⟨ps, hps, rfl⟩ := List.mem_map.1 hq
      exact ok_encParam ps (h3 ps hps)
    · rw [(List.mem_replicate.1 hq).2]; decide
  · have hq' : q ∈ (A.map encParam ++ List.replicate (32 - A.length) dflt).drop (A.length - 1 + 1) := hq
    rw [List.drop_left' (by rw [List.length_map]; omega)] at hq'
    rw [(List.mem_replicate.1 hq').2]; decide

theorem partsOK_written {p : Parser} (h : PInv p = true) : ∀ ps ∈ written p, PartsOK ps := by
  intro ps hps
  obtain ⟨q, hq, rfl⟩ := List.mem_map.1 hps
  obtain ⟨hlen, hcp, -, hlt⟩ := (ok_iff q).1 (((pinv_iff p).1 h).2.2.1 q (List.mem_of_mem_take hq))
  refine ⟨?_, ?_, fun x hx => hlt x (List.mem_of_mem_take hx)⟩ <;> rw [List.length_take] <;> omega

theorem eq_conc_written (p : Parser) (h : PInv p = true) :
    p = conc p.state p.intermediate (written p) ∧ RegsOK (written p) := by
  obtain ⟨hlen, hcp, hok, hz⟩ := (pinv_iff p).1 h
  have hdl : (written p).length = p.curParam + 1 := by
    simp only [written, List.length_map, List.length_take]; omega
  have h2 := List.eq_replicate_of_mem (l := p.params.drop (p.curParam + 1))
    fun q hq => zero_param (hok q (List.mem_of_mem_drop hq)) (hz q hq)
  have h1 : (written p).map encParam = p.params.take (p.curParam + 1) := written_mkParam h
  refine ⟨?_, by omega, by omega, partsOK_written h⟩
  obtain ⟨st, ps, cp, im⟩ := p
  simp only [conc, Parser.mk.injEq, true_and, and_true, encParams, hdl, h1, Nat.add_sub_cancel]
  simp only at hlen hcp h2
  have : 32 - (cp + 1) = (ps.drop (cp + 1)).length := by simp only [List.length_drop]; omega
  rw [this]
  conv => lhs; rw [← List.take_append_drop (cp + 1) ps, h2]
  rfl

theorem render_eq_renderParts (q : Param) (h : Param.ok q = true) :
    Parser.Param.render q = some (renderParts (q.parts.take (q.curPart + 1))) := by
  obtain ⟨hlen, -, -, -⟩ := (ok_iff q).1 h
  simp only [Parser.Param.render, partsSlice_ok h, wparts]
  match hm : q.parts.take (q.curPart + 1) with
  | [] =>
    have := congrArg List.length hm
    simp only [List.length_take, List.length_nil] at this
    omega
  | first :: rest => simp [renderParts]

theorem renderParams_eq (p : Parser) (h : PInv p = true) :
    Parser.renderParams p = some (renderAll (written p)) := by
  have hok := ((pinv_iff p).1 h).2.2.1
  simp only [Parser.renderParams, activeParams_eq h]
  rw [mapM_eq_map _ (fun q => renderParts (q.parts.take (q.curPart + 1))) _ fun q hq =>
    render_eq_renderParts q (hok q (List.mem_of_mem_take hq))]
  simp only [renderAll, written, List.map_map]
  rfl

theorem renderParts_chars : ∀ (ps : List Nat), ∀ c ∈ renderParts ps, 0x30 ≤ c ∧ c ≤ 0x3a
  | [], c, h => by simp [renderParts] at h
  | [x], c, h => by
    simp only [renderParts, List.map_nil, List.flatten_nil, List.append_nil] at h
    have := renderDec_isDigit x c h
    omega
  | x :: y :: ys, c, h => by
    rw [renderParts_cons₂] at h
    simp only [List.mem_append, List.mem_cons] at h
    rcases h with h | h | h
    · have := renderDec_isDigit x c h; omega
    · omega
    · exact renderParts_chars (y :: ys) c h

theorem renderAll_forall {P : Nat → Prop} (hsemi : P 0x3b) : ∀ (A : Regs),
    (∀ ps ∈ A, ∀ c ∈ renderParts ps, P c) → ∀ c ∈ renderAll A, P c
  | [], _, c, h => by simp [renderAll, List.intercalate] at h
  | [ps], hp, c, h => hp ps (List.mem_cons_self ..) c (by rwa [renderAll_single] at h)
  | ps :: qs :: A, hp, c, h => by
    rw [renderAll_cons₂] at h
    rcases List.mem_append.1 h with h | h
    · exact hp ps (List.mem_cons_self ..) c h
    · rcases List.mem_cons.1 h with rfl | h
      · exact hsemi
      · exact renderAll_forall hsemi (qs :: A) (fun r hr => hp r (List.mem_cons_of_mem _ hr)) c h

theorem renderAll_chars (A : Regs) : ∀ c ∈ renderAll A, 0x30 ≤ c ∧ c ≤ 0x3b :=
  renderAll_forall (by decide) A fun ps _ c h => by have := renderParts_chars ps c h; omega

/-- without sub-parameters (`DCS`): digits and `;` only -/
theorem renderAll_chars_single (A : Regs) (h1 : ∀ ps ∈ A, ps.length = 1) :
    ∀ c ∈ renderAll A, (0x30 ≤ c ∧ c ≤ 0x39) ∨ c = 0x3b :=
  renderAll_forall (Or.inr rfl) A fun ps hps c h => by
    match ps, h1 ps hps with
    | [x], _ =>
      simp only [renderParts, List.map_nil, List.flatten_nil, List.append_nil] at h
      exact Or.inl (renderDec_isDigit x c h)

theorem foldl_stepW_number (S : Regs) (P : List Nat) (x : Nat) (hx : x < 65536) :
    (renderDec x).foldl stepW (S ++ [P ++ [0]]) = S ++ [P ++ [x]] := by
  have h := foldl_stepW_digits S P _ (digits_isDigit x) 0
  rwa [show (digits x).foldl _ 0 = x from parseDec_digits x, Nat.mod_eq_of_lt hx, ← renderDec_eq_digits] at h

theorem foldl_stepW_renderParts (S : Regs) : ∀ (xs : List Nat) (x : Nat) (P : List Nat),
    (P ++ x :: xs).length ≤ 6 → (∀ y ∈ x :: xs, y < 65536) →
      (renderParts (x :: xs)).foldl stepW (S ++ [P ++ [0]]) = S ++ [P ++ x :: xs]
  | [], x, P, _, hx => by
    simp only [renderParts, List.map_nil, List.flatten_nil, List.append_nil]
    exact foldl_stepW_number S P x (hx x (List.mem_cons_self ..))
  | y :: ys, x, P, hlen, hx => by
    rw [renderParts_cons₂, List.foldl_append, foldl_stepW_number S P x (hx x (List.mem_cons_self ..)),
      List.foldl_cons, stepW_colon, if_pos (by simp at hlen ⊢; omega),
      foldl_stepW_renderParts S ys y (P ++ [x]) (by simp at hlen ⊢; omega)
        fun z hz => hx z (List.mem_cons_of_mem _ hz)]
    simp

theorem foldl_stepW_renderAll : ∀ (A : Regs) (ps : List Nat) (S : Regs), (S ++ ps :: A).length ≤ 32 →
    (∀ qs ∈ ps :: A, PartsOK qs) → (renderAll (ps :: A)).foldl stepW (S ++ [[0]]) = S ++ ps :: A
  | A, [], _, _, hok => absurd (hok [] (List.mem_cons_self ..)).1 (by decide)
  | [], x :: xs, S, _, hok => by
    obtain ⟨-, h2, h3⟩ := hok _ (List.mem_cons_self ..)
    rw [renderAll_single]
    exact foldl_stepW_renderParts S xs x [] h2 h3
  | qs :: A, x :: xs, S, hlen, hok => by
    obtain ⟨-, h2, h3⟩ := hok _ (List.mem_cons_self ..)
    have e := foldl_stepW_renderParts S xs x [] h2 h3
    simp only [List.nil_append] at e
    rw [renderAll_cons₂, List.foldl_append, e, List.foldl_cons,
      stepW_semi, if_pos (by simp at hlen ⊢; omega),
      foldl_stepW_renderAll A qs (S ++ [x :: xs]) (by simp at hlen ⊢; omega)
        fun z hz => hok z (List.mem_cons_of_mem _ hz)]
    simp

theorem parseParams_renderAll {A : Regs} (hA : RegsOK A) : parseParams (renderAll A) = A := by
  obtain ⟨h1, h2, h3⟩ := hA
  cases A with
  | nil => exact absurd h1 (by decide)
  | cons ps A => exact foldl_stepW_renderAll A ps [] h2 h3

theorem renderAll_head {A : Regs} (hA : RegsOK A) :
    ∃ d tail, renderAll A = d :: tail ∧ 0x30 ≤ d ∧ d ≤ 0x39 := by
  obtain ⟨hl, -, hps⟩ := hA
  match A, hl, hps with
  | [] :: _, _, hps => exact absurd (hps [] List.mem_cons_self).1 (by decide)
  | (x :: xs) :: A, _, _ =>
    have hne := digits_ne_nil x
    match hd : digits x with
    | [] => exact absurd hd hne
    | d :: ds =>
      have hdig := digits_isDigit x d (by rw [hd]; exact List.mem_cons_self ..)
      cases A with
      | nil =>
        refine ⟨d, ds ++ (xs.map fun y => 0x3a :: renderDec y).flatten, ?_, hdig⟩
        rw [renderAll_single]
        simp [renderParts, renderDec_eq_digits, hd]
      | cons qs A =>
        refine ⟨d, ds ++ (xs.map fun y => 0x3a :: renderDec y).flatten ++ 0x3b :: renderAll (qs :: A), ?_, hdig⟩
        rw [renderAll_cons₂]
        simp [renderParts, renderDec_eq_digits, hd]

theorem wparts_encParam {ps : List Nat} (h : 1 ≤ ps.length) : wparts (encParam ps) = ps := by
  unfold wparts encParam
  simp only
  rw [Nat.sub_add_cancel h, List.take_left' rfl]

theorem written_conc (st : PState) (im : Option Nat) {A : Regs} (hA : RegsOK A) :
    written (conc st im A) = A := by
  obtain ⟨h1, -, h3⟩ := hA
  unfold written conc encParams
  simp only
  rw [Nat.sub_add_cancel h1, List.take_left' (by rw [List.length_map]), List.map_map]
  conv => rhs; rw [← List.map_id A]
  exact List.map_congr_left fun ps hps => wparts_encParam (h3 ps hps).1

/-- the parser whose registers encode `a`: the inverse of `abs` on well-formed registers -/
def concA (a : AState) : Parser := conc a.state a.interm a.ps

/-- `run_refRun` as an equation: on code points the run of the parser IS the reference run, read back
    into registers -/
theorem run_conc {p : Parser} (hp : PInv p = true) (s : List Nat) (hs : ∀ c ∈ s, c < 0x110000) :
    pfeedAll p s = some (concA (refRun (abs p) s).1, (refRun (abs p) s).2) := by
  obtain ⟨q, h1, h2, h3⟩ := run_refRun hp s hs
  rw [← run_eq_pfeedAll, h1, ← h2]
  exact congrArg (fun x => some (x, (refRun (abs p) s).2)) (eq_conc_written q h3).1

open Avt.Spec.C20 ParserSeq in
theorem refRun_csi_render (a : AState) {intro : List Nat} (hi : intro = [0x1B, 0x5B] ∨ intro = [0x9B])
    {A : Regs} (hA : RegsOK A) {fin : Nat} (h1 : 64 ≤ fin) (h2 : fin ≤ 126) :
    refRun a (intro ++ (renderAll A ++ [fin]))
      = ({ state := .Ground, interm := none, ps := A }, (refDispatchCsi none fin A).toList) := by
  obtain ⟨d, tail, e, d1, d2⟩ := renderAll_head hA
  have hwf : (⟨none, renderAll A, [], fin⟩ : CsiText).wf = true := by
    have hch : (renderAll A).all (inR 0x30 0x3B) = true :=
      List.all_eq_true.2 fun c hc => (inR_iff _ _ _).2 (renderAll_chars A c hc)
    have hhd : ((renderAll A).head? != some 0x3A) = true := by
      rw [e, List.head?_cons, bne_iff_ne, ne_eq, Option.some.injEq]
      omega
    simp only [CsiText.wf, hch, hhd, Bool.true_and, List.all_nil, inR_iff, Option.isSome_none, Bool.false_or,
      Bool.and_true]
    exact ⟨h1, h2⟩
  have := csi_run ⟨none, renderAll A, [], fin⟩ hwf
  simp only [CsiText.body, CsiText.eff, CsiText.fn, Option.toList_none, List.nil_append, List.append_nil,
    List.getLast?_nil, parseParams_renderAll hA] at this
  rw [refRun_append, csi_intro_run intro hi, this]
  rfl

/-- `CSI p;p:q;… F` from any parser state: the registers hold exactly `A`, the reference table dispatches on them -/
theorem pfeed_csi {q0 : Parser} (hP : PInv q0 = true) {intro : List Nat}
    (hi : intro = [0x1B, 0x5B] ∨ intro = [0x9B]) {A : Regs} (hA : RegsOK A) {fin : Nat} (h1 : 64 ≤ fin) (h2 : fin ≤ 126) :
    pfeedAll q0 (intro ++ (renderAll A ++ [fin]))
      = some (conc .Ground none A, (refDispatchCsi none fin A).toList) := by
  have hlt : ∀ c ∈ intro ++ (renderAll A ++ [fin]), c < 0x110000 := fun c hc => by
    simp only [List.mem_append, List.mem_singleton] at hc
    rcases hc with hc | hc | rfl
    · rcases hi with rfl | rfl <;> simp only [List.mem_cons, List.not_mem_nil, or_false] at hc <;> omega
    · have := renderAll_chars A c hc; omega
    · omega
  rw [run_conc hP _ hlt, refRun_csi_render _ hi hA h1 h2]
  rfl

open ParserSeq (ParamState paramState_csi entry_run)

theorem paramState_dcs : ParamState .DcsParam (fun c => (0x30 ≤ c ∧ c ≤ 0x39) ∨ c = 0x3b) := by
  rintro c (hc | rfl)
  · exact ParserTable.williams_span [.DcsParam] 0x30 0x39 _ (by decide) _ List.mem_cons_self c hc.1 hc.2
  · decide

theorem williams_dcs_param (c : Nat) (hc : (0x30 ≤ c ∧ c ≤ 0x39) ∨ c = 0x3b) :
    williams .DcsEntry c = (.param, .DcsParam) := by
  rcases hc with hc | rfl
  · exact ParserTable.williams_span [.DcsEntry] 0x30 0x39 _ (by decide) _ List.mem_cons_self c hc.1 hc.2
  · decide

/-- the common part of the `CsiParam` and `DcsParam` cases: the 8-bit introducer, the optional marker and the
    rendered parameter list give back the dumped parser itself -/
theorem pfeed_dump_param {stE stP : PState} {okc : Nat → Prop} (H : ParamState stP okc)
    (hfirst : ∀ c, okc c → c ≠ 0x3A → williams stE c = (.param, stP))
    (hmarker : ∀ c, 0x3C ≤ c → c ≤ 0x3F → williams stE c = (.collect, stP))
    {i8 : Nat} (hi8 : ∀ st, williams st i8 = (.clear, stE)) (hlt8 : i8 < 0x110000)
    (p q0 : Parser) (hinv : PInv p = true) (hP : PInv q0 = true) (hst : p.state = stP)
    (him : p.intermediate.isNone = true ∨ imIn 0x3c 0x3f p.intermediate = true)
    (hc : ∀ c ∈ renderAll (written p), okc c) :
    pfeedAll q0 (i8 :: p.intermediate.toList ++ renderAll (written p)) = some (p, []) := by
  obtain ⟨hconc, hA⟩ := eq_conc_written p hinv
  obtain ⟨d, tail, e, d1, d2⟩ := renderAll_head hA
  have hm : ∀ m, p.intermediate = some m → 0x3C ≤ m ∧ m ≤ 0x3F := fun m em => by
    rcases him with h | h
    · rw [em] at h; cases h
    · obtain ⟨m', e', hm'⟩ := imIn_elim h
      rw [em] at e'; cases e'; exact hm'
  have hlt : ∀ c ∈ i8 :: p.intermediate.toList ++ renderAll (written p), c < 0x110000 := fun c hc => by
    simp only [List.cons_append, List.mem_cons, List.mem_append, Option.mem_toList] at hc
    rcases hc with rfl | hc | hc
    · exact hlt8
    · have := hm c hc; omega
    · have := renderAll_chars _ c hc; omega
  obtain ⟨st, hst', hrun⟩ := entry_run H hfirst hmarker p.intermediate hm _ hc
    (.inr (by rw [e, List.head?_cons, ne_eq, Option.some.injEq]; omega))
  obtain rfl : st = stP := by
    rcases hst' with h | ⟨-, -, h⟩
    · exact h
    · rw [e] at h; cases h
  rw [run_conc hP _ hlt]
  simp only [List.cons_append, refRun, ParserSeq.refStep_clear (hi8 _), hrun, parseParams_renderAll hA,
    Option.toList_none, List.nil_append]
  exact congrArg (fun x => some (x, ([] : List Function))) (hst ▸ hconc).symm

theorem parser_dump_param (p q0 : Parser) (hinv : PInv p = true) (hreg : PRegOK p = true)
    (hP : PInv q0 = true) (hs : paramsLive p.state = true) :
    ∃ d q, p.dump = some d ∧ pfeedAll q0 d = some (q, []) ∧ normP q = normP p := by
  have hw := ParserSem.introducers_anywhere
  have hren := renderParams_eq p hinv
  have hstate : p.state = .CsiParam ∨ p.state = .DcsParam := by
    cases hst : p.state <;> simp [paramsLive, hst] at hs <;> simp
  rcases hstate with hst | hst
  · have him : p.intermediate.isNone = true ∨ imIn 0x3c 0x3f p.intermediate = true := by
      simpa [PRegOK, hst] using hreg
    exact ⟨_, p, by simp only [Parser.dump, hst, hren, Option.map_some],
      pfeed_dump_param paramState_csi (fun c hc h => ParserSeq.csi_entry_param_w c hc.1 hc.2 h) ParserSeq.csi_marker_w
        (fun st => (hw st).2.1) (by decide) p q0 hinv hP hst him (renderAll_chars _), rfl⟩
  · have hreg' : (p.intermediate.isNone = true ∨ imIn 0x3c 0x3f p.intermediate = true)
        ∧ (p.params.take (p.curParam + 1)).all (fun q => q.curPart == 0) = true := by
      simpa [PRegOK, hst] using hreg
    have hsingle : ∀ ps ∈ written p, ps.length = 1 := by
      intro ps hps
      obtain ⟨q, hq, rfl⟩ := List.mem_map.1 hps
      have h0 : q.curPart = 0 := by simpa using List.all_eq_true.1 hreg'.2 q hq
      have := ((ok_iff q).1 (((pinv_iff p).1 hinv).2.2.1 q (List.mem_of_mem_take hq))).1
      rw [h0, List.length_take]; omega
    exact ⟨_, p, by simp only [Parser.dump, hst, hren, Option.map_some],
      pfeed_dump_param paramState_dcs (fun c hc _ => williams_dcs_param c hc) (fun c h1 h2 => (williams_marker c (by omega) h1).2)
        (fun st => (hw st).2.2.1) (by decide) p q0 hinv hP hst hreg'.1 (renderAll_chars_single _ hsingle), rfl⟩

/-- **`Parser.dump` round trip, all fourteen states.**  Feeding `Parser.dump p` to any parser resting in
    `Ground` emits no function and yields `p` up to dead registers. -/
theorem parser_dump (p q0 : Parser) (hinv : PInv p = true) (hreg : PRegOK p = true)
    (hG : q0.state = .Ground) (hP : PInv q0 = true) :
    ∃ d q, p.dump = some d ∧ pfeedAll q0 d = some (q, []) ∧ normP q = normP p := by
  cases hs : paramsLive p.state with
  | false => exact parser_dump_easy p q0 hreg hG hP hs
  | true => exact parser_dump_param p q0 hinv hreg hP hs

end Lemmas.C11
end Avt
