/-
  Avt.Lemmas.RowModify — "apply `f` to row `r`" has three names in the specifications
  (`Spec.C04.onRow`, `Spec.C06.unmarkAt`, `Spec.C07.onRowOf`); each is `List.modify`, and so is a
  `Buffer.updRow` whose step succeeds, so that core's lemmas on `List.modify` serve all four
  (`List.length_modify`, `take_modify`, `drop_modify_of_lt`, `modify_modify_eq`, …).  Beside it
  `Line.print/clear/insert/delete` and `Buffer.clear` in closed form, each under its range precondition.
-/
import Avt.Spec.C04
import Avt.Spec.C06
import Avt.Spec.C07
import Avt.Lemmas.Prim

namespace Avt

theorem getElem?_modify_if {α} (f : α → α) (i : Nat) (l : List α) (j : Nat) :
    (l.modify i f)[j]? = if j = i then l[j]?.map f else l[j]? := by
  split
  · subst j; exact List.getElem?_modify_eq f i l
  · exact List.getElem?_modify_ne f l (Ne.symm ‹_›)

theorem getElem?_ite_modify {α} (c : Prop) [Decidable c] (f : α → α) (i : Nat) (l : List α) (j : Nat) :
    (if c then l.modify i f else l)[j]? = if c ∧ j = i then l[j]?.map f else l[j]? := by
  by_cases h : c
  · simp only [h, if_true, true_and, getElem?_modify_if]
  · simp only [h, if_false, false_and]

theorem modify_append_left {α} (f : α → α) :
    ∀ {i : Nat} {l₁ : List α} (l₂ : List α), i < l₁.length → (l₁ ++ l₂).modify i f = l₁.modify i f ++ l₂
  | 0, _ :: _, _, _ => rfl
  | _ + 1, a :: l₁, l₂, h =>
    congrArg (a :: ·) (modify_append_left f (l₁ := l₁) l₂ (Nat.lt_of_succ_lt_succ h))

theorem modify_append_right {α} (f : α → α) :
    ∀ {i : Nat} (l₁ l₂ : List α), l₁.length ≤ i → (l₁ ++ l₂).modify i f = l₁ ++ l₂.modify (i - l₁.length) f
  | _, [], _, _ => rfl
  | i + 1, a :: l₁, l₂, h => by
    rw [List.length_cons, Nat.add_sub_add_right]
    exact congrArg (a :: ·) (modify_append_right f l₁ l₂ (Nat.le_of_succ_le_succ h))

theorem set_eq_modify {α} (f : α → α) {i : Nat} {l : List α} (h : i < l.length) :
    l.set i (f l[i]) = l.modify i f := by
  rw [List.modify_eq_take_cons_drop h, List.set_eq_take_append_cons_drop, if_pos h]

namespace Spec

theorem C07.onRowOf_eq_modify (v : List Line) (r : Nat) (g : Line → Line) :
    C07.onRowOf v r g = v.modify r g := by
  rw [List.modify_eq_take_drop, C07.onRowOf, List.append_assoc, ← List.drop_drop]
  cases v.drop r <;> rfl

theorem C06.unmarkAt_eq_modify (v : List Line) (i : Nat) : C06.unmarkAt v i = v.modify i C06.unmark :=
  C07.onRowOf_eq_modify v i _

theorem C04.onRow_eq_modify (v : List Line) (r : Nat) (f : Line → Line) : C04.onRow v r f = v.modify r f := by
  unfold C04.onRow
  cases h : v[r]? with
  | none => exact (List.modify_eq_self (List.getElem?_eq_none_iff.1 h)).symm
  | some l =>
    obtain ⟨hr, rfl⟩ := List.getElem?_eq_some_iff.1 h
    exact set_eq_modify f hr

end Spec

/-- a row update whose step succeeds, in closed form -/
theorem Buffer.updRow_eq_modify {b : Buffer} {r : Nat} {f : Line → Option Line} (g : Line → Line)
    (h : r < b.view.length) (hf : f b.view[r] = some (g b.view[r])) :
    b.updRow r f = some { b with view := b.view.modify r g } := by
  unfold Buffer.updRow
  rw [modAtM_eq_some h hf, set_eq_modify g h]
  rfl

namespace Line

theorem print_eq (l : Line) {col : Nat} (cell : Cell) (h : col < l.cells.length) :
    l.print col cell = some { l with cells := l.cells.set col cell } :=
  congrArg (Option.map _) (setAt_eq_some cell h)

theorem clear_eq (l : Line) {a c : Nat} (pen : Pen) (h1 : a ≤ c) (h2 : c ≤ l.cells.length) :
    l.clear a c pen = some
      { l with cells := l.cells.take a ++ List.replicate (c - a) (Cell.blank pen) ++ l.cells.drop c } :=
  congrArg (Option.map _) (fillRange_eq_some _ h1 h2)

theorem insert_eq (l : Line) {col n : Nat} (cell : Cell) (hc : col ≤ l.cells.length)
    (hn : n ≤ l.cells.length - col) :
    l.insert col n cell = some
      { l with cells := l.cells.take col ++ List.replicate n cell ++ (l.cells.take (l.cells.length - n)).drop col } := by
  obtain ⟨cs, hr, hf⟩ := rotR_fill cell hc (Nat.le_refl _) hn
  rw [Line.insert, hr]
  simp only [hf, Option.map_some, List.drop_length, List.append_nil]

theorem delete_eq (l : Line) {col n : Nat} (pen : Pen) (hc : col ≤ l.cells.length)
    (hn : n ≤ l.cells.length - col) :
    l.delete col n pen = some
      { l with cells := l.cells.take col ++ l.cells.drop (col + n) ++ List.replicate n (Cell.blank pen) } := by
  obtain ⟨cs, hr, hf⟩ := rotL_fill (Cell.blank pen) hc (Nat.le_refl _) hn
  rw [Line.delete, hr]
  simp only [rotLRange_length hr, csub_eq_some (Nat.le_trans hn (Nat.sub_le _ _)), hf, Option.map_some,
    List.take_length, List.drop_length, List.append_nil]

end Line

theorem Buffer.clear_eq {b : Buffer} {a c : Nat} (pen : Pen) (h1 : a ≤ c) (h2 : c ≤ b.view.length) :
    b.clear a c pen = some
      { b with view := b.view.take a ++ List.replicate (c - a) (Line.blank b.cols pen) ++ b.view.drop c } :=
  congrArg (Option.map _) (fillRange_eq_some _ h1 h2)

end Avt
