/-
  Avt.Lemmas.C05 — what the cursor-movement theorems (Props/C05.lean) need beyond the closed forms of
  Lemmas/CursorEq.lean: DECSET/DECRST of origin mode alone, and the bridge to C18's `tabSpec`.
-/
import Avt.Lemmas.C18

namespace Avt.Lemmas.C05
open Avt Avt.Spec Avt.Spec.C05

/-- setting origin mode homes the cursor to the top margin -/
def originOn (t : Terminal) : Terminal := cursorAt { t with originMode := true } 0 t.topMargin
/-- resetting origin mode homes the cursor to the top-left corner of the screen -/
def originOff (t : Terminal) : Terminal := cursorAt { t with originMode := false } 0 0

theorem decsetOne_origin {t : Terminal} (hc : 1 ≤ t.cols) :
    Terminal.decsetOne t .origin = some (originOn t) := by
  simp only [Terminal.decsetOne]
  rw [home_eq (t := { t with originMode := true }) hc]
  rfl

theorem decrstOne_origin {t : Terminal} (hc : 1 ≤ t.cols) :
    Terminal.decrstOne t .origin = some (originOff t) := by
  simp only [Terminal.decrstOne]
  rw [home_eq (t := { t with originMode := false }) hc]
  rfl

/-- folding a step that, on every element of the list, does the same idempotent thing `g`: the
    list does it once, or nothing when empty -/
theorem foldM'_idem {α β : Type} {f : β → α → Option β} {g : β → β} {P : β → Prop} {p : α → Bool}
    (hf : ∀ b a, P b → p a = true → f b a = some (g b)) (hP : ∀ b, P b → P (g b))
    (hg : ∀ b, g (g b) = g b) :
    ∀ (l : List α) (b : β), P b → l.all p = true →
      Terminal.foldM' f l b = some (if l.isEmpty then b else g b)
  | [], _, _, _ => rfl
  | a :: l, b, hb, h => by
    rw [List.all_cons, Bool.and_eq_true] at h
    unfold Terminal.foldM'
    rw [hf b a hb h.1]
    simp only
    rw [foldM'_idem hf hP hg l (g b) (hP b hb) h.2]
    cases l
    · rfl
    · exact congrArg some (hg b)

theorem decset_origins (ms : List DecMode) (t : Terminal) (hc : 1 ≤ t.cols)
    (h : ms.all (· == DecMode.origin) = true) :
    Terminal.foldM' Terminal.decsetOne ms t = some (if ms.isEmpty then t else originOn t) :=
  foldM'_idem (g := originOn) (P := fun t => 1 ≤ t.cols)
    (fun _ _ hc hm => beq_iff_eq.1 hm ▸ decsetOne_origin hc)
    (fun _ hc => hc) (fun _ => rfl) ms t hc h

theorem decrst_origins (ms : List DecMode) (t : Terminal) (hc : 1 ≤ t.cols)
    (h : ms.all (· == DecMode.origin) = true) :
    Terminal.foldM' Terminal.decrstOne ms t = some (if ms.isEmpty then t else originOff t) :=
  foldM'_idem (g := originOff) (P := fun t => 1 ≤ t.cols)
    (fun _ _ hc hm => beq_iff_eq.1 hm ▸ decrstOne_origin hc)
    (fun _ hc => hc) (fun _ => rfl) ms t hc h

/-- HT / CHT / CBT: `moveSpec` and C18's `tabSpec` have the same arms for these; `e` is `rfl` once `f` is a
    constructor -/
theorem tab_bridge {t : Terminal} (h : TInv t = true) (f : Function) (hf : C18.isTabOp f = true)
    (e : moveSpec t f = C18.tabSpec t f) : t.execute f = some (moveSpec t f) := by
  rw [e]; exact Avt.Lemmas.C18.tabop_eq h hf

end Avt.Lemmas.C05
