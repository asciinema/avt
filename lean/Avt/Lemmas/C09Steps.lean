/-
  Avt.Lemmas.C09Steps — the deferred wrap and CR LF on a typewriter.  Printing with a wrap pending first
  marks the row wrapped and moves to the start of the next row (scrolling the whole screen when on the
  last row).  That move is the one CR LF makes, `down1` from column 0; on a typewriter it has two closed
  forms (`Spec.C05.cursorAt` at column 0 of the next row, `scrolledCr`).  The typewriter invariant is
  preserved by the deferred wrap, hence by every printed character, and by CR LF.  The file ends with
  the part of C09's second clause that needs `cur_prefix`: from a typewriter state the `TextUnwrapper`
  only ever removes white space (`TW_unwrap_prefix`, `TW_unwrapOK`).
-/
import Avt.Lemmas.C09Print
import Avt.Lemmas.C06Cmd

namespace Avt.Lemmas
open Avt Avt.Spec.C09 Avt.Spec.C04 Avt.Spec.C06 Avt.C04L

/-- the state in which the pending wrap has been carried out, cursor not on the last row -/
def wrappedMove (t : Terminal) (lr : Line) : Terminal :=
  { t with
    buffer := { t.buffer with view := t.buffer.view.set t.cursor.row { lr with wrapped := true } },
    cursor := { t.cursor with col := 0, row := t.cursor.row + 1 },
    pendingWrap := false }

/-- the cursor's row `lr` marked as continued on the next row -/
def mark (t : Terminal) (lr : Line) : Terminal :=
  { t with buffer := { t.buffer with view := t.buffer.view.set t.cursor.row { lr with wrapped := true } } }

theorem TWMode.mark {t : Terminal} (hm : TWMode t) (lr : Line) : TWMode (mark t lr) :=
  ⟨hm.top, hm.bottom, hm.autoWrap, hm.replace, hm.charset, hm.primary, hm.unlimited⟩

theorem TWGeom.mark {t : Terminal} (hg : TWGeom t) (lr : Line) : TWGeom (mark t lr) :=
  ⟨hg.cols_pos, hg.rows_pos, hg.bcols, hg.brows, (List.length_set ..).trans hg.view_len, hg.row_lt, hg.pending,
    hg.dirty_len⟩

/-- column 0 of the last row after the screen has scrolled by one, the top row going to the scrollback -/
def scrolledCr (t : Terminal) : Terminal :=
  { t.doMoveCursorToCol 0 with
    buffer := { t.buffer with
      sb := t.buffer.sb ++ (t.buffer.view ++ [Line.blank t.buffer.cols t.pen]).take 1,
      view := (t.buffer.view ++ [Line.blank t.buffer.cols t.pen]).drop 1,
      trimNeeded := true },
    dirtyLines := List.replicate t.rows true }

theorem down1_next {t : Terminal} (hm : TWMode t) (hlt : t.cursor.row + 1 < t.rows) :
    down1 (t.doMoveCursorToCol 0) = Spec.C05.cursorAt t 0 (t.cursor.row + 1) := by
  simp only [down1, Terminal.doMoveCursorToCol, if_neg (hm.row_ne_bottom hlt), if_pos hlt, toRow,
    Spec.C05.cursorAt, Nat.zero_min]

theorem scrollUpSpec_full (b : Buffer) (pen : Pen) (h : 1 ≤ b.rows) (hv : b.view.length = b.rows) :
    scrollUpSpec 0 b.rows 1 pen b = { b with
      sb := b.sb ++ (b.view ++ [Line.blank b.cols pen]).take 1,
      view := (b.view ++ [Line.blank b.cols pen]).drop 1,
      trimNeeded := true } := by
  have h1 : 1 ≤ b.view.length := hv ▸ h
  simp only [scrollUpSpec, upMarks, Nat.lt_irrefl, if_false, if_true, Nat.sub_zero, Nat.min_eq_left h,
    Nat.zero_add, List.take_zero, List.nil_append, blankRows, List.replicate_one,
    List.take_append_of_le_length h1, List.drop_append_of_le_length h1]
  rw [← hv, List.take_length, List.drop_length, List.append_nil]

theorem down1_last {t : Terminal} (hm : TWMode t) (hg : TWGeom t) (hlast : t.cursor.row + 1 = t.rows) :
    down1 (t.doMoveCursorToCol 0) = scrolledCr t := by
  have hb := (congrArg (fun r => scrollUpSpec 0 r 1 t.pen t.buffer) hg.brows.symm).trans
    (scrollUpSpec_full t.buffer t.pen (hg.brows ▸ hg.rows_pos) (hg.view_len.trans hg.brows.symm))
  have hmk : markRange t.dirtyLines 0 t.rows = List.replicate t.rows true := by
    simp only [markRange, List.take_zero, List.nil_append, Nat.sub_zero]
    rw [List.drop_of_length_le (Nat.le_of_eq hg.dirty_len), List.append_nil]
  have hr : (t.doMoveCursorToCol 0).cursor.row = (t.doMoveCursorToCol 0).bottomMargin := hm.row_eq_bottom hlast
  rw [down1, if_pos hr]
  show ({ t.doMoveCursorToCol 0 with
    buffer := scrollUpSpec t.topMargin (t.bottomMargin + 1) 1 t.pen t.buffer,
    dirtyLines := markRange t.dirtyLines t.topMargin (t.bottomMargin + 1) } : Terminal) = _
  rw [hm.top, hm.bottom, hb, hmk]
  rfl

/-- on the whole screen the scroll of the deferred wrap (which keeps the wrap marks of the rows it moves)
    is the scroll of LF -/
theorem scrollRegionUp1_whole (b : Buffer) (pen : Pen) (k : Nat) (hr : b.rows = k + 1) :
    scrollRegionUp1 b 0 k pen = scrollUpSpec 0 (k + 1) 1 pen b := by
  simp only [scrollRegionUp1, scrollUpSpec, upMarks, hr, Nat.lt_irrefl, if_false, if_true, List.take_zero,
    onRow_nil, Nat.sub_zero, Nat.zero_add, Nat.min_eq_left (Nat.le_add_left 1 k), blankRows,
    List.replicate_one, blank_eq]

/-- the deferred wrap marks the row and goes down like CR LF -/
theorem wrapStep_down1 {t : Terminal} (hm : TWMode t) (hg : TWGeom t) {lr : Line}
    (hrow : t.buffer.view[t.cursor.row]? = some lr) :
    wrapStep t = down1 ((mark t lr).doMoveCursorToCol 0) := by
  have hb : bufOnRow t.buffer t.cursor.row markWrapped = (mark t lr).buffer := by
    simp only [bufOnRow, onRow, hrow, markWrapped, mark]
  unfold wrapStep
  by_cases h1 : t.cursor.row = t.bottomMargin
  · have hs := scrollRegionUp1_whole (mark t lr).buffer t.pen t.bottomMargin (hg.brows.trans hm.bottom.symm)
    rw [← hm.top] at hs
    rw [if_pos h1, hb, hs, down1, if_pos (show ((mark t lr).doMoveCursorToCol 0).cursor.row
      = ((mark t lr).doMoveCursorToCol 0).bottomMargin from h1)]
    rfl
  · have h2 : t.cursor.row + 1 < t.rows := by have := hg.row_lt; have := hm.bottom; omega
    rw [if_neg h1, if_pos h2, hb, down1_next (hm.mark lr) h2]
    rfl

/-- with a wrap pending, the first phase of `print` on a typewriter -/
theorem wrapPhase_pending {t : Terminal} (hm : TWMode t) (hg : TWGeom t) (hp : t.pendingWrap = true) :
    t.printWrapPhase = some (wrapStep t) := by
  rw [(WrapPre.of_TW hm hg).wrapPhase_eq, hm.autoWrap, hp]
  rfl

theorem print_of_wrapPhase {t t1 : Terminal} (h : t.printWrapPhase = some t1)
    (h1 : t1.pendingWrap = false) (hpen : t1.pen = t.pen) (hcs : t1.activeCharset = t.activeCharset)
    (hch : t1.charsets = t.charsets) (ch : Nat) : t.print ch = t1.print ch := by
  have h2 : t1.printWrapPhase = some t1 := by
    unfold Terminal.printWrapPhase
    exact if_neg (by simp [h1])
  rw [Terminal.print_eq, Terminal.print_eq, h, h2]
  simp only [Terminal.activeCharsetValue, hcs, hch, hpen]

theorem print_pending_move {t : Terminal} (hm : TWMode t) (hg : TWGeom t)
    (hp : t.pendingWrap = true) (hrow1 : t.cursor.row + 1 < t.rows) (ch : Nat) {lr : Line}
    (hrow : t.buffer.view[t.cursor.row]? = some lr) :
    t.print ch = (wrappedMove t lr).print ch := by
  have h : wrapStep t = wrappedMove t lr :=
    (wrapStep_down1 hm hg hrow).trans (down1_next (hm.mark lr) hrow1)
  exact print_of_wrapPhase ((wrapPhase_pending hm hg hp).trans (congrArg some h)) rfl rfl rfl rfl ch

/-- the unwrapped form of the line being typed (wrapped rows untrimmed, last row trimmed) is a prefix
    of the typed line -/
theorem cur_prefix {cols col : Nat} {ws : List Line} {lr : Line} {cur : List Nat} {pad : Nat}
    (hlens : ∀ l ∈ ws, l.len = cols)
    (hrt : rowsText (ws ++ [lr]) = cur ++ List.replicate pad 0x20)
    (hcur : cur.length = ws.length * cols + col) :
    rowsText ws ++ trimEnd lr.text <+: cur := by
  have hwl : (rowsText ws).length = ws.length * cols := rowsText_length ws cols hlens
  have hle : (rowsText ws).length ≤ cur.length := by rw [hwl, hcur]; omega
  have hsplit : rowsText ws ++ lr.text = cur ++ List.replicate pad 0x20 := by
    rw [← hrt, rowsText_append, rowsText_singleton]
  have h1 : rowsText ws = cur.take (rowsText ws).length := by
    have := congrArg (List.take (rowsText ws).length) hsplit
    rw [List.take_append_of_le_length (Nat.le_refl _), List.take_length,
      List.take_append_of_le_length hle] at this
    exact this
  have h2 : lr.text = cur.drop (rowsText ws).length ++ List.replicate pad 0x20 := by
    have := congrArg (List.drop (rowsText ws).length) hsplit
    rw [List.drop_append_of_le_length (Nat.le_refl _), List.drop_length, List.nil_append,
      List.drop_append_of_le_length hle] at this
    exact this
  have h3 : trimEnd lr.text <+: cur.drop (rowsText ws).length := by
    rw [h2, trimEnd_append_spaces]; exact trimEnd_prefix _
  obtain ⟨z, hz⟩ := h3
  refine ⟨z, ?_⟩
  conv => rhs; rw [← List.take_append_drop (rowsText ws).length cur, ← h1, ← hz]
  simp

/-- `t'` has the fields of `t` that the side conditions of the typewriter invariant look at, and (not
    a comparison with `t`) its cursor is in column 0 with no wrap pending: the start of a new row -/
structure SameBut (t t' : Terminal) : Prop where
  cols : t'.cols = t.cols
  rows : t'.rows = t.rows
  bcols : t'.buffer.cols = t.buffer.cols
  brows : t'.buffer.rows = t.buffer.rows
  top : t'.topMargin = t.topMargin
  bottom : t'.bottomMargin = t.bottomMargin
  autoWrap : t'.autoWrapMode = t.autoWrapMode
  insert : t'.insertMode = t.insertMode
  acs : t'.activeCharset = t.activeCharset
  css : t'.charsets = t.charsets
  abt : t'.activeBufferType = t.activeBufferType
  blimit : t'.buffer.limit = t.buffer.limit
  col : t'.cursor.col = 0
  pend : t'.pendingWrap = false

theorem TWMode_of_sameBut {t t' : Terminal} (hm : TWMode t) (h : SameBut t t') : TWMode t' :=
  ⟨by rw [h.top]; exact hm.top, by rw [h.bottom, h.rows]; exact hm.bottom, by rw [h.autoWrap]; exact hm.autoWrap,
   by rw [h.insert]; exact hm.replace, by rw [h.acs, h.css]; exact hm.charset, by rw [h.abt]; exact hm.primary,
   by rw [h.blimit]; exact hm.unlimited⟩

theorem TWGeom_of_sameBut {t t' : Terminal} (hg : TWGeom t) (h : SameBut t t')
    (hv : t'.buffer.view.length = t.rows) (hr : t'.cursor.row < t.rows) (hd : t'.dirtyLines.length = t.rows) :
    TWGeom t' :=
  ⟨by rw [h.cols]; exact hg.cols_pos, by rw [h.rows]; exact hg.rows_pos,
   by rw [h.bcols, h.cols]; exact hg.bcols, by rw [h.brows, h.rows]; exact hg.brows,
   by rw [h.rows]; exact hv, by rw [h.rows]; exact hr,
   Or.inr ⟨h.pend, by rw [h.col, h.cols]; exact hg.cols_pos⟩, by rw [h.rows]; exact hd⟩

theorem scrolledCr_sameBut (t : Terminal) : SameBut t (scrolledCr t) :=
  ⟨rfl, rfl, rfl, rfl, rfl, rfl, rfl, rfl, rfl, rfl, rfl, rfl, rfl, rfl⟩

theorem cursorAt_sameBut (t : Terminal) (r : Nat) : SameBut t (Spec.C05.cursorAt t 0 r) :=
  ⟨rfl, rfl, rfl, rfl, rfl, rfl, rfl, rfl, rfl, rfl, rfl, rfl, rfl, rfl⟩

/-- **One row down from column 0**, the move of CR LF and, once the row is marked, of the deferred wrap.
    `A` are the rows up to and including the cursor's, `below` the blank rows under it.  The cursor lands
    on a blank row `next` right under `A`: the first of `below`, or on the last row of the screen a fresh
    row, the screen having scrolled by one and its top row gone to the scrollback. -/
theorem TW_down {t t' : Terminal} (hm : TWMode t) (hg : TWGeom t) {A below : List Line}
    (hlines : t.buffer.lines = A ++ below) (hrow : t.buffer.sb.length + t.cursor.row + 1 = A.length)
    (hbelow : ∀ l ∈ below, l.wrapped = false ∧ l.text = List.replicate t.cols 0x20)
    (hlen : ∀ l ∈ below, l.len = t.cols) (ht' : down1 (t.doMoveCursorToCol 0) = t') :
    ∃ next below', SameBut t t' ∧ TWGeom t' ∧ t'.pen = t.pen ∧ t'.buffer.lines = A ++ [next] ++ below'
      ∧ t'.buffer.sb.length + t'.cursor.row = A.length
      ∧ (next.wrapped = false ∧ next.text = List.replicate t.cols 0x20) ∧ next.len = t.cols
      ∧ (∀ l ∈ below', l.wrapped = false ∧ l.text = List.replicate t.cols 0x20)
      ∧ ∀ l ∈ below', l.len = t.cols := by
  have hcount : below.length + t.cursor.row + 1 = t.rows := by
    have h1 : t.buffer.lines.length = t.buffer.sb.length + t.rows := by simp [Buffer.lines, hg.view_len]
    rw [hlines, List.length_append] at h1
    omega
  subst ht'
  cases below with
  | nil =>
    rw [down1_last hm hg (by simpa using hcount)]
    have h1 : ((t.buffer.view ++ [Line.blank t.buffer.cols t.pen]).take 1).length = 1 := by
      rw [List.length_take]; simp
    refine ⟨Line.blank t.buffer.cols t.pen, [], scrolledCr_sameBut t,
      TWGeom_of_sameBut hg (scrolledCr_sameBut t) (by simp [scrolledCr, hg.view_len]) hg.row_lt
        (by simp [scrolledCr]), rfl, ?_, ?_, ⟨rfl, (Line.blank_text _ _).trans (by rw [hg.bcols])⟩,
      List.length_replicate.trans hg.bcols, nofun, nofun⟩
    · simp only [scrolledCr, Buffer.lines]
      rw [List.append_assoc, List.take_append_drop, ← List.append_assoc, List.append_nil]
      exact congrArg (· ++ [_]) (hlines.trans (List.append_nil A))
    · simp only [scrolledCr, Terminal.doMoveCursorToCol, List.length_append, h1]
      omega
  | cons b0 below' =>
    have hlt : t.cursor.row + 1 < t.rows := by simp only [List.length_cons] at hcount; omega
    obtain ⟨hb0, hbelow⟩ := List.forall_mem_cons.1 hbelow
    obtain ⟨hlen0, hlen⟩ := List.forall_mem_cons.1 hlen
    rw [down1_next hm hlt]
    refine ⟨b0, below', cursorAt_sameBut t _,
      TWGeom_of_sameBut hg (cursorAt_sameBut t _) hg.view_len hlt hg.dirty_len, rfl, ?_, ?_, hb0, hlen0, hbelow, hlen⟩
    · exact hlines.trans (List.append_cons A b0 below')
    · exact (Nat.add_assoc ..).symm.trans hrow

/-- **the deferred wrap keeps the invariant** (same typed text; the cursor is at the start of the
    next row, which belongs to the same logical line because the row above is marked wrapped) -/
theorem TW_wrap {t : Terminal} {logical : List (List Nat)} (hm : TWMode t) (hg : TWGeom t)
    (h : TW t logical) (hp : t.pendingWrap = true) :
    ∃ t1, t.printWrapPhase = some t1 ∧ TWMode t1 ∧ TWGeom t1 ∧ TW t1 logical ∧ t1.pendingWrap = false
      ∧ t1.pen = t.pen ∧ t1.activeCharset = t.activeCharset ∧ t1.charsets = t.charsets := by
  obtain ⟨done, cur, closedRows, ws, lr, belowRows, pad, rfl, s⟩ := TW_iff.1 h
  have hcol : t.cursor.col = t.cols := by
    rcases hg.pending with ⟨_, h2⟩ | ⟨h1, _⟩
    · exact h2
    · rw [hp] at h1; cases h1
  obtain ⟨hview, hset⟩ := TW_cursor_row s.lines s.row
  obtain ⟨hlenC, hlenW, hlenL, hlenB⟩ := lens_iff.1 s.lens
  -- with a wrap pending the padding is used up
  have hpad : pad = 0 := Nat.add_right_cancel
    ((TW_pad (lens_snoc hlenW hlenL) s.cur_text s.cur_len).trans ((Nat.zero_add _).trans hcol).symm)
  subst hpad
  let lrw : Line := { lr with wrapped := true }
  have hws' : ∀ l ∈ ws ++ [lrw], l.wrapped = true :=
    List.forall_mem_append.2 ⟨s.ws_wrapped, List.forall_mem_singleton.2 rfl⟩
  have hrt1 : rowsText (ws ++ [lrw]) = cur := by
    have : rowsText (ws ++ [lrw]) = rowsText (ws ++ [lr]) := by
      simp only [rowsText_append, rowsText_singleton]; rfl
    rw [this, s.cur_text]; simp
  have hrow' : t.buffer.sb.length + t.cursor.row + 1 = (closedRows ++ (ws ++ [lrw])).length := by
    rw [s.row, List.length_append, List.length_append, List.length_singleton, Nat.add_assoc]
  obtain ⟨next, below', hsb, hg1, hpen, hl1, hrow1, hnext, hlen0, hb1, hlen1⟩ :=
    TW_down (hm.mark lr) (hg.mark lr) (hset lrw) hrow' s.below hlenB rfl
  refine ⟨_, (wrapPhase_pending hm hg hp).trans (congrArg some (wrapStep_down1 hm hg hview)),
    TWMode_of_sameBut (hm.mark lr) hsb, hg1, ?_, hsb.pend, hpen, hsb.acs, hsb.css⟩
  exact TW_iff.2 ⟨done, cur, closedRows, ws ++ [lrw], next, below', t.cols, rfl,
    { s with
      lines := hl1.trans (by simp only [List.append_assoc])
      ws_wrapped := hws'
      lr_unwrapped := hnext.1
      lens := hsb.cols ▸ lens_iff.2 ⟨hlenC, lens_snoc hlenW hlenL, hlen0, hlen1⟩
      cur_text := by rw [rowsText_append, hrt1, rowsText_singleton, hnext.2]; rfl
      cur_len := by
        rw [hsb.col, hsb.cols, s.cur_len, hcol, List.length_append, List.length_singleton, Nat.add_mul,
          Nat.one_mul, Nat.add_zero]
        rfl
      row := by rw [hrow1, List.length_append, List.length_append]
      below := hsb.cols ▸ hb1 }⟩

/-- **C09, print step** (`C09_print_step`): on a typewriter-mode terminal every printed character keeps
    the typewriter invariant for the text extended by that character — with or without a pending
    wrap, with or without scrolling -/
theorem TW_print {t : Terminal} {logical : List (List Nat)} (hm : TWMode t) (hg : TWGeom t)
    (h : TW t logical) (ch : Nat) :
    ∃ t', t.print ch = some t' ∧ TWMode t' ∧ TWGeom t' ∧ TW t' (typeChar logical ch) := by
  cases hp : t.pendingWrap with
  | false => exact TW_print_no_pending hm hg h hp ch
  | true =>
    obtain ⟨t1, hw, hm1, hg1, h1, hp1, hpen, hcs, hch⟩ := TW_wrap hm hg h hp
    rw [print_of_wrapPhase hw hp1 hpen hcs hch ch]
    exact TW_print_no_pending hm1 hg1 h1 hp1 ch

/-- under LNM, LF also returns the cursor to column 0: no change when it is there already -/
theorem lfSpec_col0 {u : Terminal} (hc : (down1 u).cursor.col = 0) (hp : (down1 u).pendingWrap = false) :
    scrollCmdSpec u .lf = down1 u := by
  show (if (down1 u).newLineMode then toCol0 (down1 u) else down1 u) = _
  split
  · rw [toCol0, ← hc, ← hp]
  · rfl

/-- **C09, CR LF step** (`C09_crlf_step`): CR LF closes the line being typed and opens an empty one on
    the next row (scrolling the whole screen, the top row going to the scrollback, when on the last
    row); the row just left is NOT marked wrapped, whatever the length of the line -/
theorem TW_crlf {t : Terminal} {logical : List (List Nat)} (hm : TWMode t) (hg : TWGeom t)
    (h : TW t logical) :
    ∃ t', (t.execute .cr).bind (fun t1 => t1.execute .lf) = some t' ∧ TWMode t' ∧ TWGeom t'
      ∧ TW t' (typeNewline logical) := by
  obtain ⟨done, cur, closedRows, ws, lr, belowRows, pad, rfl, s⟩ := TW_iff.1 h
  obtain ⟨hlenC, hlenW, hlenL, hlenB⟩ := lens_iff.1 s.lens
  have hlenC' : ∀ l ∈ closedRows ++ (ws ++ [lr]), l.len = t.cols :=
    List.forall_mem_append.2 ⟨hlenC, lens_snoc hlenW hlenL⟩
  have hclosed : lastUnwrapped (closedRows ++ (ws ++ [lr])) = true := by
    rw [← List.append_assoc, lastUnwrapped_snoc, s.lr_unwrapped]; rfl
  have hrun : Buffer.textGo (ws ++ [lr]) [] = [trimEnd cur] := by
    have := textGo_wrapped_run ws s.ws_wrapped lr s.lr_unwrapped [] []
    rw [List.append_nil] at this
    rw [this, s.cur_text, List.nil_append, trimEnd_append_spaces]; rfl
  have htext' : Buffer.textGo (closedRows ++ (ws ++ [lr])) [] = (done ++ [cur]).map trimEnd := by
    rw [textGo_append_nil s.closed_last, s.closed_text, hrun]; simp
  have hprefix : rowsText ws ++ trimEnd lr.text <+: cur :=
    cur_prefix hlenW s.cur_text s.cur_len
  have hpx' : prefixwise (unwrapOut (closedRows ++ (ws ++ [lr])) []) (done ++ [cur]) = true := by
    have hone : unwrapOut (ws ++ [lr]) [] = [rowsText ws ++ trimEnd lr.text] := by
      have := unwrapOut_wrapped_run ws s.ws_wrapped lr s.lr_unwrapped [] []
      rw [List.append_nil] at this
      rw [this]; rfl
    have hlast1 : prefixwise [rowsText ws ++ trimEnd lr.text] [cur] = true := by
      simp [prefixwise, List.isPrefixOf_iff_prefix.2 hprefix]
    rw [unwrapOut_append_nil s.closed_last, hone]
    refine prefixwise_append ?_ s.closed_prefix hlast1
    rw [unwrapOut_length s.closed_last, s.closed_text]; simp
  have hrow' : t.buffer.sb.length + t.cursor.row + 1 = (closedRows ++ (ws ++ [lr])).length := by
    rw [s.row, List.length_append, List.length_append, List.length_singleton, Nat.add_assoc]
  obtain ⟨next, below', hsb, hg1, -, hl1, hrow1, hnext, hlen0, hb1, hlen1⟩ :=
    TW_down hm hg s.lines hrow' s.below hlenB rfl
  refine ⟨_, (((WrapPre.of_TW hm hg).toCol 0).lf_eq).trans (congrArg some (lfSpec_col0 hsb.col hsb.pend)),
    TWMode_of_sameBut hm hsb, hg1, ?_⟩
  exact TW_iff.2 ⟨done ++ [cur], [], closedRows ++ (ws ++ [lr]), [], next, below', t.cols, rfl,
    { lines := hl1
      closed_last := hclosed
      closed_text := htext'
      closed_prefix := hpx'
      ws_wrapped := by simp
      lr_unwrapped := hnext.1
      lens := hsb.cols ▸ lens_iff.2 ⟨hlenC', by simp, hlen0, hlen1⟩
      cur_text := by rw [List.nil_append, rowsText_singleton, hnext.2]; rfl
      cur_len := by rw [hsb.col]; simp
      row := by rw [hrow1]; simp
      below := hsb.cols ▸ hb1 }⟩

/-- C09, second clause, the part "white space is only ever removed": every line the `TextUnwrapper`
    produces is a prefix of the corresponding typed line -/
theorem TW_unwrap_prefix {t : Terminal} {logical : List (List Nat)} (h : TW t logical) :
    prefixwise (unwrapAll t.buffer.lines) logical = true := by
  have hlast := TW_lastUnwrapped h
  obtain ⟨done, cur, closedRows, ws, lr, belowRows, pad, rfl, s⟩ := TW_iff.1 h
  have hprefix : rowsText ws ++ trimEnd lr.text <+: cur :=
    cur_prefix (lens_iff.1 s.lens).2.1 s.cur_text s.cur_len
  have hrun : unwrapOut ((ws ++ [lr]) ++ belowRows) []
      = (rowsText ws ++ trimEnd lr.text) :: unwrapOut belowRows [] := by
    rw [unwrapOut_wrapped_run ws s.ws_wrapped lr s.lr_unwrapped]; rfl
  have htail : prefixwise ((rowsText ws ++ trimEnd lr.text) :: unwrapOut belowRows []) [cur] = true := by
    simp only [prefixwise, Bool.and_eq_true]
    refine ⟨List.isPrefixOf_iff_prefix.2 hprefix, ?_⟩
    cases unwrapOut belowRows [] <;> rfl
  rw [unwrapAll_eq_unwrapOut hlast, s.lines, List.append_assoc, unwrapOut_append_nil s.closed_last, hrun]
  refine prefixwise_append ?_ s.closed_prefix htail
  rw [unwrapOut_length s.closed_last, s.closed_text]; simp

/-- C09, second clause complete: `unwrapOK` -/
theorem TW_unwrapOK {t : Terminal} {logical : List (List Nat)} (h : TW t logical) :
    unwrapOK logical (unwrapAll t.buffer.lines) = true := by
  simp only [unwrapOK, Bool.and_eq_true, beq_iff_eq]
  exact ⟨TW_unwrap h, TW_unwrap_prefix h⟩

end Avt.Lemmas
