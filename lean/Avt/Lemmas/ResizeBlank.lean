/-
  Avt.Lemmas.ResizeBlank — narrowing a screen of one blank row (default pen, no scrollback) at any
  widths: the row is all trailing blanks, so `contract` cuts it to the new width and leaves no rest,
  `reflow` returns one blank row, and the cursor's column is clamped.  Imported by Lemmas/C11KF7Eval.lean
  only, hence like it NOT part of the default build (`lake build Avt.Lemmas.C11KF7` checks it).
-/
import Avt.Lemmas.Resize
import Avt.Lemmas.TermResize

namespace Avt

namespace Line

theorem contract_blank {n k : Nat} (h : k ≤ n) :
    (blank n Pen.default).contract k = (blank k Pen.default, none) := by
  have e : (blank n Pen.default).cells.take (max k ((blank n Pen.default).len - (blank n Pen.default).trailers))
      = List.replicate k (Cell.blank Pen.default) := by
    rw [trailers_blank, len, blank_len, Nat.sub_self, Nat.max_zero, blank, List.take_replicate,
      Nat.min_eq_left h]
  unfold contract
  simp only [show (blank n Pen.default).wrapped = false from rfl, Bool.not_false, if_true, e,
    List.length_replicate, Nat.lt_irrefl, if_false]
  rfl

end Line

namespace Buffer

theorem reflow_blank {n k : Nat} (hk : 0 < k) (h : k < n) :
    reflow [Line.blank n Pen.default] k = some [Line.blank k Pen.default] := by
  have hgo : reflowGo k (reflowFuel [Line.blank n Pen.default]) none [Line.blank n Pen.default]
      = some [Line.blank k Pen.default] := by
    -- `reflowFuel` (`2 * length + sum of the lengths + 2`) on one line, its `+ 2` written `+ 1 + 1`: the two
    -- iterations taken (the row, then the empty input) are each stated at `fuel + 1`
    show reflowGo k (2 * 1 + _ + 1 + 1) none _ = _
    rw [reflowGo_none_cons, reflowBody, if_pos (by rw [Line.len, Line.blank_len]; exact h),
      Line.contract_blank (Nat.le_of_lt h)]
    simp only [reflowGo_none_nil, Option.map_some]
  simp only [reflow, Nat.ne_of_gt hk, if_false, hgo, List.all_cons, List.all_nil, Line.len,
    Line.blank_len, beq_self_eq_true, Bool.and_self, if_true]

theorem logicalPosition_single (l : Line) (c cols : Nat) :
    logicalPosition [l] (c, 0) cols 1 = some (c, 0) := by
  simp [logicalPosition, csub, logLoop]

theorem relativePosition_single {l : Line} (hw : l.wrapped = false) (c : Nat) {k : Nat} (hk : 1 ≤ k) :
    relativePosition [l] (c, 0) k 1 = some (min c (k - 1), 0) := by
  simp [relativePosition, csub, hk, relLoop1, relLoop2, hw]

theorem rsStep2_same (c r : Nat) (lines : List Line) (cur : Nat × Nat) :
    rsStep2 c r lines cur r = some (lines, cur) := by
  simp [rsStep2]

/-- one blank row, no scrollback, made narrower: one blank row of the new width, the cursor's column
    clamped into it -/
theorem resize_blank_row (b : Buffer) {n k : Nat} (c : Nat) (hsb : b.sb = [])
    (hv : b.view = [Line.blank n Pen.default]) (hc : b.cols = n) (hr : b.rows = 1) (hk : 0 < k)
    (h : k < n) :
    b.resize k 1 (c, 0) =
      some ({ b with view := [Line.blank k Pen.default], cols := k, trimNeeded := true },
            (min c (k - 1), 0)) := by
  obtain ⟨_, _, _, _, lim, tn⟩ := b
  simp only at hsb hv hc hr
  subst hsb hv hc hr
  rw [resize_eq]
  simp only [lines, List.nil_append, logicalPosition_single, rsStep1_eq, if_neg (Nat.ne_of_lt h),
    reflow_blank hk h, Option.bind_some, List.length_singleton, Nat.sub_self, List.replicate_zero,
    List.append_nil, relativePosition_single (l := Line.blank k Pen.default) rfl c hk, Option.map_some]
  simp [csub, rsStep2_same]

end Buffer

/-- `Terminal::resize` of such a screen, cursor in its row: `resized`, then `reflowed` with the blank
    row of the new width -/
theorem Terminal.resize_blank_row (t : Terminal) {n k : Nat} (hsb : t.buffer.sb = [])
    (hv : t.buffer.view = [Line.blank n Pen.default]) (hc : t.buffer.cols = n) (hr : t.buffer.rows = 1)
    (hrow : t.cursor.row = 0) (hk : 0 < k) (h : k < n) :
    t.resize k 1 = some ((t.resized k 1).reflowed
      { t.buffer with view := [Line.blank k Pen.default], cols := k, trimNeeded := true }
      (min t.cursor.col (k - 1), 0)) := by
  rw [Terminal.resize_eq, Terminal.reflow_eq, if_pos ⟨hk, Nat.le_refl 1⟩]
  show (t.buffer.resize k 1 (t.cursor.col, t.cursor.row)).map _ = _
  rw [hrow, Buffer.resize_blank_row t.buffer _ hsb hv hc hr hk h]
  rfl

end Avt
