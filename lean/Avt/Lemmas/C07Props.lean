/-
  Avt.Lemmas.C07Props — `editSpec` read cell by cell: the row formulas pointwise, what a row edit and
  ED do to the cells of the view, and the erased cells in the property's words (`erase_cells`).
-/
import Avt.Lemmas.C07Edit

namespace Avt.C07L
open Avt.Spec.C07

theorem getElem?_fill {α} (cs : List α) {a b : Nat} (x : α) (h1 : a ≤ b) (h2 : b ≤ cs.length) (j : Nat) :
    (cs.take a ++ List.replicate (b - a) x ++ cs.drop b)[j]? = if a ≤ j ∧ j < b then some x else cs[j]? :=
  fillRange_getElem? (fillRange_eq_some x h1 h2)

theorem eraseRight_cells (cols col : Nat) (pen : Pen) (l : Line) (hl : l.cells.length = cols)
    (hc : col ≤ cols) (c : Nat) :
    (eraseRight cols col pen l).cells[c]? =
      if col ≤ c ∧ c < cols then some (Cell.blank pen) else l.cells[c]? := by
  subst hl
  have := getElem?_fill l.cells (Cell.blank pen) hc (Nat.le_refl _) c
  rwa [List.drop_length, List.append_nil] at this

-- `0 ≤ c ∧`, here and in `eraseRow_cells`: the shape `a ≤ c ∧ c < b` that `cellAt_onRow_fill` takes
theorem eraseLeft_cells (cols col : Nat) (pen : Pen) (l : Line) (hl : l.cells.length = cols) (c : Nat) :
    (eraseLeft cols col pen l).cells[c]? =
      if 0 ≤ c ∧ c < min (col + 1) cols then some (Cell.blank pen) else l.cells[c]? :=
  getElem?_fill l.cells (b := min (col + 1) cols) (Cell.blank pen) (Nat.zero_le _)
    (hl ▸ Nat.min_le_right _ _) c

theorem eraseRow_cells (cols : Nat) (pen : Pen) (l : Line) (hl : l.cells.length = cols) (c : Nat) :
    (eraseRow cols pen l).cells[c]? = if 0 ≤ c ∧ c < cols then some (Cell.blank pen) else l.cells[c]? := by
  subst hl
  have := getElem?_fill l.cells (Cell.blank pen) (Nat.zero_le _) (Nat.le_refl _) c
  rwa [List.drop_length, List.append_nil] at this

theorem eraseChars_cells (cols col n : Nat) (pen : Pen) (l : Line) (hl : l.cells.length = cols)
    (hc : col ≤ cols) (c : Nat) :
    (eraseChars cols col n pen l).cells[c]? =
      if col ≤ c ∧ c < col + min n (cols - col) then some (Cell.blank pen) else l.cells[c]? := by
  have := getElem?_fill l.cells (Cell.blank pen) (Nat.le_add_right col (min n (cols - col))) (by omega) c
  rwa [Nat.add_sub_cancel_left] at this

/-- `getElem?_shiftR` (Lemmas/Prim.lean) at `b = length`: ICH shifts the cells of a row as a scroll-down
    shifts the rows of the view -/
theorem insertChars_cells (cols col n : Nat) (pen : Pen) (l : Line) (hl : l.cells.length = cols)
    (hc : col ≤ cols) (c : Nat) :
    (insertChars cols col n pen l).cells[c]? =
      if c < col then l.cells[c]?
      else if c < col + min n (cols - col) then some (Cell.blank pen)
      else if c < cols then l.cells[c - min n (cols - col)]? else none := by
  subst hl
  have hk : min n (l.cells.length - col) ≤ l.cells.length - col := Nat.min_le_right _ _
  simp only [insertChars]
  generalize min n (l.cells.length - col) = k at hk ⊢
  have := getElem?_shiftR (l := l.cells) (m := blanks k pen) (a := col) (j := c) (Nat.le_refl _)
    (by omega) List.length_replicate
  rw [List.drop_length, List.append_nil, List.drop_take, Nat.sub_right_comm] at this
  rw [this]
  by_cases h1 : c < col
  · rw [if_neg (by omega), if_pos h1]
  · rw [if_neg h1]
    by_cases h2 : c < l.cells.length
    · rw [if_pos ⟨by omega, h2⟩]
      split
      · rw [blanks, List.getElem?_replicate, if_pos (by omega)]
      · rfl
    · rw [if_neg (by omega), if_neg (by omega), if_neg h2, List.getElem?_eq_none (by omega)]

/-- likewise DCH and a scroll-up: `getElem?_shiftL` at `b = length` -/
theorem deleteChars_cells (cols col n : Nat) (pen : Pen) (l : Line) (hl : l.cells.length = cols)
    (hc : col ≤ cols) (c : Nat) :
    (deleteChars cols col n pen l).cells[c]? =
      if c < col then l.cells[c]?
      else if c + min n (cols - col) < cols then l.cells[c + min n (cols - col)]?
      else if c < cols then some (Cell.blank pen) else none := by
  subst hl
  have hk : min n (l.cells.length - col) ≤ l.cells.length - col := Nat.min_le_right _ _
  simp only [deleteChars]
  generalize min n (l.cells.length - col) = k at hk ⊢
  have := getElem?_shiftL (l := l.cells) (m := blanks k pen) (a := col) (j := c) (Nat.le_refl _)
    (by omega) List.length_replicate
  rw [List.take_length, List.drop_length, List.append_nil] at this
  rw [this]
  by_cases h1 : c < col
  · rw [if_neg (by omega), if_pos h1]
  · rw [if_neg h1]
    by_cases h2 : c < l.cells.length
    · rw [if_pos ⟨by omega, h2⟩]
      split
      · rfl
      · rw [blanks, List.getElem?_replicate, if_pos (by omega)]
    · rw [if_neg (by omega), if_neg (by omega), if_neg h2, List.getElem?_eq_none (by omega)]

theorem alignRow_cells (cols : Nat) (l : Line) (c : Nat) :
    (alignRow cols l).cells[c]? = if c < cols then some ⟨0x45, Pen.default⟩ else none := by
  simp only [alignRow, List.getElem?_replicate]

theorem cellAt_onRow (t : Terminal) (g : Line → Line) (r c : Nat) :
    cellAt (onRow t g) r c =
      if r = t.cursor.row then (t.buffer.view[r]?).bind (fun l => (g l).cells[c]?) else cellAt t r c := by
  unfold cellAt onRow withView
  simp only [onRowOf_eq_modify, getElem?_modify_if]
  split
  · cases t.buffer.view[r]? <;> rfl
  · rfl

theorem markAt_onRow (t : Terminal) (g : Line → Line) (r : Nat) :
    markAt (onRow t g) r =
      if r = t.cursor.row then (t.buffer.view[r]?).map (fun l => (g l).wrapped) else markAt t r := by
  unfold markAt onRow withView
  simp only [onRowOf_eq_modify, getElem?_modify_if]
  split
  · cases t.buffer.view[r]? <;> rfl
  · rfl

theorem cursor_row (t : Terminal) (h : TInv t = true) :
    ∃ l, t.buffer.view[t.cursor.row]? = some l ∧ l.cells.length = t.cols := by
  have p := PrintPre.of_TOK (TOK.of_TInv h)
  exact ⟨_, List.getElem?_eq_getElem p.row_lt_view, p.cwidth⟩

theorem cellAt_onRow' (t : Terminal) (h : TInv t = true) (g : Line → Line) (r c : Nat) :
    ∃ l, t.buffer.view[t.cursor.row]? = some l ∧ l.cells.length = t.cols ∧
      cellAt t t.cursor.row c = l.cells[c]? ∧
      cellAt (onRow t g) r c = if r = t.cursor.row then (g l).cells[c]? else cellAt t r c := by
  obtain ⟨l, hl, hw⟩ := cursor_row t h
  refine ⟨l, hl, hw, ?_, ?_⟩
  · unfold cellAt; rw [hl]; rfl
  · rw [cellAt_onRow]
    split
    · subst_vars; rw [hl]; rfl
    · rfl

theorem row_width (t : Terminal) (h : TInv t = true) (r : Nat) (l : Line)
    (hl : t.buffer.view[r]? = some l) : l.cells.length = t.cols ∧ r < t.rows := by
  have p := PrintPre.of_TOK (TOK.of_TInv h)
  obtain ⟨hr, rfl⟩ := List.getElem?_eq_some_iff.1 hl
  exact ⟨p.hvw _ (List.getElem_mem hr), p.hv ▸ hr⟩

theorem cellAt_eq_none (t : Terminal) (h : TInv t = true) (r c : Nat)
    (hrc : ¬ (r < t.rows ∧ c < t.cols)) : cellAt t r c = none := by
  unfold cellAt
  cases hv : t.buffer.view[r]? with
  | none => rfl
  | some l =>
    obtain ⟨hw, hr⟩ := row_width t h r l hv
    exact List.getElem?_eq_none (by omega)

/-- a row edit that blanks the columns `a..b` of the cursor's row -/
theorem cellAt_onRow_fill (t : Terminal) (h : TInv t = true) (g : Line → Line) (a b : Nat)
    (hg : ∀ l : Line, l.cells.length = t.cols → ∀ c,
      (g l).cells[c]? = if a ≤ c ∧ c < b then some (Cell.blank t.pen) else l.cells[c]?) (r c : Nat) :
    cellAt (onRow t g) r c =
      if r = t.cursor.row ∧ a ≤ c ∧ c < b then some (Cell.blank t.pen) else cellAt t r c := by
  obtain ⟨l, hl, hw, hc0, hc⟩ := cellAt_onRow' t h g r c
  rw [hc]
  by_cases hr : r = t.cursor.row
  · subst hr
    simp only [true_and, if_true, hg l hw, hc0]
  · simp only [hr, false_and, if_false]

theorem getElem?_take_append_replicate {α} (X : List α) (n k : Nat) (x : α) (h : n ≤ X.length) (r : Nat) :
    (X.take n ++ List.replicate k x)[r]? =
      if r < n then X[r]? else if r < n + k then some x else none := by
  rw [List.getElem?_append, List.length_take_of_le h, List.getElem?_take, List.getElem?_replicate]
  split
  · rfl
  · simp only [Nat.sub_lt_iff_lt_add' (Nat.le_of_not_lt ‹_›)]

theorem getElem?_replicate_append_drop {α} (X : List α) (n : Nat) (x : α) (r : Nat) :
    (List.replicate n x ++ X.drop n)[r]? = if r < n then some x else X[r]? := by
  rw [List.getElem?_append, List.length_replicate, List.getElem?_replicate, List.getElem?_drop]
  split
  · rfl
  · rw [Nat.add_sub_cancel' (Nat.le_of_not_lt ‹_›)]

/-- ED 0 is EL 0 down to the cursor's row and fresh rows below -/
theorem view_edBelow (t : Terminal) (h : TInv t = true) (r : Nat) :
    (editSpec t (.ed .below)).buffer.view[r]? =
      if r ≤ t.cursor.row then (onRow t (eraseRight t.cols t.cursor.col t.pen)).buffer.view[r]?
      else if r < t.rows then some (Line.blank t.cols t.pen) else none := by
  have p := PrintPre.of_TOK (TOK.of_TInv h)
  simp only [editSpec, withView, onRow, blankRows]
  rw [← take_succ_onRowOf _ _ _ p.row_lt_view, getElem?_take_append_replicate _ _ _ _
    (by rw [onRowOf_eq_modify, List.length_modify]; exact p.row_lt_view), Nat.add_sub_cancel' p.crow]
  simp only [Nat.lt_succ_iff]

/-- ED 1 is fresh rows above the cursor's row and EL 1 from there on -/
theorem view_edAbove (t : Terminal) (h : TInv t = true) (r : Nat) :
    (editSpec t (.ed .above)).buffer.view[r]? =
      if r < t.cursor.row then some (Line.blank t.cols t.pen)
      else (onRow t (eraseLeft t.cols t.cursor.col t.pen)).buffer.view[r]? := by
  have p := PrintPre.of_TOK (TOK.of_TInv h)
  simp only [editSpec, withView, onRow, blankRows]
  rw [List.append_assoc, ← drop_onRowOf _ _ _ (Nat.le_of_lt p.row_lt_view), getElem?_replicate_append_drop]

theorem view_edAll (t : Terminal) (r : Nat) :
    (editSpec t (.ed .all)).buffer.view[r]? =
      if r < t.rows then some (Line.blank t.cols t.pen) else none := by
  simp only [editSpec, withView, blankRows, List.getElem?_replicate]

theorem view_decaln (t : Terminal) (r : Nat) :
    (editSpec t .decaln).buffer.view[r]? = (t.buffer.view[r]?).map (alignRow t.cols) := by
  simp only [editSpec, withView, List.getElem?_map]

/-- cell `c` of a row that is fresh if `p` and absent otherwise -/
theorem fresh_cells (p : Prop) [Decidable p] (cols : Nat) (pen : Pen) (c : Nat) :
    ((if p then some (Line.blank cols pen) else none).bind fun l => l.cells[c]?) =
      if p ∧ c < cols then some (Cell.blank pen) else none := by
  split <;> simp only [Option.bind_some, Option.bind_none, Line.blank_cells, true_and, false_and, if_false, *]

theorem cellAt_dch (t : Terminal) (h : TInv t = true) (n r c : Nat) :
    ∃ l, t.buffer.view[t.cursor.row]? = some l ∧ l.cells.length = t.cols ∧
      cellAt t t.cursor.row c = l.cells[c]? ∧
      cellAt (editSpec t (.dch n)) r c =
        if r = t.cursor.row
        then (deleteChars t.cols (min t.cursor.col (t.cols - 1)) (asUsize n 1) t.pen l).cells[c]?
        else cellAt t r c := by
  obtain ⟨l, hl, hw⟩ := cursor_row t h
  obtain ⟨e1, e2, e3, e4, e5, -⟩ := leavePending_facts t
  refine ⟨l, hl, hw, ?_, ?_⟩
  · unfold cellAt; rw [hl]; rfl
  · simp only [editSpec]
    rw [cellAt_onRow, e1, e2, e3]
    split
    · subst_vars; rw [hl]; rfl
    · unfold cellAt; rw [e1]

theorem covered_of_erases {f : Function} (h : erases f = true) : coveredEdit f = true := by
  cases f <;> first | rfl | exact h

/-- `P`: the cell is blanked, `E`: it is in the extent, `B`: it is on the screen -/
theorem ite_fill {α} {P E B : Prop} [Decidable P] [Decidable E] [Decidable B] {x : α} {X : Option α}
    (hn : ¬ B → X = none) (h : P ↔ E ∧ B) :
    (if P then some x else X) = if E then (if B then some x else none) else X := by
  by_cases hE : E <;> by_cases hB : B <;> simp only [h, hE, hB, and_self, and_false, false_and, if_true, if_false]
  exact hn hB

/-- ED / EL / ECH: inside the extent blanks in the current pen, outside it the old content -/
theorem erase_cells (t : Terminal) (f : Function) (h : TInv t = true) (hf : erases f = true) (r c : Nat) :
    cellAt (editSpec t f) r c =
      if extent t f r c = true then (if r < t.rows ∧ c < t.cols then some (Cell.blank t.pen) else none)
      else cellAt t r c := by
  have hrow := (TOK.of_TInv h).crow
  have hcol := (TOK.of_TInv h).ccol_le
  have hn := cellAt_eq_none t h r c
  have hR := cellAt_onRow_fill t h _ _ _ (fun l hw => eraseRight_cells _ _ _ l hw hcol) r c
  have hL := cellAt_onRow_fill t h _ _ _ (eraseLeft_cells _ t.cursor.col _) r c
  cases f <;> simp only [erases, Bool.false_eq_true] at hf
  case el s =>
    cases s <;> simp only [editSpec, extent, Bool.and_eq_true, beq_iff_eq, decide_eq_true_eq]
    · rw [hR]; exact ite_fill hn (by omega)
    · rw [hL]; exact ite_fill hn (by omega)
    · rw [cellAt_onRow_fill t h _ _ _ (eraseRow_cells _ _)]; exact ite_fill hn (by omega)
  case ech n =>
    simp only [editSpec, extent, Bool.and_eq_true, beq_iff_eq, decide_eq_true_eq]
    rw [cellAt_onRow_fill t h _ _ _ (fun l hw => eraseChars_cells _ _ _ _ l hw hcol)]
    exact ite_fill hn (by omega)
  case ed s =>
    cases s <;> simp only [extent, Bool.or_eq_true, Bool.and_eq_true, beq_iff_eq, decide_eq_true_eq]
    · unfold cellAt at hR hn ⊢
      rw [view_edBelow t h]
      split
      · rw [hR]; exact ite_fill hn (by omega)
      · rw [fresh_cells, if_pos (Or.inl (by omega))]
    · unfold cellAt at hL hn ⊢
      rw [view_edAbove t h]
      split
      · rw [Option.bind_some, Line.blank_cells, if_pos (Or.inl ‹_›)]
        simp only [show r < t.rows by omega, true_and]
      · rw [hL]; exact ite_fill hn (by omega)
    · unfold cellAt
      rw [view_edAll, fresh_cells]
      simp only [if_true]
    · simp only [editSpec, Bool.false_eq_true, if_false]

end Avt.C07L
