/-
  Avt.Lemmas.SgrColour — the lookahead of a bare 38 / 48 in `Parser.sgrStep` (its local `colour`)
  as a function of its own, with the equation that puts it back.
-/
import Avt.Model.Parser

namespace Avt.Parser

/-- the local `colour` of `sgrStep`: what the registers after a bare 38 / 48 select (`2;r;g;b`,
    `5;n`, or a truncated form) and how many of them are consumed; `none` = the code panics -/
def sgrColour (mk : Color → SgrOp) (rest : List Param) : Option (Option SgrOp × Nat) :=
  match rest with
  | [] => some (none, 0)
  | q :: _ =>
    match q.partsSlice with
    | none => none
    | some [2] =>
      match rest[3]?, rest[1]?, rest[2]? with
      | some b, some r, some g =>
        match r.asU16, g.asU16, b.asU16 with
        | some r, some g, some b => some (some (mk (.rgb (u8 r) (u8 g) (u8 b))), 4)
        | _, _, _ => none
      | none, _, _ => some (none, 1)
      | _, _, _ => none
    | some [5] =>
      match rest[1]? with
      | some i =>
        match i.asU16 with
        | some i => some (some (mk (.indexed (u8 i))), 2)
        | none => none
      | none => some (none, 1)
    | some _ => some (none, 0)

theorem sgrStep_fg {p : Param} (rest : List Param) (hp : p.partsSlice = some [38]) :
    sgrStep p rest = sgrColour .setFg rest := by
  unfold sgrStep
  rw [hp]
  rfl

theorem sgrStep_bg {p : Param} (rest : List Param) (hp : p.partsSlice = some [48]) :
    sgrStep p rest = sgrColour .setBg rest := by
  unfold sgrStep
  rw [hp]
  rfl

end Avt.Parser
