/-
  Avt.Lemmas.C11BufferDump — `Buffer.dump`, assembled (`buffer_dump`): induction over the rows with the
  invariant `Between` (after `i` rows of the target the cursor is at the head of a blank row, or parked
  wrap-pending behind a row that is soft-wrapped or the last one).  The dump stops at `Buffer.dumpCutoff`:
  from there on every row is blank and unmarked and the row above carries no wrap mark (`dumpCutoff_spec`),
  so the blank screen the replay starts from already shows them (`Between.final`).
-/
import Avt.Lemmas.C11BufferTypist
import Avt.Lemmas.C08Pen

namespace Avt
namespace Lemmas.C11
open Avt.Spec.C11 Avt.Spec.C04 Avt.C04L

theorem dumpCutoff_spec : ∀ (ls : List Line) (i : Nat) (w : Bool) (c : Nat), c ≤ i →
    c ≤ Buffer.dumpCutoff ls i w c ∧ Buffer.dumpCutoff ls i w c ≤ i + ls.length
      ∧ ∀ (j : Nat) (l : Line), ls[j]? = some l → Buffer.dumpCutoff ls i w c ≤ i + j →
          l.isBlank = true ∧ l.wrapped = false
            ∧ (if j = 0 then w = false else ∀ l', ls[j - 1]? = some l' → l'.wrapped = false)
  | [], i, w, c, h => by
    simp only [Buffer.dumpCutoff, List.length_nil, Nat.add_zero]
    exact ⟨Nat.le_refl _, h, fun j l hl => by simp at hl⟩
  | l :: ls, i, w, c, h => by
    simp only [Buffer.dumpCutoff]
    have hc' : (if (w || l.wrapped || !l.isBlank) = true then i + 1 else c) ≤ i + 1 := by split <;> omega
    obtain ⟨a1, a2, a3⟩ := dumpCutoff_spec ls (i + 1) l.wrapped _ hc'
    refine ⟨?_, by simp only [List.length_cons]; omega, ?_⟩
    · have : c ≤ (if (w || l.wrapped || !l.isBlank) = true then i + 1 else c) := by split <;> omega
      omega
    · intro j l0 hl0 hr
      cases j with
      | zero =>
        simp only [List.getElem?_cons_zero, Option.some.injEq] at hl0
        subst hl0
        have hne : ¬ ((w || l.wrapped || !l.isBlank) = true) := by
          intro hcon
          simp only [if_pos hcon] at a1 hr
          omega
        simp only [Bool.or_eq_true, Bool.not_eq_true', not_or, Bool.not_eq_true, Bool.not_eq_false] at hne
        simp only [if_true]
        exact ⟨hne.2, hne.1.2, hne.1.1⟩
      | succ j =>
        simp only [List.getElem?_cons_succ] at hl0
        obtain ⟨b1, b2, b3⟩ := a3 j l0 hl0 (by omega)
        refine ⟨b1, b2, ?_⟩
        simp only [Nat.add_one_ne_zero, if_false, Nat.add_sub_cancel]
        intro l' hl'
        cases j with
        | zero =>
          simp only [List.getElem?_cons_zero, Option.some.injEq] at hl'
          subst hl'
          simpa using b3
        | succ j =>
          simp only [List.getElem?_cons_succ] at hl'
          simp only [Nat.add_one_ne_zero, if_false, Nat.add_sub_cancel] at b3
          exact b3 l' hl'

theorem pen_default_of_isDefault (p : Pen) (hp : PenOK p) (h : p.isDefault = true) : p = {} :=
  Spec.C08.obs_injective p {} hp.1 (by decide) (Spec.C08.obs_of_isDefault h)

theorem ctx_default_eq (c : SavedCtx) (h : c.isDefault = true) (hp : PenOK c.pen) : c = {} := by
  obtain ⟨cc, cr, pen, om, aw⟩ := c
  simp only [SavedCtx.isDefault, Bool.and_eq_true, beq_iff_eq, Bool.not_eq_true'] at h
  obtain ⟨⟨⟨⟨h1, h2⟩, h3⟩, h4⟩, h5⟩ := h
  have := pen_default_of_isDefault pen hp h3
  subst h1 h2 h4 h5 this
  rfl

theorem blank_of_isBlank (l : Line) (cols : Nat) (hl : l.cells.length = cols) (hok : ∀ c ∈ l.cells, CellOK c)
    (hb : l.isBlank = true) (hw : l.wrapped = false) : l = Line.blank cols Pen.default := by
  obtain ⟨cells, w⟩ := l
  simp only at hl hw hok
  subst hw
  simp only [Line.blank, Line.mk.injEq, and_true]
  apply List.eq_replicate_iff.2
  refine ⟨hl, ?_⟩
  intro c hc
  have hd : c.isDefault = true := by
    simp only [Line.isBlank, List.all_eq_true] at hb
    exact hb c hc
  simp only [Cell.isDefault, Bool.and_eq_true, beq_iff_eq] at hd
  obtain ⟨ch, pen⟩ := c
  simp only at hd
  have := pen_default_of_isDefault pen (hok _ hc).2 hd.2
  rw [hd.1, this]
  rfl

theorem feeds_crlf {V : List Line} {cols rows i : Nat} {l : Line} {t : Terminal} (g : Geo V cols rows t)
    (hi : i + 1 < rows) (h : InRow V cols rows i l cols t) :
    ∃ t', Feeds [0x0d, 0x0a] t t' ∧ t'.buffer.view = t.buffer.view ∧ t'.cursor.col = 0
      ∧ t'.cursor.row = i + 1 ∧ t'.pen = t.pen ∧ E t' = E t ∧ Geo V cols rows t' := by
  have p := TOK.of_TInv g.inv
  let t' : Terminal := { t with cursor := { t.cursor with col := 0, row := i + 1 }, pendingWrap := false }
  have hrows : csub t.rows 1 = some (t.rows - 1) := csub_eq_some p.r1
  have hcols : csub t.cols 1 = some (t.cols - 1) := csub_eq_some p.c1
  have hbm : t.bottomMargin = rows - 1 := by have := g.mode.bottom; rw [g.trows] at this; omega
  have hex : Terminal.foldM' Terminal.execute [.cr, .lf] t = some t' := by
    have hne : ¬ (i = t.bottomMargin) := by rw [hbm]; omega
    have hlt : i < t.rows - 1 := by rw [g.trows]; omega
    simp only [Terminal.foldM', Terminal.execute, Terminal.lf, Terminal.moveCursorDownWithScroll,
      Terminal.doMoveCursorToCol, Terminal.doMoveCursorToRow, hne, if_false, hrows, hlt, if_true, hcols,
      Option.map_some, Nat.zero_min, h.row]
    split <;> rfl
  have hinv : TInv t' = true :=
    TOK.TInv (t := t') { p with crow := g.trows.symm ▸ hi, ccol := Or.inr ⟨rfl, p.c1⟩ }
  refine ⟨t', Feeds.of_emits (Emits.append emits_cr emits_lf) hex, rfl, rfl, rfl, rfl, rfl, ?_⟩
  exact ⟨g.vlen, g.clen, g.tcols, g.trows, hinv, ⟨g.mode.top, g.mode.bottom, g.mode.autoWrap, g.mode.replace, g.mode.charset⟩⟩

/-- the state after `i` rows of the target have been replayed -/
def Between (V : List Line) (cols rows i : Nat) (t : Terminal) : Prop :=
  (i < rows ∧ t.buffer.view = V.take i ++ List.replicate (rows - i) (Line.blank cols Pen.default)
      ∧ t.cursor.col = 0 ∧ t.cursor.row = i)
  ∨ ∃ j lj, i = j + 1 ∧ V[j]? = some lj ∧ InRow V cols rows j lj cols t ∧ (lj.wrapped = true ∨ i = rows)

theorem Between.ready {V : List Line} {cols rows i : Nat} {l : Line} {t : Terminal} (hi : i < rows)
    (h : Between V cols rows i t) : Ready V cols rows i l t := by
  rcases h with ⟨_, hv, hc, hr⟩ | ⟨j, lj, rfl, hlj, hin, hw⟩
  · left
    refine ⟨?_, hc, hr⟩
    rw [hv, partialRow_zero]
    obtain ⟨m, hm⟩ : ∃ m, rows - i = m + 1 := ⟨rows - i - 1, by omega⟩
    rw [hm, Nat.add_sub_cancel, List.replicate_succ]
  · right
    rcases hw with hw | hw
    · exact ⟨j, lj, rfl, hlj, hw, hin⟩
    · omega

/-- the rows below the cut-off are blank, so a completed replay shows the target -/
theorem Between.final {V : List Line} {cols rows cutoff : Nat} {t : Terminal}
    (hV : V.length = rows) (hcl : ∀ l ∈ V, l.cells.length = cols)
    (hok : ∀ l ∈ V, ∀ c ∈ l.cells, CellOK c) (hlu : lastUnwrapped V = true)
    (hcut : cutoff = Buffer.dumpCutoff V 0 false 0) (h : Between V cols rows cutoff t) :
    t.buffer.view = V := by
  obtain ⟨_, c2, c3⟩ := dumpCutoff_spec V 0 false 0 (Nat.le_refl _)
  rw [← hcut] at c2 c3
  simp only [Nat.zero_add] at c2 c3
  have hblank : ∀ j l, V[j]? = some l → cutoff ≤ j → l = Line.blank cols Pen.default := by
    intro j l hl hj
    obtain ⟨b1, b2, _⟩ := c3 j l hl hj
    exact blank_of_isBlank l cols (hcl l (List.mem_of_getElem? hl)) (hok l (List.mem_of_getElem? hl)) b1 b2
  have htail : ∀ k, cutoff ≤ k → List.replicate (rows - k) (Line.blank cols Pen.default) = V.drop k := by
    intro k hck
    refine (List.eq_replicate_iff.2 ⟨by rw [List.length_drop, hV], fun l hl => ?_⟩).symm
    obtain ⟨j, hj⟩ := List.mem_iff_getElem?.1 hl
    rw [List.getElem?_drop] at hj
    exact hblank _ l hj (by omega)
  rcases h with ⟨hi, hv, _, _⟩ | ⟨j, lj, rfl, hlj, hin, hw⟩
  · rw [hv, htail cutoff (Nat.le_refl _), List.take_append_drop]
  · have hjr : j < rows := by
      have := (List.getElem?_eq_some_iff.1 hlj).1
      omega
    have hunw : lj.wrapped = false := by
      by_cases he : j + 1 = rows
      · -- the last row of the view is never marked
        exact (lastUnwrapped_iff V).1 hlu lj (by rw [hV, ← he]; simpa using hlj)
      · have hj1 : j + 1 < V.length := by omega
        obtain ⟨_, _, b3⟩ := c3 (j + 1) V[j + 1] (List.getElem?_eq_getElem hj1) (Nat.le_refl _)
        simp only [Nat.add_one_ne_zero, if_false, Nat.add_sub_cancel] at b3
        exact b3 lj hlj
    rw [hin.view, partialRow_done lj cols (hcl lj (List.mem_of_getElem? hlj)) hunw,
      show rows - j - 1 = rows - (j + 1) by omega, htail (j + 1) (Nat.le_refl _),
      ← List.singleton_append, ← List.append_assoc, ← take_succ_of_get hlj, List.take_append_drop]

/-- one row and what follows it: the text of the row, then CR LF unless the row is the last one or
    soft-wrapped (then the cursor stays parked wrap-pending behind it) -/
theorem feeds_line {V : List Line} {cols rows i : Nat} {l : Line} {pen : Pen} {t : Terminal}
    (hok : ∀ c ∈ l.cells, CellOK c) (hcols : cols ≤ 65536) (hir : i < rows) (hl : V[i]? = some l)
    (g : Geo V cols rows t) (hb : Between V cols rows i t) (hpen : t.pen = pen) :
    ∃ s pen' t', Buffer.dumpChunks (l.chunks fun c1 c2 => c1.pen ≠ c2.pen) pen = some (s, pen')
      ∧ Feeds (s ++ (if i < rows - 1 && !l.wrapped then [0x0d, 0x0a] else [])) t t'
      ∧ Geo V cols rows t' ∧ Between V cols rows (i + 1) t' ∧ E t' = E t ∧ t'.pen = pen' := by
  have hcl : l.cells.length = cols := g.clen l (List.mem_of_getElem? hl)
  -- `hcols`: a row of one character in one pen is a single REP run, and the REP count is 16-bit (`feeds_repFlush`)
  obtain ⟨s, pen', hs, f1, hp1⟩ := feeds_row l pen t hok (by omega) g.inv g.mode hpen
  obtain ⟨r1, r2, r3⟩ := typeCells_row hir hl g (hb.ready (l := l) hir)
  by_cases hnl : (decide (i < rows - 1) && !l.wrapped) = true
  · have hnl' := hnl
    simp only [Bool.and_eq_true, decide_eq_true_eq, Bool.not_eq_true'] at hnl
    obtain ⟨t2, f2, v2, c2, w2, p2, e2, g2⟩ := feeds_crlf r3 (by omega) r1
    refine ⟨s, pen', t2, hs, (f1.append f2).cast (by rw [if_pos hnl']), g2, Or.inl ⟨by omega, ?_, c2, w2⟩, by rw [e2, r2], by rw [p2, hp1]⟩
    rw [v2, r1.view, partialRow_done l cols hcl hnl.2, take_succ_of_get hl,
      show rows - i - 1 = rows - (i + 1) by omega]
    simp
  · refine ⟨s, pen', _, hs, f1.cast (by rw [if_neg hnl, List.append_nil]), r3, Or.inr ⟨i, l, rfl, hl, r1, ?_⟩, r2, hp1⟩
    cases hw : l.wrapped with
    | true => exact Or.inl rfl
    | false =>
      simp only [hw, Bool.not_false, Bool.and_true, decide_eq_true_eq] at hnl
      exact Or.inr (by omega)

theorem feeds_dumpLines {V : List Line} {cols rows cutoff : Nat} (hcut : cutoff ≤ rows)
    (hok : ∀ l ∈ V, ∀ c ∈ l.cells, CellOK c) (hcols : cols ≤ 65536) :
    ∀ (ls : List Line) (i : Nat) (pen : Pen) (t : Terminal), (V.take cutoff).drop i = ls → i ≤ cutoff →
      Geo V cols rows t → Between V cols rows i t → t.pen = pen →
      ∃ s t', Buffer.dumpLines (rows - 1) ls i pen = some s ∧ Feeds s t t' ∧ Geo V cols rows t'
        ∧ Between V cols rows cutoff t' ∧ E t' = E t
  | [], i, pen, t, hls, hi, g, hb, _ => by
    have hlen : (V.take cutoff).length = cutoff := by simp [g.vlen]; omega
    have : cutoff ≤ i := by
      have := List.drop_eq_nil_iff.1 hls
      omega
    have e : i = cutoff := by omega
    subst e
    exact ⟨[], t, rfl, Feeds.nil t, g, hb, rfl⟩
  | l :: ls', i, pen, t, hls, hi, g, hb, hpen => by
    have h0 : ((V.take cutoff).drop i)[0]? = some l := by rw [hls]; rfl
    rw [List.getElem?_drop, List.getElem?_take] at h0
    have hic : i < cutoff := by
      by_cases h : i + 0 < cutoff
      · omega
      · rw [if_neg h] at h0; cases h0
    have hl : V[i]? = some l := by simpa [hic] using h0
    have htail : (V.take cutoff).drop (i + 1) = ls' := by
      rw [← List.tail_drop, hls]; rfl
    obtain ⟨s, pen', t2, hs, f1, g2, hb2, e2, hp2⟩ :=
      feeds_line (hok l (List.mem_of_getElem? hl)) hcols (by omega) hl g hb hpen
    obtain ⟨s3, t3, hs3, f3, g3, b3, e3⟩ :=
      feeds_dumpLines hcut hok hcols ls' (i + 1) pen' t2 htail (by omega) g2 hb2 hp2
    refine ⟨_, t3, ?_, f1.append f3, g3, b3, e3.trans e2⟩
    simp only [Buffer.dumpLines, hs, hs3, Option.map_some]

/-- **`Buffer.dump` round trip.**  `b` any buffer satisfying the buffer invariant whose cells hold
    characters the parser prints and pens `Pen::dump` can write; `t0` any terminal of the same size in
    the replay modes (full-screen margins, auto-wrap, replace mode, ASCII) showing a blank screen, with
    the cursor home and the default pen.  Feeding `Buffer.dump b` reproduces the view of `b` exactly —
    cells, pens, wrap marks — and changes nothing but view, cursor position, pending wrap, pen and dirty
    flags (`E`).  No bound on the size other than the 16-bit REP count (`cols ≤ 65536`). -/
theorem buffer_dump (b : Buffer) (t0 : Terminal) (hb : BInv b = true) (hc : b.cols = t0.cols)
    (hr : b.rows = t0.rows) (hok : ∀ l ∈ b.view, ∀ c ∈ l.cells, CellOK c) (hcols : t0.cols ≤ 65536)
    (h0 : TInv t0 = true) (hm : DMode t0)
    (hblank : t0.buffer.view = List.replicate t0.rows (Line.blank t0.cols Pen.default))
    (hcur : t0.cursor.col = 0 ∧ t0.cursor.row = 0) (hpen : t0.pen = Pen.default) :
    ∃ d t1, b.dump = some d ∧ Feeds d t0 t1 ∧ t1.buffer.view = b.view ∧ E t1 = E t0
      ∧ TInv t1 = true ∧ DMode t1 := by
  have hB := BOK.of_BInv hb
  have b2 := hB.hr
  have b3 := hB.hv
  have b6 := hB.hlast
  have hclen : ∀ l ∈ b.view, l.cells.length = t0.cols := fun l hl => (hB.hvw l hl).trans hc
  have g : Geo b.view t0.cols t0.rows t0 := ⟨by rw [b3, hr], hclen, rfl, rfl, h0, hm⟩
  obtain ⟨_, c2, _⟩ := dumpCutoff_spec b.view 0 false 0 (Nat.le_refl _)
  have hcut : Buffer.dumpCutoff b.view 0 false 0 ≤ t0.rows := by
    rw [← hr, ← b3]; simpa using c2
  have hrows : 1 ≤ t0.rows := by rw [← hr]; exact b2
  have hbt : Between b.view t0.cols t0.rows 0 t0 := by
    left
    exact ⟨by omega, by simpa using hblank, hcur.1, hcur.2⟩
  obtain ⟨s, t1, hs, f, g1, bt, e⟩ := feeds_dumpLines hcut hok hcols _ 0 Pen.default t0 rfl (Nat.zero_le _) g hbt hpen
  have hlu : lastUnwrapped b.view = true := (lastUnwrapped_iff b.view).2 b6
  refine ⟨s, t1, ?_, f, Between.final g.vlen hclen hok hlu rfl bt, e, g1.inv, g1.mode⟩
  unfold Buffer.dump
  simp only [hr, csub_eq_some hrows]
  simpa using hs

theorem buffer_dump_rcore (b : Buffer) {t0 : Terminal} (h0 : TInv t0 = true) (hb : BInv b = true)
    (hc : b.cols = t0.cols) (hr : b.rows = t0.rows) (hok : ∀ l ∈ b.view, ∀ c ∈ l.cells, CellOK c)
    (hcols : t0.cols ≤ 65536) (hm : DMode t0)
    (hblank : t0.buffer.view = List.replicate t0.rows (Line.blank t0.cols Pen.default))
    (hcur : t0.cursor.col = 0 ∧ t0.cursor.row = 0) (hpen : t0.pen = Pen.default) :
    ∃ d t1, b.dump = some d ∧ Feeds d t0 t1 ∧ TInv t1 = true
      ∧ rcore t1 = rcore { t0 with buffer := { t0.buffer with view := b.view } } := by
  obtain ⟨d, t1, hd, f, v, e, i, _⟩ := buffer_dump b t0 hb hc hr hok hcols h0 hm hblank hcur hpen
  exact ⟨d, t1, hd, f, i, v ▸ rcore_of_E e⟩

end Lemmas.C11
end Avt
