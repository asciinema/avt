/-
  Avt.Lemmas.FrameTerm — the frame lemma at the level of `Terminal`.

  `Rel P a b` ("`a` is `b` with more scrollback"): every field of the two terminals is equal except
    * the scrollback of the two buffers, where `a` holds `P.pa` (active buffer) resp. `P.po` (parked
      buffer) more lines on top: `a.buffer.sb = P.pa ++ b.buffer.sb`;
    * `trimNeeded` of both buffers, the dirty flags (only their number agrees);
    * in the non-strict variant (`P.s = false`) also the scrollback limits.
  `Rel` also carries the few facts about `a` alone that the buffer switches need (the active buffer
  has the terminal's geometry, both views have `rows` lines, where the limits come from), so that the
  frame lemma needs no separate invariant.

  No `Function` reads anything above the view except through `Buffer.resize`, which inside a feed is
  only reached from the buffer switches: at an unchanged geometry it is the identity on the lines
  (`resize_same`), and a parked buffer with a stale geometry is identical on both sides (`Rel.stale`).
  `P.g` is false only between `switchTo .primary` and the `reflow` that follows it, when such a stale
  buffer has come to the front (`switchReflow_rel`, FrameExec.lean); the lemmas here hold at either
  value.

  One lemma per helper of Model/Terminal.lean, by a walk of its own: that two runs panic together and
  stay related depends on what a helper READS, whereas Lemmas/Footprint, Paint and Writes say what one
  call WRITES, given that it succeeded.
-/
import Avt.Lemmas.FrameBuffer
import Avt.Lemmas.C15PrintSplit

namespace Avt.Frame
open Avt

structure Par where
  s : Bool             -- strict: the scrollback limits agree too
  g : Bool             -- the active buffer has the geometry of the terminal
  L : Option Nat       -- `a.scrollbackLimit`
  T : BufferType       -- the active buffer type (of both)
  pa : List Line       -- extra scrollback of `a.buffer`
  po : List Line       -- extra scrollback of `a.otherBuffer`

/-- the extra scrollback of the PRIMARY buffer, active or parked -/
def Par.prim (P : Par) : List Line := match P.T with | .primary => P.pa | .alternate => P.po

/-- where the limit of the active buffer comes from -/
def Par.activeLimit (P : Par) : Option Limit :=
  match P.T with | .primary => P.L.map Buffer.mkLimit | .alternate => some (Buffer.mkLimit 0)

structure Rel (P : Par) (a b : Terminal) : Prop where
  buf : BRel P.s P.pa a.buffer b.buffer
  other : BRel P.s P.po a.otherBuffer b.otherBuffer
  dirty : a.dirtyLines.length = b.dirtyLines.length
  abt : a.activeBufferType = P.T
  slA : a.scrollbackLimit = P.L
  slB : P.s = true → b.scrollbackLimit = P.L
  stale : (a.otherBuffer.cols ≠ a.cols ∨ a.otherBuffer.rows ≠ a.rows) → P.po = []
  xtw : a.xtwinops = false
  geoC : P.g = true → a.buffer.cols = a.cols
  geoR : P.g = true → a.buffer.rows = a.rows
  vlen : a.buffer.view.length = a.buffer.rows
  ovlen : a.otherBuffer.view.length = a.otherBuffer.rows
  limA : a.buffer.limit = P.activeLimit
  limO : P.T = .alternate → a.otherBuffer.limit = P.L.map Buffer.mkLimit
  cols : a.cols = b.cols
  rows : a.rows = b.rows
  activeBufferType : a.activeBufferType = b.activeBufferType
  cursor : a.cursor = b.cursor
  pen : a.pen = b.pen
  charsets : a.charsets = b.charsets
  activeCharset : a.activeCharset = b.activeCharset
  tabs : a.tabs = b.tabs
  insertMode : a.insertMode = b.insertMode
  originMode : a.originMode = b.originMode
  autoWrapMode : a.autoWrapMode = b.autoWrapMode
  newLineMode : a.newLineMode = b.newLineMode
  cursorKeysMode : a.cursorKeysMode = b.cursorKeysMode
  pendingWrap : a.pendingWrap = b.pendingWrap
  topMargin : a.topMargin = b.topMargin
  bottomMargin : a.bottomMargin = b.bottomMargin
  savedCtx : a.savedCtx = b.savedCtx
  alternateSavedCtx : a.alternateSavedCtx = b.alternateSavedCtx
  xtwinops : a.xtwinops = b.xtwinops

/-- related results of a step that may panic -/
def RelO (P : Par) : Option Terminal → Option Terminal → Prop
  | some a, some b => Rel P a b
  | none, none => True
  | _, _ => False

@[simp] theorem RelO.some_some {P a b} : RelO P (some a) (some b) ↔ Rel P a b := Iff.rfl
@[simp] theorem RelO.none_none {P} : RelO P none none ↔ True := Iff.rfl

theorem RelO.elim {P} {oa ob : Option Terminal} (h : RelO P oa ob) :
    (oa = none ∧ ob = none) ∨ ∃ a b, oa = some a ∧ ob = some b ∧ Rel P a b :=
  match oa, ob, h with
  | none, none, _ => .inl ⟨rfl, rfl⟩
  | some a, some b, R => .inr ⟨a, b, rfl, rfl, R⟩
  | some _, none, h => False.elim h
  | none, some _, h => False.elim h

/-- related results where the parameters may have changed (buffer switches), but strictness, the
    limit, the geometry flag and the extra scrollback of the PRIMARY buffer are kept -/
def RelX (P : Par) : Option Terminal → Option Terminal → Prop
  | some a, some b => ∃ P', Rel P' a b ∧ P'.s = P.s ∧ P'.g = P.g ∧ P'.L = P.L ∧ P'.prim = P.prim
  | none, none => True
  | _, _ => False

@[simp] theorem RelX.none_none {P} : RelX P none none ↔ True := Iff.rfl

theorem RelO.toX {P} {oa ob : Option Terminal} (h : RelO P oa ob) : RelX P oa ob :=
  match oa, ob, h with
  | none, none, _ => trivial
  | some _, some _, R => ⟨P, R, rfl, rfl, rfl, rfl⟩
  | some _, none, h => False.elim h
  | none, some _, h => False.elim h

theorem Rel.toX {P a b} (R : Rel P a b) : RelX P (some a) (some b) := ⟨P, R, rfl, rfl, rfl, rfl⟩

theorem RelX.elim {P} {oa ob : Option Terminal} (h : RelX P oa ob) :
    (oa = none ∧ ob = none) ∨ ∃ a b P', oa = some a ∧ ob = some b ∧ Rel P' a b ∧ P'.s = P.s ∧ P'.g = P.g
      ∧ P'.L = P.L ∧ P'.prim = P.prim :=
  match oa, ob, h with
  | none, none, _ => .inl ⟨rfl, rfl⟩
  | some a, some b, ⟨P', R, r⟩ => .inr ⟨a, b, P', rfl, rfl, R, r⟩
  | some _, none, h => False.elim h
  | none, some _, h => False.elim h

theorem RelX.trans {P P'} {oa ob : Option Terminal} (h : RelX P' oa ob)
    (hs : P'.s = P.s) (hg : P'.g = P.g) (hL : P'.L = P.L) (hp : P'.prim = P.prim) : RelX P oa ob :=
  match oa, ob, h with
  | none, none, _ => trivial
  | some _, some _, ⟨Q, R, h1, h2, h3, h4⟩ => ⟨Q, R, h1.trans hs, h2.trans hg, h3.trans hL, h4.trans hp⟩
  | some _, none, h => False.elim h
  | none, some _, h => False.elim h

theorem bindT {Q : Option Terminal → Option Terminal → Prop} {P} {oa ob : Option Terminal}
    {f g : Terminal → Option Terminal} (h : RelO P oa ob) (hn : Q none none)
    (hs : ∀ a b, Rel P a b → Q (f a) (g b)) :
    Q (match (generalizing := false) oa with | none => none | some t => f t)
      (match (generalizing := false) ob with | none => none | some t => g t) := by
  rcases h.elim with ⟨ha, hb⟩ | ⟨a, b, ha, hb, R⟩
  · subst ha; subst hb; exact hn
  · subst ha; subst hb; exact hs a b R

theorem mapB {P s p x0} {ox oy : Option Buffer} {f g : Buffer → Terminal} (h : BRelO s p x0 ox oy)
    (hs : ∀ x y, BRel s p x y → Keep x0 x → Rel P (f x) (g y)) : RelO P (ox.map f) (oy.map g) := by
  rcases h.elim with ⟨ha, hb⟩ | ⟨a, b, ha, hb, R, K⟩
  · subst ha; subst hb; trivial
  · subst ha; subst hb; exact hs a b R K

theorem RelO.map {P} {oa ob : Option Terminal} (h : RelO P oa ob) {f g : Terminal → Terminal}
    (hfg : ∀ a b, Rel P a b → Rel P (f a) (g b)) : RelO P (oa.map f) (ob.map g) := by
  rcases h.elim with ⟨ha, hb⟩ | ⟨a, b, ha, hb, R⟩
  · simp [ha, hb]
  · simp [ha, hb, hfg a b R]

theorem RelO.mapSame {P} {α} (o : Option α) {f g : α → Terminal} (h : ∀ x, Rel P (f x) (g x)) :
    RelO P (o.map f) (o.map g) := by
  cases o <;> simp [h]

theorem dirtyExtend_map {P} {da db : List Bool} (h : da.length = db.length) (lo hi : Nat)
    {f g : List Bool → Terminal} (hfg : ∀ d e, d.length = e.length → Rel P (f d) (g e)) :
    RelO P ((Dirty.extend da lo hi).map f) ((Dirty.extend db lo hi).map g) := by
  unfold Dirty.extend fillRange
  rw [h]
  split
  · simp only [Option.map_some, RelO.some_some]
    apply hfg
    simp [h]
  · trivial

theorem dirtyAdd_map {P} {da db : List Bool} (h : da.length = db.length) (n : Nat)
    {f g : List Bool → Terminal} (hfg : ∀ d e, d.length = e.length → Rel P (f d) (g e)) :
    RelO P ((Dirty.add da n).map f) ((Dirty.add db n).map g) := by
  unfold Dirty.add setAt
  rw [h]
  split
  · simp only [Option.map_some, RelO.some_some]
    apply hfg
    simp [h]
  · trivial

/-- rewrite every scalar field of `a` into the field of `b` -/
macro "scal " R:term : tactic =>
  `(tactic| try simp only [($R).cols, ($R).rows, ($R).activeBufferType, ($R).cursor, ($R).pen, ($R).charsets,
      ($R).activeCharset, ($R).tabs, ($R).insertMode, ($R).originMode, ($R).autoWrapMode,
      ($R).newLineMode, ($R).cursorKeysMode, ($R).pendingWrap, ($R).topMargin, ($R).bottomMargin,
      ($R).savedCtx, ($R).alternateSavedCtx, ($R).xtwinops])

section
variable {P : Par} {a b : Terminal}

/-- The one way `Rel` is re-established after a step.  Both sides are written the way a goal looks
    after `scal R` (the fields `Rel` equates are those of `b` on both sides): the active buffers are
    replaced by related ones with the four facts `Rel` records about the larger one, the dirty flags
    by lists of equal length, and every scalar field that a `Function` can write by the same value
    on both sides.  The parked buffer, the geometry, the limits and `xtwinops` stay. -/
theorem Rel.updG (R : Rel P a b) (g : Bool) {x y : Buffer} (hb : BRel P.s P.pa x y) {d e : List Bool}
    (hd : d.length = e.length) (hgc : g = true → x.cols = b.cols) (hgr : g = true → x.rows = b.rows)
    (hv : x.view.length = x.rows) (hl : x.limit = P.activeLimit)
    {cur : Cursor} {pen : Pen} {cs : Charset × Charset} {ac : Nat} {tabs : List Nat}
    {im om aw nl : Bool} {ck : CursorKeysMode} {pw : Bool} {tm bm : Nat} {sc asc : SavedCtx} :
    Rel { P with g := g }
      ⟨b.cols, b.rows, x, a.otherBuffer, b.activeBufferType, a.scrollbackLimit, cur, pen, cs, ac, tabs,
        im, om, aw, nl, ck, pw, tm, bm, sc, asc, d, b.xtwinops⟩
      ⟨b.cols, b.rows, y, b.otherBuffer, b.activeBufferType, b.scrollbackLimit, cur, pen, cs, ac, tabs,
        im, om, aw, nl, ck, pw, tm, bm, sc, asc, e, b.xtwinops⟩ :=
  { buf := hb, other := R.other, dirty := hd, abt := R.activeBufferType ▸ R.abt, slA := R.slA, slB := R.slB
    stale := R.cols ▸ R.rows ▸ R.stale, xtw := R.xtwinops ▸ R.xtw, geoC := hgc, geoR := hgr, vlen := hv
    ovlen := R.ovlen, limA := hl, limO := R.limO
    cols := rfl, rows := rfl, activeBufferType := rfl, cursor := rfl, pen := rfl, charsets := rfl
    activeCharset := rfl, tabs := rfl, insertMode := rfl, originMode := rfl, autoWrapMode := rfl
    newLineMode := rfl, cursorKeysMode := rfl, pendingWrap := rfl, topMargin := rfl, bottomMargin := rfl
    savedCtx := rfl, alternateSavedCtx := rfl, xtwinops := rfl }

theorem Rel.upd (R : Rel P a b) {x y : Buffer} (hb : BRel P.s P.pa x y) (hk : Keep a.buffer x)
    {d e : List Bool} (hd : d.length = e.length)
    {cur : Cursor} {pen : Pen} {cs : Charset × Charset} {ac : Nat} {tabs : List Nat}
    {im om aw nl : Bool} {ck : CursorKeysMode} {pw : Bool} {tm bm : Nat} {sc asc : SavedCtx} :
    Rel P
      ⟨b.cols, b.rows, x, a.otherBuffer, b.activeBufferType, a.scrollbackLimit, cur, pen, cs, ac, tabs,
        im, om, aw, nl, ck, pw, tm, bm, sc, asc, d, b.xtwinops⟩
      ⟨b.cols, b.rows, y, b.otherBuffer, b.activeBufferType, b.scrollbackLimit, cur, pen, cs, ac, tabs,
        im, om, aw, nl, ck, pw, tm, bm, sc, asc, e, b.xtwinops⟩ :=
  R.updG P.g hb hd (fun hg => hk.cols.trans ((R.geoC hg).trans R.cols))
    (fun hg => hk.rows.trans ((R.geoR hg).trans R.rows)) (hk.vlen.trans (R.vlen.trans hk.rows.symm))
    (hk.limit.trans R.limA)

theorem Rel.scalars (R : Rel P a b)
    {cur : Cursor} {pen : Pen} {cs : Charset × Charset} {ac : Nat} {tabs : List Nat}
    {im om aw nl : Bool} {ck : CursorKeysMode} {pw : Bool} {tm bm : Nat} {sc asc : SavedCtx} :
    Rel P
      ⟨b.cols, b.rows, a.buffer, a.otherBuffer, b.activeBufferType, a.scrollbackLimit, cur, pen, cs, ac, tabs,
        im, om, aw, nl, ck, pw, tm, bm, sc, asc, a.dirtyLines, b.xtwinops⟩
      ⟨b.cols, b.rows, b.buffer, b.otherBuffer, b.activeBufferType, b.scrollbackLimit, cur, pen, cs, ac, tabs,
        im, om, aw, nl, ck, pw, tm, bm, sc, asc, b.dirtyLines, b.xtwinops⟩ :=
  R.upd R.buf (Keep.refl _) R.dirty

theorem Rel.self {t : Terminal} (s g : Bool) {L : Option Nat} {T : BufferType}
    (hL : t.scrollbackLimit = L) (hT : t.activeBufferType = T) (hx : t.xtwinops = false)
    (hc : g = true → t.buffer.cols = t.cols) (hr : g = true → t.buffer.rows = t.rows)
    (hv : t.buffer.view.length = t.buffer.rows) (hov : t.otherBuffer.view.length = t.otherBuffer.rows)
    (hl : t.buffer.limit = Par.activeLimit ⟨s, g, L, T, [], []⟩)
    (hlo : T = .alternate → t.otherBuffer.limit = L.map Buffer.mkLimit) :
    Rel ⟨s, g, L, T, [], []⟩ t t :=
  { buf := BRel.refl _ _, other := BRel.refl _ _, dirty := rfl, abt := hT, slA := hL
    slB := fun _ => hL, stale := fun _ => rfl, xtw := hx, geoC := hc, geoR := hr, vlen := hv
    ovlen := hov, limA := hl, limO := hlo
    cols := rfl, rows := rfl, activeBufferType := rfl, cursor := rfl, pen := rfl, charsets := rfl
    activeCharset := rfl, tabs := rfl, insertMode := rfl, originMode := rfl, autoWrapMode := rfl
    newLineMode := rfl, cursorKeysMode := rfl, pendingWrap := rfl, topMargin := rfl, bottomMargin := rfl
    savedCtx := rfl, alternateSavedCtx := rfl, xtwinops := rfl }

theorem saveCursor_rel (R : Rel P a b) : RelO P a.saveCursor b.saveCursor := by
  unfold Terminal.saveCursor
  scal R
  exact RelO.mapSame _ fun _ => R.scalars

theorem restoreCursor_rel (R : Rel P a b) : Rel P a.restoreCursor b.restoreCursor := by
  unfold Terminal.restoreCursor
  scal R
  exact R.scalars

theorem doMoveCursorToCol_rel (R : Rel P a b) (c : Nat) :
    Rel P (a.doMoveCursorToCol c) (b.doMoveCursorToCol c) := by
  unfold Terminal.doMoveCursorToCol
  scal R
  exact R.scalars

theorem moveCursorToCol_rel (R : Rel P a b) (c : Nat) :
    RelO P (a.moveCursorToCol c) (b.moveCursorToCol c) := by
  unfold Terminal.moveCursorToCol
  scal R
  exact ite_rel (Q := RelO P) (fun _ => RelO.mapSame _ fun _ => doMoveCursorToCol_rel R _)
    (fun _ => doMoveCursorToCol_rel R _)

theorem doMoveCursorToRow_rel (R : Rel P a b) (r : Nat) :
    RelO P (a.doMoveCursorToRow r) (b.doMoveCursorToRow r) := by
  unfold Terminal.doMoveCursorToRow
  scal R
  exact RelO.mapSame _ fun _ => R.scalars

theorem actualTopMargin_eq (R : Rel P a b) : a.actualTopMargin = b.actualTopMargin := by
  unfold Terminal.actualTopMargin
  scal R

theorem actualBottomMargin_eq (R : Rel P a b) : a.actualBottomMargin = b.actualBottomMargin := by
  unfold Terminal.actualBottomMargin
  scal R

theorem moveCursorToRow_rel (R : Rel P a b) (r : Nat) :
    RelO P (a.moveCursorToRow r) (b.moveCursorToRow r) := by
  unfold Terminal.moveCursorToRow
  rw [actualTopMargin_eq R, actualBottomMargin_eq R]
  -- `simp only []` rewrites nothing: it reduces the `let` that `unfold` keeps at the head of the body
  -- (in `il` / `dl` the `match` on the pair), so that the `cases`, `rw` or `refine bindT` that follows
  -- meets the term it is aimed at.  The `try` matters in `decstbm_rel` only, where `scal R` has done it.
  try simp only []
  cases b.actualBottomMargin with
  | none => trivial
  | some bottom => exact doMoveCursorToRow_rel R _

theorem moveCursorToRelCol_rel (R : Rel P a b) (rel : Int) :
    RelO P (a.moveCursorToRelCol rel) (b.moveCursorToRelCol rel) := by
  unfold Terminal.moveCursorToRelCol
  scal R
  refine ite_rel (Q := RelO P) (fun _ => doMoveCursorToCol_rel R _) (fun _ => ?_)
  exact ite_rel (Q := RelO P) (fun _ => RelO.mapSame _ fun _ => doMoveCursorToCol_rel R _)
    (fun _ => doMoveCursorToCol_rel R _)

theorem moveCursorHome_rel (R : Rel P a b) : RelO P a.moveCursorHome b.moveCursorHome := by
  unfold Terminal.moveCursorHome
  have R1 := doMoveCursorToCol_rel R 0
  try simp only []
  rw [actualTopMargin_eq R1]
  exact doMoveCursorToRow_rel R1 _

theorem moveCursorToNextTab_rel (R : Rel P a b) (n : Nat) :
    RelO P (a.moveCursorToNextTab n) (b.moveCursorToNextTab n) := by
  unfold Terminal.moveCursorToNextTab
  scal R
  cases Tabs.after b.tabs b.cursor.col n <;> cases csub b.cols 1 <;>
    first | trivial | exact moveCursorToCol_rel R _

theorem moveCursorToPrevTab_rel (R : Rel P a b) (n : Nat) :
    RelO P (a.moveCursorToPrevTab n) (b.moveCursorToPrevTab n) := by
  unfold Terminal.moveCursorToPrevTab
  scal R
  cases Tabs.before b.tabs b.cursor.col n <;>
    first | trivial | exact moveCursorToCol_rel R _

theorem cursorDown_rel (R : Rel P a b) (n : Nat) : RelO P (a.cursorDown n) (b.cursorDown n) := by
  unfold Terminal.cursorDown
  scal R
  refine ite_rel (Q := RelO P) (fun _ => ?_) (fun _ => doMoveCursorToRow_rel R _)
  cases csub b.rows 1 with
  | none => trivial
  | some r1 => exact doMoveCursorToRow_rel R _

theorem cursorUp_rel (R : Rel P a b) (n : Nat) : RelO P (a.cursorUp n) (b.cursorUp n) := by
  unfold Terminal.cursorUp
  scal R
  exact doMoveCursorToRow_rel R _

theorem setTab_rel (R : Rel P a b) : Rel P a.setTab b.setTab := by
  unfold Terminal.setTab
  scal R
  exact ite_rel (Q := Rel P) (fun _ => R.scalars) (fun _ => R)

theorem clearTab_rel (R : Rel P a b) : Rel P a.clearTab b.clearTab := by
  unfold Terminal.clearTab
  scal R
  exact R.scalars

theorem clearAllTabs_rel (R : Rel P a b) : Rel P a.clearAllTabs b.clearAllTabs := by
  unfold Terminal.clearAllTabs
  scal R
  exact R.scalars

theorem markDirty_rel (R : Rel P a b) (row : Nat) : RelO P (a.markDirty row) (b.markDirty row) := by
  unfold Terminal.markDirty
  scal R
  exact dirtyAdd_map R.dirty _ fun d e h => R.upd R.buf (Keep.refl _) h

theorem markDirtyRange_rel (R : Rel P a b) (lo hi : Nat) :
    RelO P (a.markDirtyRange lo hi) (b.markDirtyRange lo hi) := by
  unfold Terminal.markDirtyRange
  scal R
  exact dirtyExtend_map R.dirty _ _ fun d e h => R.upd R.buf (Keep.refl _) h

theorem setBuffer_rel (R : Rel P a b) {x y : Buffer} (hb : BRel P.s P.pa x y) (hk : Keep a.buffer x) :
    Rel P { a with buffer := x } { b with buffer := y } :=
  { R with
    buf := hb
    geoC := fun hg => hk.cols.trans (R.geoC hg)
    geoR := fun hg => hk.rows.trans (R.geoR hg)
    vlen := hk.vlen.trans (R.vlen.trans hk.rows.symm)
    limA := hk.limit.trans R.limA }

theorem scrollUpInRegion_rel (R : Rel P a b) (n : Nat) :
    RelO P (a.scrollUpInRegion n) (b.scrollUpInRegion n) := by
  unfold Terminal.scrollUpInRegion
  scal R
  refine bindB (Q := RelO P) (scrollUp_rel R.buf _ _ _ _) trivial fun x y hb hk => ?_
  exact dirtyExtend_map R.dirty _ _ fun d e h => R.upd hb hk h

theorem scrollDownInRegion_rel (R : Rel P a b) (n : Nat) :
    RelO P (a.scrollDownInRegion n) (b.scrollDownInRegion n) := by
  unfold Terminal.scrollDownInRegion
  scal R
  refine bindB (Q := RelO P) (scrollDown_rel R.buf _ _ _ _) trivial fun x y hb hk => ?_
  exact dirtyExtend_map R.dirty _ _ fun d e h => R.upd hb hk h

theorem moveCursorDownWithScroll_rel (R : Rel P a b) :
    RelO P a.moveCursorDownWithScroll b.moveCursorDownWithScroll := by
  unfold Terminal.moveCursorDownWithScroll
  scal R
  refine ite_rel (Q := RelO P) (fun _ => scrollUpInRegion_rel R _) (fun _ => ?_)
  cases csub b.rows 1 with
  | none => trivial
  | some r1 => exact ite_rel (Q := RelO P) (fun _ => doMoveCursorToRow_rel R _) (fun _ => R)

theorem lf_rel (R : Rel P a b) : RelO P a.lf b.lf := by
  unfold Terminal.lf
  refine RelO.map (moveCursorDownWithScroll_rel R) fun a' b' R' => ?_
  rw [R'.newLineMode]
  exact ite_rel (Q := Rel P) (fun _ => doMoveCursorToCol_rel R' _) (fun _ => R')

theorem nel_rel (R : Rel P a b) : RelO P a.nel b.nel := by
  unfold Terminal.nel
  exact RelO.map (moveCursorDownWithScroll_rel R) fun a' b' R' => doMoveCursorToCol_rel R' _

theorem ri_rel (R : Rel P a b) : RelO P a.ri b.ri := by
  unfold Terminal.ri
  scal R
  refine ite_rel (Q := RelO P) (fun _ => scrollDownInRegion_rel R _) (fun _ => ?_)
  exact ite_rel (Q := RelO P) (fun _ => doMoveCursorToRow_rel R _) (fun _ => R)

theorem bs_rel (R : Rel P a b) : RelO P a.bs b.bs := by
  unfold Terminal.bs
  scal R
  exact ite_rel (Q := RelO P) (fun _ => moveCursorToRelCol_rel R _) (fun _ => moveCursorToRelCol_rel R _)

theorem cub_rel (R : Rel P a b) (n : Nat) : RelO P (a.cub n) (b.cub n) := by
  unfold Terminal.cub
  scal R
  exact moveCursorToRelCol_rel R _

theorem cup_rel (R : Rel P a b) (r c : Nat) : RelO P (a.cup r c) (b.cup r c) := by
  unfold Terminal.cup
  exact bindT (Q := RelO P) (moveCursorToCol_rel R _) trivial fun a' b' R' => moveCursorToRow_rel R' _

theorem eraseWith_rel (R : Rel P a b) (mode : Buffer.EraseMode) :
    RelO P (a.eraseWith mode) (b.eraseWith mode) := by
  unfold Terminal.eraseWith
  scal R
  exact mapB (erase_rel R.buf _ _ _ _) fun x y hb hk => R.upd hb hk R.dirty

theorem ed_rel (R : Rel P a b) (s : EdScope) : RelO P (a.ed s) (b.ed s) := by
  cases s with
  | below =>
    simp only [Terminal.ed]
    refine bindT (Q := RelO P) (eraseWith_rel R _) trivial fun a' b' R' => ?_
    rw [R'.cursor, R'.rows]; exact markDirtyRange_rel R' _ _
  | above =>
    simp only [Terminal.ed]
    refine bindT (Q := RelO P) (eraseWith_rel R _) trivial fun a' b' R' => ?_
    rw [R'.cursor]; exact markDirtyRange_rel R' _ _
  | all =>
    simp only [Terminal.ed]
    refine bindT (Q := RelO P) (eraseWith_rel R _) trivial fun a' b' R' => ?_
    rw [R'.rows]; exact markDirtyRange_rel R' _ _
  | savedLines => exact R

theorem el_rel (R : Rel P a b) (s : ElScope) : RelO P (a.el s) (b.el s) := by
  unfold Terminal.el
  try simp only []
  refine bindT (Q := RelO P) (eraseWith_rel R _) trivial fun a' b' R' => ?_
  rw [R'.cursor]; exact markDirty_rel R' _

theorem ech_rel (R : Rel P a b) (n : Nat) : RelO P (a.ech n) (b.ech n) := by
  unfold Terminal.ech
  refine bindT (Q := RelO P) (eraseWith_rel R _) trivial fun a' b' R' => ?_
  rw [R'.cursor]; exact markDirty_rel R' _

theorem ich_rel (R : Rel P a b) (n : Nat) : RelO P (a.ich n) (b.ich n) := by
  unfold Terminal.ich
  scal R
  refine bindB (Q := RelO P) (insert_rel R.buf _ _ _ _) trivial fun x y hb hk => ?_
  exact markDirty_rel (R.upd hb hk R.dirty) _

theorem ilRange_eq (R : Rel P a b) : a.ilRange = b.ilRange := by
  unfold Terminal.ilRange
  scal R

theorem il_rel (R : Rel P a b) (n : Nat) : RelO P (a.il n) (b.il n) := by
  unfold Terminal.il
  rw [ilRange_eq R]
  scal R
  generalize b.ilRange = rg
  obtain ⟨lo, hi⟩ := rg
  try simp only []
  refine bindB (Q := RelO P) (scrollDown_rel R.buf _ _ _ _) trivial fun x y hb hk => ?_
  exact markDirtyRange_rel (R.upd hb hk R.dirty) _ _

theorem dl_rel (R : Rel P a b) (n : Nat) : RelO P (a.dl n) (b.dl n) := by
  unfold Terminal.dl
  rw [ilRange_eq R]
  scal R
  generalize b.ilRange = rg
  obtain ⟨lo, hi⟩ := rg
  try simp only []
  refine bindB (Q := RelO P) (scrollUp_rel R.buf _ _ _ _) trivial fun x y hb hk => ?_
  exact markDirtyRange_rel (R.upd hb hk R.dirty) _ _

theorem dch_rel (R : Rel P a b) (n : Nat) : RelO P (a.dch n) (b.dch n) := by
  unfold Terminal.dch
  scal R
  refine bindT (P := P) (Q := RelO P) ?_ trivial fun a' b' R' => ?_
  · refine ite_rel (Q := RelO P) (fun _ => ?_) (fun _ => R)
    cases csub b.cols 1 with
    | none => trivial
    | some c1 => exact moveCursorToCol_rel R _
  · scal R'
    refine bindB (Q := RelO P) (delete_rel R'.buf _ _ _ _) trivial fun x y hb hk => ?_
    exact markDirty_rel (R'.upd hb hk R'.dirty) _

theorem ctc_rel (R : Rel P a b) (op : CtcOp) : Rel P (a.ctc op) (b.ctc op) := by
  cases op <;> simp only [Terminal.ctc]
  · exact setTab_rel R
  · exact clearTab_rel R
  · exact clearAllTabs_rel R

theorem tbc_rel (R : Rel P a b) (s : TbcScope) : Rel P (a.tbc s) (b.tbc s) := by
  cases s <;> simp only [Terminal.tbc]
  · exact clearTab_rel R
  · exact clearAllTabs_rel R

theorem foldl_rel {α} {f : Terminal → α → Terminal}
    (hf : ∀ {a b : Terminal} (m : α), Rel P a b → Rel P (f a m) (f b m)) (ms : List α) (R : Rel P a b) :
    Rel P (ms.foldl f a) (ms.foldl f b) := by
  induction ms generalizing a b with
  | nil => exact R
  | cons m ms ih => exact ih (hf m R)

theorem sm_rel (R : Rel P a b) (ms : List AnsiMode) : Rel P (a.sm ms) (b.sm ms) :=
  foldl_rel (fun m R => by scal R; cases m <;> exact R.scalars) ms R

theorem rm_rel (R : Rel P a b) (ms : List AnsiMode) : Rel P (a.rm ms) (b.rm ms) :=
  foldl_rel (fun m R => by scal R; cases m <;> exact R.scalars) ms R

theorem sgr_rel (R : Rel P a b) (ops : List SgrOp) : Rel P (a.sgr ops) (b.sgr ops) := by
  unfold Terminal.sgr
  scal R
  exact R.scalars

theorem decstbm_rel (R : Rel P a b) (top bottom : Nat) :
    RelO P (a.decstbm top bottom) (b.decstbm top bottom) := by
  unfold Terminal.decstbm
  scal R
  try simp only []
  cases csub (asUsize bottom b.rows) 1 with
  | none => trivial
  | some bot =>
    exact moveCursorHome_rel (ite_rel (Q := Rel P) (fun _ => R.scalars) (fun _ => R))

theorem softReset_rel (R : Rel P a b) : RelO P a.softReset b.softReset := by
  unfold Terminal.softReset
  scal R
  exact RelO.mapSame _ fun _ => R.scalars

theorem xtwinopsF_rel (R : Rel P a b) (c r : Nat) : RelO P (a.xtwinopsF c r) (b.xtwinopsF c r) := by
  unfold Terminal.xtwinopsF
  rw [← R.xtwinops, R.xtw]
  exact R

theorem activeCharsetValue_eq (R : Rel P a b) : a.activeCharsetValue = b.activeCharsetValue := by
  unfold Terminal.activeCharsetValue
  scal R

theorem printWrapPhase_rel (R : Rel P a b) : RelO P a.printWrapPhase b.printWrapPhase := by
  unfold Terminal.printWrapPhase Terminal.wrapAtBottom Terminal.wrapElsewhere
  rw [R.autoWrapMode, R.pendingWrap]
  refine ite_rel (Q := RelO P) (fun _ => ?_) (fun _ => R)
  have R0 := doMoveCursorToCol_rel R 0
  dsimp only
  generalize a.doMoveCursorToCol 0 = a0 at R0 ⊢
  generalize b.doMoveCursorToCol 0 = b0 at R0 ⊢
  scal R0
  refine ite_rel (Q := RelO P) (fun _ => ?_) (fun _ => ?_)
  · refine bindB (Q := RelO P) (wrap_rel R0.buf _) trivial fun x y hb hk => ?_
    refine bindT (Q := RelO P) (scrollUpInRegion_rel (R0.upd hb hk R0.dirty) _) trivial fun a' b' R' => ?_
    scal R'
    cases csub b'.rows 1 with
    | none => trivial
    | some r1 =>
      refine ite_rel (Q := RelO P) (fun _ => ?_) (fun _ => R')
      cases csub b'.bottomMargin 1 with
      | none => trivial
      | some bm1 => exact mapB (wrap_rel R'.buf _) fun x y hb hk => R'.upd hb hk R'.dirty
  · cases csub b0.rows 1 with
    | none => trivial
    | some r1 =>
      refine ite_rel (Q := RelO P) (fun _ => ?_) (fun _ => R0)
      refine bindB (Q := RelO P) (wrap_rel R0.buf _) trivial fun x y hb hk => ?_
      exact doMoveCursorToRow_rel (R0.upd hb hk R0.dirty) _

theorem printCellPhase_rel (R : Rel P a b) (cell : Cell) : RelO P (a.printCellPhase cell) (b.printCellPhase cell) := by
  unfold Terminal.printCellPhase
  scal R
  refine ite_rel (Q := RelO P) (fun _ => ?_) (fun _ => ?_)
  · cases csub b.cols 1 with
    | none => trivial
    | some c1 =>
      refine bindB (Q := RelO P) (print_rel R.buf _ _ _) trivial fun x y hb hk => ?_
      exact ite_rel (Q := RelO P) (fun _ => R.upd hb hk R.dirty) (fun _ => R.upd hb hk R.dirty)
  · refine bindB (Q := RelO P) ?_ trivial fun x y hb hk => doMoveCursorToCol_rel (R.upd hb hk R.dirty) _
    exact ite_rel (Q := BRelO P.s P.pa a.buffer) (fun _ => insert_rel R.buf _ _ _ _) (fun _ => print_rel R.buf _ _ _)

theorem print_rel' (R : Rel P a b) (ch : Nat) : RelO P (a.print ch) (b.print ch) := by
  rw [Terminal.print_eq, Terminal.print_eq, activeCharsetValue_eq R, R.pen]
  cases b.activeCharsetValue with
  | none => trivial
  | some cs =>
    simp only []
    cases cs.translate ch with
    | none => trivial
    | some ch' =>
      refine bindT (Q := RelO P) (printWrapPhase_rel R) trivial fun a1 b1 R1 => ?_
      refine bindT (Q := RelO P) (printCellPhase_rel R1 _) trivial fun a2 b2 R2 => ?_
      rw [R2.cursor]
      exact markDirty_rel R2 _

theorem printN_rel (R : Rel P a b) (ch k : Nat) : RelO P (a.printN ch k) (b.printN ch k) := by
  induction k generalizing a b with
  | zero => exact R
  | succ k ih =>
    simp only [Terminal.printN]
    exact bindT (Q := RelO P) (print_rel' R ch) trivial fun a' b' R' => ih R'

theorem rep_rel (R : Rel P a b) (n : Nat) : RelO P (a.rep n) (b.rep n) := by
  unfold Terminal.rep
  rw [R.buf.view]
  scal R
  refine ite_rel (Q := RelO P) (fun _ => ?_) (fun _ => R)
  cases b.buffer.view[b.cursor.row]? with
  | none => trivial
  | some line =>
    simp only []
    cases line.cells[b.cursor.col - 1]? with
    | none => trivial
    | some cell => exact printN_rel R _ _

theorem decalnCols_rel {s p x0 x y} (h : BRel s p x y) (hk : Keep x0 x) (row col j : Nat) :
    BRelO s p x0 (Terminal.decalnCols x row col j) (Terminal.decalnCols y row col j) := by
  induction j generalizing x y col with
  | zero => exact ⟨h, hk⟩
  | succ j ih =>
    simp only [Terminal.decalnCols]
    rcases (print_rel h col row ⟨0x45, Pen.default⟩).elim with ⟨hx, hy⟩ | ⟨x', y', hx, hy, h', k'⟩
    · simp only [hx, hy]; trivial
    · simp only [hx, hy]; exact ih h' (hk.trans k') _

theorem decalnRows_rel (R : Rel P a b) (row k : Nat) :
    RelO P (Terminal.decalnRows a row k) (Terminal.decalnRows b row k) := by
  induction k generalizing a b row with
  | zero => exact R
  | succ k ih =>
    simp only [Terminal.decalnRows]
    scal R
    refine bindB (Q := RelO P) (decalnCols_rel R.buf (Keep.refl _) _ _ _) trivial fun x y hb hk => ?_
    exact bindT (Q := RelO P) (markDirty_rel (R.upd hb hk R.dirty) _) trivial
      fun a' b' R' => ih R' _

theorem decaln_rel (R : Rel P a b) : RelO P a.decaln b.decaln := by
  unfold Terminal.decaln
  rw [R.rows]
  exact decalnRows_rel R _ _

end
end Avt.Frame
