/-
  Avt.Lemmas.TermResize — `Terminal.reflow` and `Terminal.resize` read once.
  `reflow` is `Buffer.resize` at the terminal's size followed by one record update
  (`Terminal.reflowed`), and it fails besides only on an empty screen; `resize` is `reflow` of an
  explicit record (`Terminal.resized`).  Both are unconditional equations, so a fact about either
  function is a fact about `Buffer.resize` and a record.  After them `Vt.resize`.
-/
import Avt.Model.Vt
import Avt.Lemmas.Prim
import Avt.Lemmas.FoldM
import Avt.Lemmas.Dirty

namespace Avt

/-- the tab stops after `Terminal::resize` from width `cols` to width `cols'` -/
def Tabs.resized (tabs : List Nat) (cols cols' : Nat) : List Nat :=
  if cols' < cols then Tabs.contract tabs cols'
  else if cols' > cols then Tabs.expand tabs cols cols' else tabs

namespace Terminal

/-- what `reflow` returns once `Buffer.resize` has produced `b` and the cursor position `cur`:
    a change of width drops the pending wrap, every row is flagged, the saved position is clamped
    into the screen -/
def reflowed (t : Terminal) (b : Buffer) (cur : Nat × Nat) : Terminal :=
  { t with buffer := b, cursor := { t.cursor with col := cur.1, row := cur.2 },
           dirtyLines := List.replicate t.rows true,
           pendingWrap := if t.cols ≠ t.buffer.cols then false else t.pendingWrap,
           savedCtx := { t.savedCtx with cursorCol := min t.savedCtx.cursorCol (t.cols - 1),
                                         cursorRow := min t.savedCtx.cursorRow (t.rows - 1) } }

/-- a clamping stage (`if x >= n { x = n - 1 }`, the subtraction checked) in closed form -/
theorem clamp_closed {α} (x n : Nat) (g : Nat → α) :
    (if x ≥ n then (csub n 1).map g else some (g x))
      = if 1 ≤ n then some (g (min x (n - 1))) else none := by
  by_cases hn : 1 ≤ n
  · rw [if_pos hn, csub_eq_some hn]
    split
    · rw [Nat.min_eq_right (by omega)]; rfl
    · rw [Nat.min_eq_left (by omega)]
  · rw [if_neg hn, if_pos (by omega)]
    simp [csub, hn]

/-- `reflow` is `Buffer.resize` at the terminal's size, then `reflowed`; the two clamping stages
    subtract 1 from `cols` and `rows`, so it fails besides exactly on an empty screen -/
theorem reflow_eq (t : Terminal) :
    t.reflow =
      if 1 ≤ t.cols ∧ 1 ≤ t.rows then
        (t.buffer.resize t.cols t.rows (t.cursor.col, t.cursor.row)).map fun p => t.reflowed p.1 p.2
      else none := by
  have e : (if t.cols ≠ t.buffer.cols then ({ t with pendingWrap := false } : Terminal) else t)
      = { t with pendingWrap := if t.cols ≠ t.buffer.cols then false else t.pendingWrap } := by
    split <;> rfl
  unfold reflow
  simp only [e]
  cases t.buffer.resize t.cols t.rows (t.cursor.col, t.cursor.row) with
  | none => simp
  | some p =>
    obtain ⟨b, col, row⟩ := p
    simp only [markDirtyRange, Dirty.resize_extend, Option.map_some]
    rw [clamp_closed t.savedCtx.cursorCol t.cols
      (fun c => ({ t with pendingWrap := if t.cols ≠ t.buffer.cols then false else t.pendingWrap,
                          buffer := b, cursor := { t.cursor with col := col, row := row },
                          dirtyLines := List.replicate t.rows true,
                          savedCtx := { t.savedCtx with cursorCol := c } } : Terminal))]
    by_cases hc : 1 ≤ t.cols
    · rw [if_pos hc]
      simp only [hc, true_and]
      exact clamp_closed t.savedCtx.cursorRow t.rows
        (fun r => ({ t with pendingWrap := if t.cols ≠ t.buffer.cols then false else t.pendingWrap,
                            buffer := b, cursor := { t.cursor with col := col, row := row },
                            dirtyLines := List.replicate t.rows true,
                            savedCtx := { t.savedCtx with
                              cursorCol := min t.savedCtx.cursorCol (t.cols - 1), cursorRow := r } } : Terminal))
    · rw [if_neg hc, if_neg (fun h => hc h.1)]

/-- the same, read from a successful run -/
theorem reflow_eq_some {t t' : Terminal} :
    t.reflow = some t' ↔ 1 ≤ t.cols ∧ 1 ≤ t.rows ∧
      ∃ b cur, t.buffer.resize t.cols t.rows (t.cursor.col, t.cursor.row) = some (b, cur)
        ∧ t' = t.reflowed b cur := by
  rw [reflow_eq]
  constructor
  · intro h
    split at h
    · rename_i hcr
      obtain ⟨p, hp, rfl⟩ := Option.map_eq_some_iff.1 h
      exact ⟨hcr.1, hcr.2, p.1, p.2, hp, rfl⟩
    · cases h
  · rintro ⟨hc, hr, b, cur, hres, rfl⟩
    rw [if_pos ⟨hc, hr⟩, hres]; rfl

/-- the state `resize` hands to `reflow`: new size, tab stops moved, margins reset when the height
    changes; the active buffer still has the old geometry -/
def resized (t : Terminal) (cols rows : Nat) : Terminal :=
  { t with tabs := Tabs.resized t.tabs t.cols cols, cols := cols, rows := rows,
           topMargin := if rows ≠ t.rows then 0 else t.topMargin,
           bottomMargin := if rows ≠ t.rows then rows - 1 else t.bottomMargin }

/-- `resize` is `reflow` of `resized`: the checked `rows - 1` of the margin reset fails only when
    `reflow` fails too -/
theorem resize_eq (t : Terminal) (cols rows : Nat) : t.resize cols rows = (t.resized cols rows).reflow := by
  have e : (if cols < t.cols then { t with tabs := Tabs.contract t.tabs cols }
           else if cols > t.cols then { t with tabs := Tabs.expand t.tabs t.cols cols } else t)
      = { t with tabs := Tabs.resized t.tabs t.cols cols } := by
    unfold Tabs.resized
    split
    · rfl
    · split <;> rfl
  unfold resize
  simp only [e]
  by_cases hr : rows = t.rows
  · simp only [resized, hr, ne_eq, not_true_eq_false, if_false]
  · by_cases h1 : 1 ≤ rows
    · simp only [resized, ne_eq, hr, not_false_eq_true, if_true, csub_eq_some h1, Option.map_some]
    · have : (t.resized cols rows).reflow = none := by
        rw [reflow_eq]; exact if_neg fun h => h1 h.2
      rw [this]
      simp [hr, csub, h1]

theorem resize_eq_some {t t' : Terminal} {c r : Nat} :
    t.resize c r = some t' ↔ 1 ≤ c ∧ 1 ≤ r ∧
      ∃ b cur, t.buffer.resize c r (t.cursor.col, t.cursor.row) = some (b, cur)
        ∧ t' = (t.resized c r).reflowed b cur := by
  rw [resize_eq]; exact reflow_eq_some

end Terminal

/-- `Vt::resize` is `Terminal::resize` followed by `changes()` and `gc()` -/
theorem Vt.resize_eq_some {v v' : Vt} {c r : Nat} {ch : Changes} :
    v.resize c r = some (v', ch) ↔
      ∃ t, v.terminal.resize c r = some t ∧ Vt.finish { v with terminal := t } = (v', ch) :=
  Option.map_eq_some_iff

theorem Vt.resize_of_terminal {v : Vt} {c r : Nat} {t : Terminal} (h : v.terminal.resize c r = some t) :
    v.resize c r = some (Vt.finish { v with terminal := t }) :=
  congrArg (Option.map _) h

/-- the same with the tail in closed form: the new terminal is `finishT` of what `Terminal.resize` returns -/
theorem Vt.resize_terminal {v v' : Vt} {c r : Nat} {ch : Changes} (h : v.resize c r = some (v', ch)) :
    ∃ t, v.terminal.resize c r = some t ∧ v' = { v with terminal := Spec.finishT t }
      ∧ ch.lines = Dirty.toVec t.dirtyLines := by
  obtain ⟨t, ht, e⟩ := Vt.resize_eq_some.1 h
  cases e
  exact ⟨t, ht, rfl, rfl⟩

end Avt
