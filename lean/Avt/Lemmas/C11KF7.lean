/-
  Avt.Lemmas.C11KF7 — finding KF7, kernel-checked (NOT part of the default build: nothing imports this
  module; check it with `lake build Avt.Lemmas.C11KF7`; the check on the witness state is
  Lemmas/C11KF7Eval.lean).

  `C11_dump_full'` (the restore half with the exceptions KF1/KF2/KF3/KF6) is FALSE: the state of
  `kf7Hist` (C11Witness) is reachable, none of those exceptions applies, and its `dump()` does not restore it.
  The statement that holds is `Avt.Props.C11.C11_dump_full''` (`C11_dump_full''_holds`).
-/
import Avt.Props.C11
import Avt.Lemmas.C11KF7Eval

namespace Avt.Props.C11
open Avt Avt.Spec.C11 Avt.Lemmas.C11

/-- **`C11_dump_full'` is FALSE** (finding KF7) -/
theorem C11_dump_full'_false : ¬ C11_dump_full' := by
  obtain ⟨s, r, hs, hf, hres, hne⟩ := kf7Check_spec kf7_refutes
  exact C11_dump_full'_false_of_witness s r
    ⟨70000, 1, none, kf7Hist, by decide, by decide, resizes_valid (by decide), hs⟩
    hf hres hne

end Avt.Props.C11
