/-
  Avt.Lemmas.Dirty — the dirty flags: `Dirty.add` / `Dirty.extend` are `setAt` / `fillRange` on the flag
  list (closed forms under their bounds), `to_vec` lists exactly the flagged rows in increasing order,
  `resize` then `extend(0..rows)` flags every row; `Terminal.markDirty` / `markDirtyRange` in closed form.
-/
import Avt.Model.Vt
import Avt.Lemmas.Prim

namespace Avt

namespace Dirty

theorem add_eq {d : List Bool} {n : Nat} (h : n < d.length) : Dirty.add d n = some (d.set n true) :=
  setAt_eq_some _ h

theorem extend_eq {d : List Bool} {a b : Nat} (hab : a ≤ b) (hb : b ≤ d.length) :
    Dirty.extend d a b = some (d.take a ++ List.replicate (b - a) true ++ d.drop b) :=
  fillRange_eq_some _ hab hb

theorem add_ok {d : List Bool} {n : Nat} (h : n < d.length) :
    ∃ d', Dirty.add d n = some d' ∧ d'.length = d.length :=
  ⟨_, add_eq h, List.length_set ..⟩

theorem extend_ok {d : List Bool} {a b : Nat} (hab : a ≤ b) (hb : b ≤ d.length) :
    ∃ d', Dirty.extend d a b = some d' ∧ d'.length = d.length :=
  ⟨_, extend_eq hab hb, fillRange_length (extend_eq hab hb)⟩

theorem clear_eq (d : List Bool) : Dirty.clear d = List.replicate d.length false :=
  List.map_const' ..

theorem clear_length (d : List Bool) : (Dirty.clear d).length = d.length := by
  rw [clear_eq, List.length_replicate]

theorem clear_congr {a b : List Bool} (h : a.length = b.length) : Dirty.clear a = Dirty.clear b := by
  rw [clear_eq, clear_eq, h]

theorem new_length (n : Nat) : (Dirty.new n).length = n := by simp [Dirty.new]

theorem resize_length (d : List Bool) (len : Nat) : (Dirty.resize d len).length = len := by
  unfold Dirty.resize; split <;> simp <;> omega

/-- `dirty_lines.extend(0..rows)` flags every row, whatever was there -/
theorem extend_all {d : List Bool} {n : Nat} (h : d.length = n) :
    Dirty.extend d 0 n = some (List.replicate n true) := by
  rw [extend_eq (Nat.zero_le _) (Nat.le_of_eq h.symm)]
  simp [List.drop_of_length_le (Nat.le_of_eq h)]

/-- `dirty_lines.resize(rows); dirty_lines.extend(0..rows)` -/
theorem resize_extend (d : List Bool) (n : Nat) :
    Dirty.extend (Dirty.resize d n) 0 n = some (List.replicate n true) :=
  extend_all (resize_length d n)

theorem mem_toVecGo (d : List Bool) (i x : Nat) : x ∈ toVecGo d i ↔ i ≤ x ∧ d[x - i]? = some true := by
  induction d generalizing i with
  | nil => simp [toVecGo]
  | cons b bs ih =>
    have hrec : x ∈ toVecGo bs (i + 1) ↔ i + 1 ≤ x ∧ bs[x - (i + 1)]? = some true := ih (i + 1)
    rcases Nat.lt_trichotomy x i with hlt | heq | hgt
    · have h1 : ¬ (i + 1 ≤ x) := by omega
      have h2 : x ≠ i := by omega
      simp only [toVecGo]
      split <;> simp [hrec, h1, h2] <;> omega
    · subst heq
      have h1 : ¬ (x + 1 ≤ x) := by omega
      simp only [toVecGo]
      cases b <;> simp [hrec, h1]
    · have e : x - i = (x - (i + 1)) + 1 := by omega
      have h1 : i + 1 ≤ x := by omega
      have h2 : x ≠ i := by omega
      have h3 : i ≤ x := by omega
      simp only [toVecGo]
      split <;> simp [hrec, e, h1, h2, h3]

/-- `to_vec` lists exactly the rows whose flag is set -/
theorem mem_toVec (d : List Bool) (x : Nat) : x ∈ toVec d ↔ d[x]? = some true := by
  simp [toVec, mem_toVecGo]

theorem toVecGo_sorted (d : List Bool) (i : Nat) : (toVecGo d i).Pairwise (· < ·) := by
  induction d generalizing i with
  | nil => exact .nil
  | cons b bs ih =>
    simp only [toVecGo]
    split
    · exact List.pairwise_cons.2 ⟨fun x hx => ((mem_toVecGo bs (i + 1) x).1 hx).1, ih _⟩
    · exact ih _

end Dirty

namespace Terminal

theorem markDirty_eq {t : Terminal} {row : Nat} (h : row < t.dirtyLines.length) :
    t.markDirty row = some { t with dirtyLines := t.dirtyLines.set row true } :=
  congrArg (Option.map _) (Dirty.add_eq h)

theorem markDirtyRange_eq {t : Terminal} {a b : Nat} (hab : a ≤ b) (hb : b ≤ t.dirtyLines.length) :
    t.markDirtyRange a b = some
      { t with dirtyLines := t.dirtyLines.take a ++ List.replicate (b - a) true ++ t.dirtyLines.drop b } :=
  congrArg (Option.map _) (Dirty.extend_eq hab hb)

end Terminal

end Avt
