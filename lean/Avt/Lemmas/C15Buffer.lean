/-
  Avt.Lemmas.C15Buffer — which view rows a buffer operation can change (cells only; wrap marks are
  not cells).  `BChg S b b'`: same number of rows, and every row `i < rows` outside `S` has the same
  cells in `b'` as in `b`.  First, what a scroll that returned did (`Buffer.scrollUp_cases`,
  `scrollDown_cases`): the observations made from success alone (here, and the cell predicate of
  C08Cells) read the scrolls off these; without `view.length = rows` the paths of `scrollUp` are not
  one formula, so the closed forms of Lemmas/C06Buffer do not serve them.
-/
import Avt.Lemmas.Paint

namespace Avt.Buffer

/-- What a `scroll_up` that returned did, `m ≤ e - s` lines far: row `e - 1` loses its wrap mark unless it is
    the last row; then, from row 0, `m` blank lines are put in after row `e` (at the end if `e = rows`) and
    the first `m` lines go to the scrollback; from a row below, row `s - 1` loses its mark, rows `s..e`
    rotate and the last `m` of them are cleared. -/
theorem scrollUp_cases {b b' : Buffer} {s e n : Nat} {pen : Pen} (h : b.scrollUp s e n pen = some b') :
    ∃ m b1, m ≤ e - s ∧ (if e - 1 < b.rows - 1 then b.unwrapRow (e - 1) else some b) = some b1 ∧
      ((s = 0 ∧ e = b1.rows ∧ ∃ all, all = b1.view ++ List.replicate m (Line.blank b1.cols pen) ∧
          b' = { b1 with sb := b1.sb ++ all.take m, view := all.drop m, trimNeeded := true })
        ∨ (s = 0 ∧ e ≤ b1.view.length ∧
            ∃ all, all = b1.view.take e ++ List.replicate m (Line.blank b1.cols pen) ++ b1.view.drop e ∧
              b' = { b1 with sb := b1.sb ++ all.take m, view := all.drop m, trimNeeded := true })
        ∨ ∃ b2 v b3, b1.unwrapRow (s - 1) = some b2 ∧ rotLRange b2.view s e m = some v ∧
            ({ b2 with view := v } : Buffer).clear (e - m) e pen = some b3 ∧ b' = { b3 with trimNeeded := true }) := by
  unfold Buffer.scrollUp at h
  split at h
  · rename_i hh e1 r1 hh' he1 hr1
    obtain ⟨-, rfl⟩ := csub_eq_some_iff.1 hh'
    obtain ⟨-, rfl⟩ := csub_eq_some_iff.1 he1
    obtain ⟨-, rfl⟩ := csub_eq_some_iff.1 hr1
    dsimp only at h
    have hm : min n (e - s) ≤ e - s := Nat.min_le_right _ _
    generalize min n (e - s) = m at h hm
    split at h
    · cases h
    · rename_i b1 hb1
      refine ⟨m, b1, hm, hb1, ?_⟩
      split at h
      · rename_i hs
        split at h
        · rename_i he
          cases h; exact .inl ⟨hs, he, _, rfl, rfl⟩
        · split at h
          · rename_i he
            cases h; exact .inr (.inl ⟨hs, he.2, _, rfl, rfl⟩)
          · cases h
      · split at h
        · cases h
        · rename_i s1 hs1
          obtain ⟨-, rfl⟩ := csub_eq_some_iff.1 hs1
          split at h
          · cases h
          · rename_i b2 hb2
            split at h
            · cases h
            · rename_i v hv
              split at h
              · cases h
              · rename_i b3 hb3
                cases h; exact .inr (.inr ⟨b2, v, b3, hb2, hv, hb3, rfl⟩)
  · cases h

/-- What a `scroll_down` that returned did, `m ≤ e - s` lines far: rows `s..e` rotate, the first `m` of them
    are cleared, then row `s - 1` (if there is one) and row `e - 1` lose their wrap marks. -/
theorem scrollDown_cases {b b' : Buffer} {s e n : Nat} {pen : Pen} (h : b.scrollDown s e n pen = some b') :
    ∃ m v b1 b2, m ≤ e - s ∧ rotRRange b.view s e m = some v ∧
      ({ b with view := v } : Buffer).clear s (s + m) pen = some b1 ∧
      (if s > 0 then b1.unwrapRow (s - 1) else some b1) = some b2 ∧ b2.unwrapRow (e - 1) = some b' := by
  unfold Buffer.scrollDown at h
  split at h
  · cases h
  · rename_i hh hh'
    obtain ⟨-, rfl⟩ := csub_eq_some_iff.1 hh'
    dsimp only at h
    have hm : min n (e - s) ≤ e - s := Nat.min_le_right _ _
    generalize min n (e - s) = m at h hm
    split at h
    · cases h
    · rename_i v hv
      split at h
      · cases h
      · rename_i b1 hb1
        split at h
        · cases h
        · rename_i b2 hb2
          split at h
          · cases h
          · rename_i e1 he1
            obtain ⟨-, rfl⟩ := csub_eq_some_iff.1 he1
            exact ⟨m, v, b1, b2, hm, hv, hb1, hb2, h⟩

end Avt.Buffer

namespace Avt.C15
open Avt

def cellsAt (b : Buffer) (i : Nat) : Option (List Cell) := (b.view[i]?).map (·.cells)

structure BChg (S : Nat → Prop) (b b' : Buffer) : Prop where
  rows : b'.rows = b.rows
  cols : b'.cols = b.cols
  same : ∀ i, i < b.rows → ¬ S i → cellsAt b' i = cellsAt b i

theorem BChg.refl (S : Nat → Prop) (b : Buffer) : BChg S b b := ⟨rfl, rfl, fun _ _ _ => rfl⟩

theorem BChg.mono {S S' : Nat → Prop} {b b' : Buffer} (h : BChg S b b') (hs : ∀ i, S i → S' i) :
    BChg S' b b' := ⟨h.rows, h.cols, fun i hi hn => h.same i hi (fun hs' => hn (hs i hs'))⟩

theorem BChg.trans {S : Nat → Prop} {b b1 b2 : Buffer} (h1 : BChg S b b1) (h2 : BChg S b1 b2) :
    BChg S b b2 :=
  ⟨h2.rows.trans h1.rows, h2.cols.trans h1.cols,
   fun i hi hn => (h2.same i (h1.rows ▸ hi) hn).trans (h1.same i hi hn)⟩

theorem BChg.of_view {S : Nat → Prop} {b b' : Buffer} (hr : b'.rows = b.rows) (hc : b'.cols = b.cols)
    (hv : ∀ i, i < b.rows → ¬ S i → b'.view[i]? = b.view[i]?) : BChg S b b' :=
  ⟨hr, hc, fun i hi hn => by simp only [cellsAt, hv i hi hn]⟩

theorem updRow_view {b b' : Buffer} {row : Nat} {f : Line → Option Line} (h : b.updRow row f = some b') :
    b'.rows = b.rows ∧ b'.cols = b.cols ∧ ∀ j, b'.view[j]? = if row = j then b.view[row]?.bind f else b.view[j]? := by
  unfold Buffer.updRow at h
  simp only [Option.map_eq_some_iff] at h
  obtain ⟨v, hv, rfl⟩ := h
  exact ⟨rfl, rfl, fun j => modAtM_getElem? hv⟩

theorem updRow_chg {b b' : Buffer} {row : Nat} {f : Line → Option Line} (h : b.updRow row f = some b') :
    BChg (· = row) b b' := by
  obtain ⟨hr, hc, hv⟩ := updRow_view h
  refine BChg.of_view hr hc fun i _ hn => ?_
  rw [hv, if_neg (fun e => hn e.symm)]

theorem updRow_keep {S : Nat → Prop} {b b' : Buffer} {row : Nat} {f : Line → Option Line}
    (h : b.updRow row f = some b') (hf : ∀ l l', f l = some l' → l'.cells = l.cells) : BChg S b b' := by
  obtain ⟨hr, hc, hv⟩ := updRow_view h
  refine ⟨hr, hc, fun i _ _ => ?_⟩
  simp only [cellsAt, hv]
  split
  · rename_i e; subst e
    unfold Buffer.updRow at h
    obtain ⟨v, hv', -⟩ := Option.map_eq_some_iff.1 h
    obtain ⟨x, y, hx, hy, -⟩ := modAtM_get hv'
    rw [hx, Option.bind_some, hy, Option.map_some, Option.map_some, hf x y hy]
  · rfl

theorem wrap_chg {S : Nat → Prop} {b b' : Buffer} {row : Nat} (h : b.wrap row = some b') : BChg S b b' :=
  updRow_keep h (fun l l' e => by simp only [Option.some.injEq] at e; subst e; rfl)

theorem unwrapRow_chg {S : Nat → Prop} {b b' : Buffer} {row : Nat} (h : b.unwrapRow row = some b') :
    BChg S b b' :=
  updRow_keep h (fun l l' e => by simp only [Option.some.injEq] at e; subst e; rfl)

theorem print_chg {b b' : Buffer} {col row : Nat} {cell : Cell} (h : b.print col row cell = some b') :
    BChg (· = row) b b' := updRow_chg h

theorem insert_chg {b b' : Buffer} {col row n : Nat} {cell : Cell} (h : b.insert col row n cell = some b') :
    BChg (· = row) b b' := by
  unfold Buffer.insert at h
  split at h
  · simp at h
  · exact updRow_chg h

theorem delete_chg {b b' : Buffer} {col row n : Nat} {pen : Pen} (h : b.delete col row n pen = some b') :
    BChg (· = row) b b' := by
  unfold Buffer.delete at h
  split at h
  · simp at h
  · exact updRow_chg h

theorem clear_chg {b b' : Buffer} {a c : Nat} {pen : Pen} (h : b.clear a c pen = some b') :
    BChg (fun i => a ≤ i ∧ i < c) b b' := by
  unfold Buffer.clear at h
  simp only [Option.map_eq_some_iff] at h
  obtain ⟨v, hv, rfl⟩ := h
  refine BChg.of_view rfl rfl fun i _ hn => ?_
  show v[i]? = _
  rw [fillRange_getElem? hv, if_neg hn]

theorem erase_chg {b b' : Buffer} {col row : Nat} {mode : Buffer.EraseMode} {pen : Pen}
    (h : b.erase col row mode pen = some b') : BChg (BufOp.eraseRows mode row) b b' := by
  show BChg (fun i => BufOp.eraseRows mode row i) b b'
  cases mode <;> simp only [Buffer.erase] at h <;> simp only [BufOp.eraseRows]
  · split at h
    · simp at h
    · exact updRow_chg h
  · split at h
    · simp at h
    · rename_i b1 h1
      exact ((updRow_chg h1).mono (fun i (e : i = row) => by show row ≤ i; omega)).trans
        ((clear_chg h).mono (fun i e => by show row ≤ i; omega))
  · split at h
    · simp at h
    · rename_i b1 h1
      exact ((updRow_chg h1).mono (fun i (e : i = row) => by show i ≤ row; omega)).trans
        ((clear_chg h).mono (fun i e => by show i ≤ row; omega))
  · exact (clear_chg h).mono (fun _ _ => trivial)
  · exact updRow_chg h
  · exact updRow_chg h
  · exact updRow_chg h

theorem optUnwrap_chg {S : Nat → Prop} {b b1 : Buffer} {c : Prop} [Decidable c] {row : Nat}
    (h : (if c then b.unwrapRow row else some b) = some b1) : BChg S b b1 := by
  split at h
  · exact unwrapRow_chg h
  · simp only [Option.some.injEq] at h; subst h; exact BChg.refl _ _

theorem scrollUp_chg {b b' : Buffer} {s e n : Nat} {pen : Pen} (h : b.scrollUp s e n pen = some b') :
    BChg (fun i => s ≤ i ∧ i < e) b b' := by
  obtain ⟨m, b1, hm, h1, h⟩ := Buffer.scrollUp_cases h
  refine (optUnwrap_chg h1).trans ?_
  rcases h with ⟨hs, he, _, rfl, rfl⟩ | ⟨hs, he, _, rfl, rfl⟩ | ⟨b2, v, b3, h2, hv, h3, rfl⟩
  -- `s = 0`, `e = rows`: no row is outside the range
  · exact ⟨rfl, rfl, fun i hi hn => absurd ⟨by omega, by omega⟩ hn⟩
  · refine BChg.of_view rfl rfl fun i _ hn => ?_
    exact getElem?_drop_insert _ _ _ he (Nat.le_of_not_lt fun hlt => hn ⟨hs ▸ Nat.zero_le i, hlt⟩)
  · have c3 : BChg (fun i => s ≤ i ∧ i < e) b2 { b2 with view := v } :=
      BChg.of_view rfl rfl fun i _ hn => by
        show v[i]? = _
        rw [rotLRange_getElem? hv, if_neg hn]
    exact ((unwrapRow_chg h2).trans
      (c3.trans ((clear_chg h3).mono fun i hi => by omega))).trans ⟨rfl, rfl, fun _ _ _ => rfl⟩

theorem scrollDown_chg {b b' : Buffer} {s e n : Nat} {pen : Pen} (h : b.scrollDown s e n pen = some b') :
    BChg (fun i => s ≤ i ∧ i < e) b b' := by
  obtain ⟨m, v, b1, b2, hm, hv, h1, h2, h3⟩ := Buffer.scrollDown_cases h
  have c1 : BChg (fun i => s ≤ i ∧ i < e) b { b with view := v } :=
    BChg.of_view rfl rfl fun i _ hn => by
      show v[i]? = _
      rw [rotRRange_getElem? hv, if_neg hn]
  exact c1.trans (((clear_chg h1).mono fun i hi => by omega).trans
    ((optUnwrap_chg h2).trans (unwrapRow_chg h3)))

theorem run_chg {op : BufOp} {b b' : Buffer} (h : op.run b = some b') : BChg op.rows b b' := by
  cases op
  · exact print_chg h
  · exact insert_chg h
  · exact delete_chg h
  · exact erase_chg h
  · exact scrollUp_chg h
  · exact scrollDown_chg h
  · exact wrap_chg h

end Avt.C15
