/-
  Avt.Lemmas.Footprint — what a helper of Model/Terminal.lean may change.
  `Same W t t'`: `t'` is `t` outside the fields listed in `W : Field → Bool`; given `h : Same W t t'`,
  that the step left the pen alone is `h .pen rfl`.  `Moves` is `Same` up to the cursor's position and `pendingWrap`,
  `Draws` up to those, `buffer` and `dirtyLines` (what the drawing helpers do to the buffer is
  Lemmas/Paint.lean).  The helpers that touch more (`saveCursor`, the switches of screens, DECSTBM,
  the tab functions) are written as explicit record updates, from which Lemmas/Writes.lean reads
  what they write; the three screen modes are a save, a switch, a restore and a reflow
  (`decsetOne_screen`, `decrstOne_screen`).
-/
import Avt.Lemmas.C15PrintSplit
import Avt.Spec.C16
import Avt.Lemmas.Prim
import Avt.Lemmas.FoldM

namespace Avt

/-- the fields of `Terminal`, the cursor split into its position and its visibility -/
inductive Field where
  | cols | rows | buffer | otherBuffer | activeBufferType | scrollbackLimit | position | visible
  | pen | charsets | activeCharset | tabs | insertMode | originMode | autoWrapMode | newLineMode
  | cursorKeysMode | pendingWrap | topMargin | bottomMargin | savedCtx | alternateSavedCtx
  | dirtyLines | xtwinops

/-- `t` and `t'` hold the same in field `x` -/
def Field.Kept (t t' : Terminal) : Field → Prop
  | .cols => t'.cols = t.cols
  | .rows => t'.rows = t.rows
  | .buffer => t'.buffer = t.buffer
  | .otherBuffer => t'.otherBuffer = t.otherBuffer
  | .activeBufferType => t'.activeBufferType = t.activeBufferType
  | .scrollbackLimit => t'.scrollbackLimit = t.scrollbackLimit
  | .position => (t'.cursor.col, t'.cursor.row) = (t.cursor.col, t.cursor.row)
  | .visible => t'.cursor.visible = t.cursor.visible
  | .pen => t'.pen = t.pen
  | .charsets => t'.charsets = t.charsets
  | .activeCharset => t'.activeCharset = t.activeCharset
  | .tabs => t'.tabs = t.tabs
  | .insertMode => t'.insertMode = t.insertMode
  | .originMode => t'.originMode = t.originMode
  | .autoWrapMode => t'.autoWrapMode = t.autoWrapMode
  | .newLineMode => t'.newLineMode = t.newLineMode
  | .cursorKeysMode => t'.cursorKeysMode = t.cursorKeysMode
  | .pendingWrap => t'.pendingWrap = t.pendingWrap
  | .topMargin => t'.topMargin = t.topMargin
  | .bottomMargin => t'.bottomMargin = t.bottomMargin
  | .savedCtx => t'.savedCtx = t.savedCtx
  | .alternateSavedCtx => t'.alternateSavedCtx = t.alternateSavedCtx
  | .dirtyLines => t'.dirtyLines = t.dirtyLines
  | .xtwinops => t'.xtwinops = t.xtwinops

theorem Field.Kept.refl (t : Terminal) (x : Field) : x.Kept t t := by cases x <;> exact rfl

theorem Field.Kept.trans {a b c : Terminal} {x : Field} (h1 : x.Kept a b) (h2 : x.Kept b c) : x.Kept a c := by
  cases x <;> exact Eq.trans h2 h1

/-- `t'` is `t` outside the fields in `W` -/
def Same (W : Field → Bool) (t t' : Terminal) : Prop := ∀ x, W x = false → x.Kept t t'

namespace Same
variable {W W' : Field → Bool} {a b c t t' : Terminal}

theorem refl (t : Terminal) : Same W t t := fun x _ => .refl t x

theorem trans (h1 : Same W a b) (h2 : Same W b c) : Same W a c := fun x hx => (h1 x hx).trans (h2 x hx)

theorem mono (hw : ∀ x, W' x = false → W x = false) (h : Same W t t') : Same W' t t' :=
  fun x hx => h x (hw x hx)

/-- one step after another writes what either writes -/
theorem seq (h1 : Same W a b) (h2 : Same W' b c) : Same (fun x => W x || W' x) a c := fun x hx =>
  have hx := Bool.or_eq_false_iff.1 hx
  (h1 x hx.1).trans (h2 x hx.2)

theorem map {α} {o : Option α} {g : α → Terminal} (h : o.map g = some t') (hg : ∀ a, Same W t (g a)) :
    Same W t t' := by
  cases o with
  | none => cases h
  | some a => cases h; exact hg a

end Same

/-- closes `Same W t t'` when `t'` is written as an update of `t` and `W` is a closed table: every
    field is either left as it is (`rfl`) or listed in `W` -/
macro "field_by_field" : tactic => `(tactic| (intro x hx; cases x <;> first | exact rfl | cases hx))

/-- the fields a cursor movement writes -/
def Field.moves : Field → Bool
  | .position | .pendingWrap => true
  | _ => false

/-- the fields a drawing function writes -/
def Field.draws : Field → Bool
  | .position | .pendingWrap | .buffer | .dirtyLines => true
  | _ => false

/-- `t'` is `t` up to the cursor's position and the pending wrap -/
abbrev Moves := Same Field.moves

/-- `t'` is `t` up to the cursor's position, the pending wrap, the buffer showing and the dirty flags -/
abbrev Draws := Same Field.draws

/-- the functions that only move the cursor -/
def Function.moves : Function → Bool
  | .bs | .cbt _ | .cha _ | .cht _ | .cnl _ | .cpl _ | .cr | .cub _ | .cud _ | .cuf _ | .cup _ _
  | .cuu _ | .ht | .vpa _ | .vpr _ => true
  | _ => false

/-- those that also write cells, scroll or flag rows -/
def Function.paints : Function → Bool
  | .dch _ | .decaln | .dl _ | .ech _ | .ed _ | .el _ | .ich _ | .il _ | .lf | .nel | .print _
  | .rep _ | .ri | .sd _ | .su _ => true
  | _ => false

def Function.draws (f : Function) : Bool := f.moves || f.paints

/-- a move to a column goes to some column of the same row -/
theorem Terminal.moveCursorToCol_eq {t t' : Terminal} {c : Nat} (h : t.moveCursorToCol c = some t') :
    ∃ c', t' = t.doMoveCursorToCol c' := by
  unfold Terminal.moveCursorToCol at h
  split at h
  · obtain ⟨c1, _, rfl⟩ := Option.map_eq_some_iff.mp h
    exact ⟨c1, rfl⟩
  · cases h; exact ⟨c, rfl⟩

namespace Moves
variable {t t' : Terminal}

theorem toDraws (h : Moves t t') : Draws t t' := h.mono (by intro x; cases x <;> decide)

theorem upd {c r : Nat} {p : Bool} :
    Moves t { t with cursor := { t.cursor with col := c, row := r }, pendingWrap := p } := by
  field_by_field

theorem doMoveCursorToRow {t t' : Terminal} {r : Nat} (h : t.doMoveCursorToRow r = some t') :
    Moves t t' := Same.map h fun _ => upd

theorem moveCursorToCol {t t' : Terminal} {c : Nat} (h : t.moveCursorToCol c = some t') :
    Moves t t' := by
  obtain ⟨_, rfl⟩ := Terminal.moveCursorToCol_eq h
  exact upd

theorem moveCursorToRow {t t' : Terminal} {r : Nat} (h : t.moveCursorToRow r = some t') :
    Moves t t' := by
  unfold Terminal.moveCursorToRow at h
  simp only at h
  split at h
  · cases h
  · exact doMoveCursorToRow h

theorem moveCursorToRelCol {t t' : Terminal} {r : Int} (h : t.moveCursorToRelCol r = some t') :
    Moves t t' := by
  unfold Terminal.moveCursorToRelCol at h
  simp only at h
  split at h
  · cases h; exact upd
  · split at h
    · exact Same.map h fun _ => upd
    · cases h; exact upd

theorem moveCursorHome {t t' : Terminal} (h : t.moveCursorHome = some t') : Moves t t' := by
  unfold Terminal.moveCursorHome at h
  exact Same.trans (b := t.doMoveCursorToCol 0) upd (doMoveCursorToRow h)

theorem moveCursorToNextTab {t t' : Terminal} {n : Nat} (h : t.moveCursorToNextTab n = some t') :
    Moves t t' := by
  unfold Terminal.moveCursorToNextTab at h
  split at h
  · exact moveCursorToCol h
  · cases h

theorem moveCursorToPrevTab {t t' : Terminal} {n : Nat} (h : t.moveCursorToPrevTab n = some t') :
    Moves t t' := by
  unfold Terminal.moveCursorToPrevTab at h
  split at h
  · exact moveCursorToCol h
  · cases h

theorem cursorDown {t t' : Terminal} {n : Nat} (h : t.cursorDown n = some t') : Moves t t' := by
  unfold Terminal.cursorDown at h
  split at h
  · split at h
    · cases h
    · exact doMoveCursorToRow h
  · exact doMoveCursorToRow h

theorem cursorUp {t t' : Terminal} {n : Nat} (h : t.cursorUp n = some t') : Moves t t' := by
  unfold Terminal.cursorUp at h
  exact doMoveCursorToRow h

theorem bs {t t' : Terminal} (h : t.bs = some t') : Moves t t' := by
  unfold Terminal.bs at h
  split at h
  · exact moveCursorToRelCol h
  · exact moveCursorToRelCol h

theorem cub {t t' : Terminal} {n : Nat} (h : t.cub n = some t') : Moves t t' :=
  moveCursorToRelCol h

theorem cup {t t' : Terminal} {r c : Nat} (h : t.cup r c = some t') : Moves t t' := by
  unfold Terminal.cup at h
  split at h
  · cases h
  · rename_i h1
    exact (moveCursorToCol h1).trans (moveCursorToRow h)

theorem execute {t t' : Terminal} {f : Function} (hf : f.moves = true)
    (h : t.execute f = some t') : Moves t t' := by
  cases f
  case bs => exact bs h
  case cbt => exact moveCursorToPrevTab h
  case cha => exact moveCursorToCol h
  case cht => exact moveCursorToNextTab h
  case cnl =>
    obtain ⟨_, h1, rfl⟩ := Option.map_eq_some_iff.mp h
    exact (cursorDown h1).trans upd
  case cpl =>
    obtain ⟨_, h1, rfl⟩ := Option.map_eq_some_iff.mp h
    exact (cursorUp h1).trans upd
  case cr => cases h; exact upd
  case cub => exact cub h
  case cud => exact cursorDown h
  case cuf n => exact moveCursorToRelCol (r := (asUsize n 1 : Nat)) h
  case cup => exact cup h
  case cuu => exact cursorUp h
  case ht => exact moveCursorToNextTab h
  case vpa => exact moveCursorToRow h
  case vpr => exact cursorDown h
  all_goals cases hf

end Moves

namespace Terminal

theorem setTab_upd (t : Terminal) : ∃ tabs, t.setTab = { t with tabs := tabs } := by
  unfold setTab
  split
  · exact ⟨_, rfl⟩
  · exact ⟨t.tabs, rfl⟩

theorem ctc_upd (t : Terminal) (op : CtcOp) : ∃ tabs, t.ctc op = { t with tabs := tabs } := by
  cases op
  · exact t.setTab_upd
  · exact ⟨_, rfl⟩
  · exact ⟨_, rfl⟩

theorem tbc_upd (t : Terminal) (s : TbcScope) : ∃ tabs, t.tbc s = { t with tabs := tabs } := by
  cases s
  · exact ⟨_, rfl⟩
  · exact ⟨_, rfl⟩

/-- a save records the position (the column clamped into the screen), the pen and the two modes -/
theorem saveCursor_eq_some_iff {t t' : Terminal} :
    t.saveCursor = some t' ↔ 1 ≤ t.cols ∧ t' = { t with savedCtx := Spec.C16.entryCtx t } :=
  csub_map_eq_some_iff

theorem saveCursor_eq {t t' : Terminal} (h : t.saveCursor = some t') :
    t' = { t with savedCtx := Spec.C16.entryCtx t } := (saveCursor_eq_some_iff.1 h).2

/-- `switch_to_alternate_buffer` / `switch_to_primary_buffer`, the screen to show as a variable -/
def switchTo (t : Terminal) : BufferType → Option Terminal
  | .alternate => t.switchToAlternateBuffer
  | .primary => t.switchToPrimaryBuffer

/-- what a switch that does switch returns, up to the dirty flags `d` -/
def swapped (t : Terminal) (to : BufferType) (d : List Bool) : Terminal :=
  { t with activeBufferType := to, savedCtx := t.alternateSavedCtx, alternateSavedCtx := t.savedCtx,
           otherBuffer := t.buffer,
           buffer := match to with
             | .alternate => Buffer.new t.cols t.rows (some 0) (some t.pen)
             | .primary => t.otherBuffer,
           dirtyLines := d }

/-- a switch to the screen that is showing does nothing; otherwise the two buffers and the two
    contexts change places (entering builds a fresh alternate buffer) and every row is flagged -/
theorem switchTo_eq (t : Terminal) (to : BufferType) :
    t.switchTo to = if t.activeBufferType = to then some t
      else (Dirty.extend t.dirtyLines 0 t.rows).map (t.swapped to) := by
  cases to <;> simp only [switchTo, switchToAlternateBuffer, switchToPrimaryBuffer] <;>
    cases t.activeBufferType <;> rfl

theorem switchTo_cases {t t' : Terminal} {to : BufferType} (h : t.switchTo to = some t') :
    t.activeBufferType = to ∧ t' = t ∨ t.activeBufferType ≠ to ∧ ∃ d, t' = t.swapped to d := by
  rw [switchTo_eq] at h
  split at h
  · cases h; exact .inl ⟨‹_›, rfl⟩
  · obtain ⟨d, _, rfl⟩ := Option.map_eq_some_iff.mp h
    exact .inr ⟨‹_›, d, rfl⟩

theorem switchTo_other {t t' : Terminal} {to : BufferType} (hp : t.activeBufferType ≠ to)
    (h : t.switchTo to = some t') : ∃ d, t' = t.swapped to d := by
  rcases switchTo_cases h with ⟨hq, _⟩ | ⟨_, d⟩
  · exact absurd hq hp
  · exact d

open Spec.C16 in
/-- DECSET 47 / 1047 / 1049: for 1049 a save (`parkedCtx`), then the switch, then `reflow` -/
theorem decsetOne_screen {t t' : Terminal} {m : DecMode} (hm : isAltScreenMode m = true)
    (h : t.decsetOne m = some t') :
    ∃ t1, ({ t with savedCtx := parkedCtx t (m == .saveCursorAltScreenBuffer) } : Terminal).switchTo .alternate
        = some t1 ∧ t1.reflow = some t' := by
  cases m <;> cases hm <;> simp only [decsetOne] at h
  · split at h
    · cases h
    · rename_i t1 h1
      exact ⟨t1, h1, h⟩
  · split at h
    · cases h
    · rename_i t0 h0
      cases saveCursor_eq h0
      split at h
      · cases h
      · rename_i t1 h1
        exact ⟨t1, h1, h⟩

open Spec.C16 in
/-- DECRST 47 / 1047 / 1049: the switch, for 1049 `restore_cursor`, then `reflow` -/
theorem decrstOne_screen {t t' : Terminal} {m : DecMode} (hm : isAltScreenMode m = true)
    (h : t.decrstOne m = some t') :
    ∃ t1, t.switchTo .primary = some t1
      ∧ (if m = .saveCursorAltScreenBuffer then t1.restoreCursor else t1).reflow = some t' := by
  cases m <;> cases hm <;> simp only [decrstOne] at h
  all_goals
    split at h
    · cases h
    · rename_i t1 h1
      exact ⟨t1, h1, h⟩

/-- DECSTBM may set the margins, then homes the cursor -/
theorem decstbm_home {t t' : Terminal} {a b : Nat} (h : t.decstbm a b = some t') :
    ∃ top bot, ({ t with topMargin := top, bottomMargin := bot } : Terminal).moveCursorHome = some t' := by
  unfold decstbm at h
  dsimp only at h
  split at h
  · cases h
  · split at h
    · exact ⟨_, _, h⟩
    · exact ⟨_, _, h⟩

end Terminal
end Avt
