/-
  Avt.Lemmas.C16Switch — the switch of screens for C16.  Frames, read off the table of what each function
  writes (Lemmas/Writes.lean): no function other than the two buffer switches and the hard reset touches
  `otherBuffer`, `alternateSavedCtx`, `activeBufferType` (`fr`; the table does not know which screen is
  showing, so that entering the alternate screen from the alternate screen switches nothing is shown
  here), and no function changes the size of the terminal, the `xtwinops` switch or the scrollback limit
  as long as `xtwinops` is off (`geo`; it always is: `TInv`).  Then `reflow` at unchanged geometry
  (`reflow_same`) and entering the alternate screen in closed form (`enter_eq`; `enter_spec` is what C16
  reads off it).  Leaving is in Avt.Lemmas.C16Resized, for any geometry.
-/
import Avt.Model.Vt
import Avt.Spec.Inv
import Avt.Spec.C16
import Avt.Lemmas.Writes
import Avt.Lemmas.C10Resize
import Avt.Lemmas.ResizeSame

namespace Avt.C16
open Avt

/-- the part of the state the alternate screen must not touch -/
def fr (t : Terminal) : Buffer × SavedCtx × BufferType := (t.otherBuffer, t.alternateSavedCtx, t.activeBufferType)

theorem fr_of_same {W : Field → Bool} {t t' : Terminal} (h : Same W t t')
    (w : W .otherBuffer = false ∧ W .alternateSavedCtx = false ∧ W .activeBufferType = false) :
    fr t' = fr t := by
  unfold fr
  rw [h .otherBuffer w.1, h .alternateSavedCtx w.2.1, h .activeBufferType w.2.2]

theorem fr_of_draws {t t' : Terminal} (h : Draws t t') : fr t' = fr t := fr_of_same h ⟨rfl, rfl, rfl⟩

theorem fr_resize {t t' : Terminal} {a b} (h : t.resize a b = some t') : fr t' = fr t :=
  fr_of_same (Terminal.resize_same h) ⟨rfl, rfl, rfl⟩

/-- every function other than DECSET, DECRST and RIS writes none of the three -/
theorem writes_fr (f : Function) :
    (∃ ms, f = .decset ms) ∨ (∃ ms, f = .decrst ms) ∨ f = .ris
      ∨ f.writes .otherBuffer = false ∧ f.writes .alternateSavedCtx = false
        ∧ f.writes .activeBufferType = false := by
  cases hd : f.draws
  case true =>
    exact .inr (.inr (.inr ⟨f.writes_of_draws hd rfl, f.writes_of_draws hd rfl, f.writes_of_draws hd rfl⟩))
  cases f <;> try contradiction
  case decset ms => exact .inl ⟨ms, rfl⟩
  case decrst ms => exact .inr (.inl ⟨ms, rfl⟩)
  case ris => exact .inr (.inr (.inl rfl))
  case sm ms | rm ms =>
    refine .inr (.inr (.inr ⟨?_, ?_, ?_⟩)) <;> exact any_writes_false ms (by intro m; cases m <;> rfl)
  all_goals exact .inr (.inr (.inr ⟨rfl, rfl, rfl⟩))

/-- a mode other than 47 / 1047 / 1049 writes none of the three -/
theorem fr_decsetOne_other {t t' : Terminal} {m} (hm : Spec.C16.isAltScreenMode m = false)
    (h : t.decsetOne m = some t') : fr t' = fr t :=
  fr_of_same (Terminal.decsetOne_same h) (by cases m <;> first | exact ⟨rfl, rfl, rfl⟩ | cases hm)

theorem fr_decrstOne_other {t t' : Terminal} {m} (hm : Spec.C16.isAltScreenMode m = false)
    (h : t.decrstOne m = some t') : fr t' = fr t :=
  fr_of_same (Terminal.decrstOne_same h) (by cases m <;> first | exact ⟨rfl, rfl, rfl⟩ | cases hm)

/-- on the alternate screen the switch of a screen mode is the identity -/
theorem fr_decsetOne {t t' : Terminal} {m} (ha : t.activeBufferType = .alternate)
    (h : t.decsetOne m = some t') : fr t' = fr t := by
  cases hm : Spec.C16.isAltScreenMode m
  · exact fr_decsetOne_other hm h
  · obtain ⟨t1, h1, h2⟩ := Terminal.decsetOne_screen hm h
    rcases Terminal.switchTo_cases h1 with ⟨_, rfl⟩ | ⟨hp, _⟩
    · exact (fr_of_same (Terminal.reflow_same h2) ⟨rfl, rfl, rfl⟩).trans rfl
    · exact absurd ha hp

/-- **frame**: on the alternate screen, everything except leaving and RIS keeps the parked primary -/
theorem fr_execute {t t' : Terminal} {f : Function} (ha : t.activeBufferType = .alternate)
    (hf : Spec.C16.endsExcursion f = false) (h : t.execute f = some t') : fr t' = fr t := by
  rcases writes_fr f with ⟨ms, rfl⟩ | ⟨ms, rfl⟩ | rfl | w
  · refine Terminal.foldM'_inv (fun x => fr x = fr t) (fun b _ _ _ hb hs => ?_) rfl h
    exact (fr_decsetOne ((congrArg (·.2.2) hb).trans ha) hs).trans hb
  · refine fr_of_same (Terminal.execute_same h) ⟨?_, ?_, ?_⟩ <;>
      exact any_writes_of hf (by intro m; cases m <;> decide)
  · cases hf
  · exact fr_of_same (Terminal.execute_same h) w

def geo (t : Terminal) : Nat × Nat × Bool × Option Nat := (t.cols, t.rows, t.xtwinops, t.scrollbackLimit)

theorem geo_of_same {W : Field → Bool} {t t' : Terminal} (h : Same W t t')
    (w : W .cols = false ∧ W .rows = false ∧ W .xtwinops = false ∧ W .scrollbackLimit = false) :
    geo t' = geo t := by
  unfold geo
  rw [h .cols w.1, h .rows w.2.1, h .xtwinops w.2.2.1, h .scrollbackLimit w.2.2.2]

theorem geo_decsetOne {t t' : Terminal} {m} (h : t.decsetOne m = some t') : geo t' = geo t :=
  geo_of_same (Terminal.decsetOne_same h) (by cases m <;> exact ⟨rfl, rfl, rfl, rfl⟩)

theorem geo_decrstOne {t t' : Terminal} {m} (h : t.decrstOne m = some t') : geo t' = geo t :=
  geo_of_same (Terminal.decrstOne_same h) (by cases m <;> exact ⟨rfl, rfl, rfl, rfl⟩)

/-- only XTWINOPS writes any of the four -/
theorem writes_geo (f : Function) :
    (∃ c r, f = .xtwinops c r)
      ∨ f.writes .cols = false ∧ f.writes .rows = false ∧ f.writes .xtwinops = false
        ∧ f.writes .scrollbackLimit = false := by
  cases hd : f.draws
  case true =>
    exact .inr ⟨f.writes_of_draws hd rfl, f.writes_of_draws hd rfl, f.writes_of_draws hd rfl,
      f.writes_of_draws hd rfl⟩
  cases f <;> try contradiction
  case xtwinops c r => exact .inl ⟨c, r, rfl⟩
  case decset ms | decrst ms | sm ms | rm ms =>
    refine .inr ⟨?_, ?_, ?_, ?_⟩ <;> exact any_writes_false ms (by intro m; cases m <;> rfl)
  all_goals exact .inr ⟨rfl, rfl, rfl, rfl⟩

theorem geo_execute {t t' : Terminal} {f : Function} (hx : t.xtwinops = false)
    (h : t.execute f = some t') : geo t' = geo t := by
  rcases writes_geo f with ⟨c, r, rfl⟩ | w
  · rw [Terminal.execute_xtwinops_off hx h]
  · exact geo_of_same (Terminal.execute_same h) w

open Avt.Spec.C16

/-- what `reflow` returns when the active buffer already has the terminal's size: `Terminal.reflowed`
    with the buffer only flagged for trimming and the cursor where it was; the width is the buffer's, so
    the pending wrap stays -/
def reflowSame (t : Terminal) : Terminal :=
  { t with buffer := { t.buffer with trimNeeded := true }, dirtyLines := List.replicate t.rows true,
           savedCtx := { t.savedCtx with cursorCol := min t.savedCtx.cursorCol (t.cols - 1),
                                         cursorRow := min t.savedCtx.cursorRow (t.rows - 1) } }

theorem reflow_same {t t' : Terminal} (hc : t.buffer.cols = t.cols) (hr : t.buffer.rows = t.rows)
    (hv : t.buffer.view.length = t.buffer.rows) (h : t.reflow = some t') : t' = reflowSame t := by
  obtain ⟨-, -, b, cur, hres, rfl⟩ := Terminal.reflow_eq_some.1 h
  rw [← hc, ← hr, Frame.resize_same _ _ hv] at hres
  cases hres
  simp only [Terminal.reflowed, reflowSame, if_neg (not_not_intro hc.symm)]

theorem geo_parts {t t' : Terminal} (h : geo t' = geo t) : t'.cols = t.cols ∧ t'.rows = t.rows := by
  simp only [geo, Prod.mk.injEq] at h; exact ⟨h.1, h.2.1⟩

/-- what DECSET 47 / 1047 returns: from the primary screen the two screens change places, and either
    way the screen that shows then has the terminal's size -/
def enterAlt (t : Terminal) : Terminal :=
  reflowSame (if t.activeBufferType = .alternate then t else t.swapped .alternate (List.replicate t.rows true))

/-- DECSET 47 / 1047 / 1049 in closed form, the save of 1049 as `parkedCtx`.  The fresh screen has the
    terminal's size; of the alternate screen, if that is showing, it is assumed (`TInv` gives it) -/
theorem enter_eq {t t' : Terminal} {m : DecMode} (hm : isAltScreenMode m = true)
    (hb : t.activeBufferType = .alternate →
      t.buffer.cols = t.cols ∧ t.buffer.rows = t.rows ∧ t.buffer.view.length = t.buffer.rows)
    (h : t.decsetOne m = some t') :
    t' = enterAlt { t with savedCtx := parkedCtx t (m == .saveCursorAltScreenBuffer) } := by
  obtain ⟨t1, h1, h2⟩ := Terminal.decsetOne_screen hm h
  unfold enterAlt
  rcases Terminal.switchTo_cases h1 with ⟨ha, rfl⟩ | ⟨ha, d, rfl⟩
  · rw [if_pos ha]
    obtain ⟨g1, g2, g3⟩ := hb ha
    exact reflow_same g1 g2 g3 h2
  · rw [if_neg ha]
    -- whatever flags `d` the switch has set, `reflow` sets them all
    exact (reflow_same rfl rfl (by simp [Terminal.swapped, Buffer.new]) h2).trans rfl

theorem enter_spec {t t' : Terminal} {m : DecMode} (hp : t.activeBufferType = .primary)
    (hm : isAltScreenMode m = true) (h : t.decsetOne m = some t') :
    fr t' = (t.buffer, parkedCtx t (m == .saveCursorAltScreenBuffer), .alternate) ∧ geo t' = geo t
      ∧ t'.buffer = { Buffer.new t.cols t.rows (some 0) (some t.pen) with trimNeeded := true }
      ∧ t'.pen = t.pen := by
  have hp' : ¬ t.activeBufferType = .alternate := by rw [hp]; nofun
  cases enter_eq hm (fun ha => absurd ha hp') h
  unfold enterAlt
  rw [if_neg hp']
  exact ⟨rfl, rfl, rfl, rfl⟩

end Avt.C16
