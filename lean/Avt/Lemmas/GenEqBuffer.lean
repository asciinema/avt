/-
  Avt.Lemmas.GenEqBuffer — simulation between the generated, Rust-shaped translation of src/buffer.rs
  (Avt/Gen/BufferGen.lean, namespace `Avt.GenB`: ONE `lines` vector whose last `rows` entries are the view,
  indices `lines.len() - rows + row` exactly as the Rust code computes them) and the hand-written model
  (`Avt.Buffer`, split as `sb ++ view`, DESIGN.md D2).

  Abstraction: `join b = { lines := b.sb ++ b.view, .. }`.  Under the model invariant `b.view.length = b.rows`
  (a clause of `BInv`) the operations commute with `join` (the `_sim` theorems):

      GenB.op (join b) args = (Buffer.op b args).map join          (an equation between `Option`s)

  so the extra panic sites of the Rust shape (`lines.len() - rows` underflow in `view()`/`view_mut()`, the slice
  bounds of `self.lines[len - rows..]`) cannot fire under the hypothesis: the left side is `none` exactly when
  the model's is.  An `_eq` theorem holds for every `GenB.Buffer`, joined or not.  Two further hypotheses:
  `scrollUp_sim` needs `0 < n ∨ e ≤ rows` (the `example` after it), `trimScrollback_sim` / `gc_sim` need `limOK`
  (`soft ≤ hard`, a clause of `BInv`): `scrollback_size - limit.soft` is evaluated once `scrollback_size > hard`,
  checked in the generated code, truncating in the model.  `GenB.extend` and `GenB.trimScrollback` have no model
  counterpart (the model inlines them in `scrollUp` / `resize` and in `gc`): `extend_eq`, `trimScrollback_sim` give
  their closed form.  `resize_sim` has another shape, the generated result being split back by `unjoin`, the
  partial inverse of `join`; both are in GenEqReflow.
  The stems of the theorem names (`print`, `tail`, `insertFold`, …) are keys of `GENEQ_FN_PROPS` in `bin/check`
  (see GenEq.lean's header): function -> properties that go through it; a failing theorem whose stem is not a key
  counts against every property in the module's scope.
-/
import Avt.Gen.BufferGen
import Avt.Lemmas.GenEqLine
import Avt.Lemmas.Prim
import Avt.Spec.Inv


namespace Avt.GenEqBuffer
open Avt

def join (b : Buffer) : GenB.Buffer :=
  { lines := b.sb ++ b.view, cols := b.cols, rows := b.rows, scrollbackLimit := b.limit,
    trimNeeded := b.trimNeeded }

@[simp] theorem join_lines (b : Buffer) : (join b).lines = b.sb ++ b.view := rfl
@[simp] theorem join_cols (b : Buffer) : (join b).cols = b.cols := rfl
@[simp] theorem join_rows (b : Buffer) : (join b).rows = b.rows := rfl
@[simp] theorem join_limit (b : Buffer) : (join b).scrollbackLimit = b.limit := rfl
@[simp] theorem join_trim (b : Buffer) : (join b).trimNeeded = b.trimNeeded := rfl

theorem join_setLines (b : Buffer) (v : List Line) :
    ({ join b with lines := b.sb ++ v } : GenB.Buffer) = join { b with view := v } := rfl

/-! ### the index arithmetic of `view_mut()` / `self[row]` on the joined vector -/

/-- `lines.len() - self.rows` is the length of the scrollback: no underflow under the invariant -/
theorem off_join (sb view : List Line) (rows : Nat) (h : view.length = rows) :
    csub (sb ++ view).length rows = some sb.length := by
  simp [csub, List.length_append, ← h]

theorem getRow_join (sb view : List Line) (i : Nat) : (sb ++ view)[sb.length + i]? = view[i]? := by
  rw [List.getElem?_append_right (by omega)]; congr 1; omega

theorem setRow_join (sb view : List Line) (i : Nat) (x : Line) :
    List.set (sb ++ view) (sb.length + i) x = sb ++ view.set i x := by
  rw [List.set_append_right _ _ (by omega)]; congr 2; omega

theorem drop_take_join {α} (sb v : List α) (a c : Nat) :
    ((sb ++ v).take (sb.length + c)).drop (sb.length + a) = (v.take c).drop a := by
  rw [List.take_length_add_append, List.drop_length_add_append]

/-! The range primitives on the joined vector: the guards differ by `sb.length` on both sides of each comparison,
the slices by the prefix `sb`. -/

theorem fillRange_join {α} (sb v : List α) (a c : Nat) (x : α) :
    fillRange (sb ++ v) (sb.length + a) (sb.length + c) x = (fillRange v a c x).map (sb ++ ·) := by
  simp only [fillRange, List.length_append, Nat.add_le_add_iff_left, Nat.add_sub_add_left,
    List.take_length_add_append, List.drop_length_add_append]
  split <;> simp only [Option.map_some, Option.map_none, List.append_assoc]

theorem rotLRange_join {α} (sb v : List α) (a c n : Nat) :
    rotLRange (sb ++ v) (sb.length + a) (sb.length + c) n = (rotLRange v a c n).map (sb ++ ·) := by
  simp only [rotLRange, List.length_append, Nat.add_le_add_iff_left, Nat.add_sub_add_left,
    List.take_length_add_append, List.drop_length_add_append]
  split <;> simp only [Option.map_some, Option.map_none, List.append_assoc]

theorem rotRRange_join {α} (sb v : List α) (a c n : Nat) :
    rotRRange (sb ++ v) (sb.length + a) (sb.length + c) n = (rotRRange v a c n).map (sb ++ ·) := by
  simp only [rotRRange, List.length_append, Nat.add_le_add_iff_left, Nat.add_sub_add_left,
    List.take_length_add_append, List.drop_length_add_append]
  split <;> simp only [Option.map_some, Option.map_none, List.append_assoc]

theorem print_sim (b : Buffer) (h : b.view.length = b.rows) (col row : Nat) (cell : Cell) :
    GenB.print (join b) col row cell = (b.print col row cell).map join := by
  simp only [GenB.print, Buffer.print, Buffer.updRow, modAtM, join_lines, join_rows, off_join _ _ _ h,
    getRow_join, setRow_join, GenEqLine.print_eq]
  cases b.view[row]? with
  | none => rfl
  | some x => simp only []; cases x.print col cell <;> rfl

theorem wrap_sim (b : Buffer) (h : b.view.length = b.rows) (row : Nat) :
    GenB.wrap (join b) row = (b.wrap row).map join := by
  simp only [GenB.wrap, Buffer.wrap, Buffer.updRow, modAtM, join_lines, join_rows, off_join _ _ _ h,
    getRow_join, setRow_join]
  cases b.view[row]? <;> rfl

theorem insert_sim (b : Buffer) (h : b.view.length = b.rows) (col row n : Nat) (cell : Cell) :
    GenB.insert (join b) col row n cell = (b.insert col row n cell).map join := by
  simp only [GenB.insert, Buffer.insert, Buffer.updRow, modAtM, join_lines, join_rows, join_cols,
    off_join _ _ _ h, getRow_join, setRow_join, GenEqLine.insert_eq]
  cases csub b.cols col with
  | none => rfl
  | some room =>
    simp only []
    cases b.view[row]? with
    | none => rfl
    | some x => simp only []; cases x.insert col (min n room) cell <;> rfl

theorem delete_sim (b : Buffer) (h : b.view.length = b.rows) (col row n : Nat) (pen : Pen) :
    GenB.delete (join b) col row n pen = (b.delete col row n pen).map join := by
  simp only [GenB.delete, Buffer.delete, Buffer.updRow, modAtM, join_lines, join_rows, join_cols,
    off_join _ _ _ h, getRow_join, setRow_join, GenEqLine.delete_eq, List.set_set]
  cases csub b.cols col with
  | none => rfl
  | some room =>
    simp only []
    cases b.view[row]? with
    | none => rfl
    | some x => simp only []; cases x.delete col (min n room) pen <;> rfl

theorem clear_sim (b : Buffer) (h : b.view.length = b.rows) (a c : Nat) (pen : Pen) :
    GenB.clear (join b) (a, c) pen = (b.clear a c pen).map join := by
  simp only [GenB.clear, Buffer.clear, join_lines, join_rows, join_cols, off_join _ _ _ h,
    fillRange_join, GenEqLine.blank_eq]
  cases fillRange b.view a c (Line.blank b.cols pen) <;> rfl

theorem erase_sim (b : Buffer) (h : b.view.length = b.rows) (col row : Nat) (mode : Buffer.EraseMode)
    (pen : Pen) : GenB.erase (join b) col row mode pen = (b.erase col row mode pen).map join := by
  cases mode
  case wholeView => exact clear_sim b h 0 b.rows pen
  all_goals simp only [GenB.erase, Buffer.erase, Buffer.updRow, modAtM, join_lines, join_rows, join_cols,
    off_join _ _ _ h, getRow_join, setRow_join, GenEqLine.clear_eq, List.set_set]
  case nextChars n =>
    cases csub b.cols col with
    | none => rfl
    | some room =>
      simp only []
      cases b.view[row]? with
      | none => rfl
      | some x =>
        simp only []
        cases x.clear col (col + min n room) pen with
        | none => rfl
        | some y =>
          by_cases hc : col + min n room = b.cols
          · simp only [hc, decide_true, if_true, beq_self_eq_true]; rfl
          · have hc' : (col + min n room == b.cols) = false := by simpa using hc
            simp only [hc, decide_false, hc', Bool.false_eq_true, if_false]; rfl
  case fromCursorToEndOfView =>
    cases b.view[row]? with
    | none => rfl
    | some x =>
      simp only []
      cases Line.clear { x with wrapped := false } col b.cols pen with
      | none => rfl
      | some y =>
        simp only [Option.map_some]
        exact clear_sim { b with view := b.view.set row y } (by simpa using h) (row + 1) b.rows pen
  case fromStartOfViewToCursor =>
    cases b.view[row]? with
    | none => rfl
    | some x =>
      simp only []
      cases Line.clear x 0 (min (col + 1) b.cols) pen with
      | none => rfl
      | some y =>
        simp only [Option.map_some]
        exact clear_sim { b with view := b.view.set row y } (by simpa using h) 0 row pen
  case fromCursorToEndOfLine =>
    cases b.view[row]? with
    | none => rfl
    | some x => simp only []; cases x.clear col b.cols pen <;> rfl
  case fromStartOfLineToCursor =>
    cases b.view[row]? with
    | none => rfl
    | some x => simp only []; cases x.clear 0 (min (col + 1) b.cols) pen <;> rfl
  case wholeLine =>
    cases b.view[row]? with
    | none => rfl
    | some x => simp only []; cases x.clear 0 b.cols pen <;> rfl

theorem scrollDown_sim (b : Buffer) (h : b.view.length = b.rows) (s e n : Nat) (pen : Pen) :
    GenB.scrollDown (join b) (s, e) n pen = (b.scrollDown s e n pen).map join := by
  simp only [GenB.scrollDown, GenB.clear, Buffer.scrollDown, Buffer.clear, Buffer.unwrapRow, Buffer.updRow,
    modAtM, join_lines, join_rows, join_cols, off_join _ _ _ h, rotRRange_join, GenEqLine.blank_eq]
  cases csub e s with
  | none => rfl
  | some hh =>
    simp only []
    cases hv : rotRRange b.view s e (min n hh) with
    | none => rfl
    | some v =>
      have hvl : v.length = b.rows := by rw [rotRRange_length hv, h]
      simp only [Option.map_some, off_join _ _ _ hvl, fillRange_join]
      cases hc : fillRange v s (s + min n hh) (Line.blank b.cols pen) with
      | none => rfl
      | some v1 =>
        have hv1 : v1.length = b.rows := by rw [fillRange_length hc, hvl]
        simp only [Option.map_some, off_join _ _ _ hv1, getRow_join, setRow_join]
        -- the end shared by the two branches of `start > 0`: the generated `self[end - 1].wrapped = false`, as the
        -- `simp only` above leaves it in the goal, is the model's `unwrapRow (e - 1)` on whichever view `v2` they leave
        have fin : ∀ v2 : List Line, v2.length = b.rows →
            (match csub e 1 with
              | none => none
              | some x9 =>
                match csub (b.sb ++ v2).length b.rows with
                | none => none
                | some x11 =>
                  match (b.sb ++ v2)[x11 + x9]? with
                  | none => none
                  | some x12 =>
                    some ({ lines := (b.sb ++ v2).set (x11 + x9) { cells := x12.cells, wrapped := false },
                            cols := b.cols, rows := b.rows, scrollbackLimit := (join b).scrollbackLimit,
                            trimNeeded := (join b).trimNeeded } : GenB.Buffer)) =
            Option.map join
              (match csub e 1 with
              | none => none
              | some e1 => Buffer.unwrapRow { b with view := v2 } e1) := by
          intro v2 hv2
          cases csub e 1 with
          | none => rfl
          | some e1 =>
            simp only [off_join _ _ _ hv2, getRow_join, setRow_join, Buffer.unwrapRow, Buffer.updRow, modAtM]
            cases v2[e1]? <;> rfl
        by_cases hs : s > 0
        · have hs1 : csub s 1 = some (s - 1) := csub_eq_some (by omega)
          simp only [hs, if_true, hs1]
          cases v1[s - 1]? with
          | none => rfl
          | some x =>
            simp only [Option.map_some]
            exact fin (v1.set (s - 1) { x with wrapped := false }) (by simp [hv1])
        · simp only [hs, if_false]
          exact fin v1 hv1

/-- `for _ in 0..n { self.lines.insert(index, line.clone()) }`.  With no iteration `Vec::insert` is never called and
    `index` never checked: the disjunct `xs.length = 0`, and the hypothesis `0 < n ∨ e ≤ rows` of `scrollUp_sim`. -/
theorem insertFold (f : GenB.Buffer → Nat → Option GenB.Buffer) (idx : Nat) (line : Line)
    (hf : ∀ g x, f g x = (GenL.insertAt g.lines idx line).map (fun ls => { g with lines := ls }))
    (xs : List Nat) (g : GenB.Buffer) :
    Terminal.foldM' f xs g =
      if xs.length = 0 ∨ idx ≤ g.lines.length then
        some { g with lines := g.lines.take idx ++ List.replicate xs.length line ++ g.lines.drop idx }
      else none := by
  induction xs generalizing g with
  | nil => simp [Terminal.foldM']
  | cons x xs ih =>
    simp only [Terminal.foldM', hf, GenL.insertAt]
    by_cases hi : idx ≤ g.lines.length
    · simp only [hi, if_true, Option.map_some, ih, List.length_cons, or_true]
      have hl : idx ≤ (List.take idx g.lines ++ line :: List.drop idx g.lines).length := by
        simp only [List.length_append, List.length_take, List.length_cons, List.length_drop]; omega
      simp only [hl, or_true, if_true]
      congr 2
      rw [List.take_append_of_le_length (by simp; omega), List.take_take, Nat.min_self,
        List.drop_append_of_le_length (by simp; omega)]
      have e0 : List.drop idx (List.take idx g.lines) = [] := by
        apply List.drop_of_length_le; simp; omega
      rw [e0, List.nil_append, List.replicate_succ', List.append_assoc, List.append_assoc, List.append_assoc]
      rfl
    · simp [hi]

/-- the part of the generated `scroll_up` after the first `wrapped = false` (text copied from BufferGen.lean and
    tied to the generated definition by `rfl`, `gshape` in `scrollUp_sim`: a change of `scroll_up` is reported there) -/
def genTail (g : GenB.Buffer) (s e n : Nat) (pen : Pen) : Option GenB.Buffer :=
  let r2 :=
    if s = 0 then
      if e = g.rows then
        some (GenB.extend g n g.cols pen)
      else
        let line := GenL.blank g.cols pen
        match csub g.lines.length g.rows with
        | none => none
        | some x8 =>
          let index := x8 + e
          Terminal.foldM' (fun b _unused =>
              match GenL.insertAt b.lines index line with
              | none => none
              | some x9 =>
                some { b with lines := x9 }
            ) (List.range' 0 n) g
    else
      match csub s 1 with
      | none => none
      | some x10 =>
        let len11 := g.lines.length
        match csub len11 g.rows with
        | none => none
        | some x12 =>
          match g.lines[x12 + x10]? with
          | none => none
          | some x13 =>
            let g := { g with lines := List.set g.lines (x12 + x10) { x13 with wrapped := false } }
            let end' := e
            let len14 := g.lines.length
            match csub len14 g.rows with
            | none => none
            | some x15 =>
              match rotLRange g.lines (x15 + s) (x15 + e) n with
              | none => none
              | some x16 =>
                let g := { g with lines := x16 }
                match csub end' n with
                | none => none
                | some x17 =>
                  GenB.clear g (x17, end') pen
  match r2 with
  | none => none
  | some g =>
    some { g with trimNeeded := true }

/-- the part of the model's `scrollUp` after the first `unwrapRow` -/
def modTail (b1 : Buffer) (s e n : Nat) (pen : Pen) : Option Buffer :=
  if s = 0 then
    if e = b1.rows then
      let all := b1.view ++ List.replicate n (Line.blank b1.cols pen)
      some { b1 with sb := b1.sb ++ all.take n, view := all.drop n, trimNeeded := true }
    else
      if e ≤ b1.rows ∧ e ≤ b1.view.length then
        let all := b1.view.take e ++ List.replicate n (Line.blank b1.cols pen) ++ b1.view.drop e
        some { b1 with sb := b1.sb ++ all.take n, view := all.drop n, trimNeeded := true }
      else none
  else
    match csub s 1 with
    | none => none
    | some s1 =>
      match b1.unwrapRow s1 with
      | none => none
      | some b2 =>
        match rotLRange b2.view s e n with
        | none => none
        | some v =>
          match ({ b2 with view := v } : Buffer).clear (e - n) e pen with
          | none => none
          | some b3 => some { b3 with trimNeeded := true }

/-- `hne`: `scroll_up` has clamped `n` to `end - start` by then (`scrollUp_sim` derives it from that); it makes the
    checked `end - n` of the generated `clear` range the model's truncating `e - n` -/
theorem tail_sim (b1 : Buffer) (h : b1.view.length = b1.rows) (s e n : Nat) (pen : Pen)
    (hn : s = 0 → (0 < n ∨ e ≤ b1.rows)) (hne : n ≤ e) :
    genTail (join b1) s e n pen = (modTail b1 s e n pen).map join := by
  unfold genTail modTail
  by_cases hs : s = 0
  · have hn := hn hs
    simp only [hs, if_true, join_rows, join_cols, join_lines]
    by_cases her : e = b1.rows
    · simp only [her, if_true, GenB.extend, GenEqLine.blank_eq, Option.map_some]
      simp only [join, List.append_assoc, List.take_append_drop]
    · simp only [her, if_false, off_join _ _ _ h]
      rw [insertFold _ (b1.sb.length + e) (GenL.blank b1.cols pen)
        (fun g x => by cases GenL.insertAt g.lines (b1.sb.length + e) (GenL.blank b1.cols pen) <;> rfl)]
      simp only [List.length_range', join_lines, List.length_append]
      by_cases hle : e ≤ b1.rows
      · have c1 : n = 0 ∨ b1.sb.length + e ≤ b1.sb.length + b1.view.length := by omega
        have c2 : e ≤ b1.rows ∧ e ≤ b1.view.length := by omega
        simp only [c1, c2, and_self, if_true, Option.map_some, List.take_length_add_append,
          List.drop_length_add_append, GenEqLine.blank_eq]
        simp only [join, List.append_assoc, List.take_append_drop]
      · have c1 : ¬ (n = 0 ∨ b1.sb.length + e ≤ b1.sb.length + b1.view.length) := by omega
        have c2 : ¬ (e ≤ b1.rows ∧ e ≤ b1.view.length) := by omega
        simp only [c1, c2, if_false, Option.map_none]
  · simp only [hs, if_false, join_rows, join_cols, join_lines, off_join _ _ _ h, getRow_join, setRow_join,
      Buffer.unwrapRow, Buffer.updRow, modAtM]
    cases csub s 1 with
    | none => rfl
    | some s1 =>
      simp only []
      cases b1.view[s1]? with
      | none => rfl
      | some x =>
        have hv2 : (b1.view.set s1 { x with wrapped := false }).length = b1.rows := by simp [h]
        simp only [Option.map_some, off_join _ _ _ hv2, rotLRange_join]
        cases hv : rotLRange (b1.view.set s1 { x with wrapped := false }) s e n with
        | none => rfl
        | some v =>
          have hvl : v.length = b1.rows := by rw [rotLRange_length hv, hv2]
          have hc : csub e n = some (e - n) := csub_eq_some hne
          simp only [Option.map_some, hc]
          have := clear_sim { b1 with view := v } hvl (e - n) e pen
          simp only [join] at this ⊢
          rw [this]
          cases Buffer.clear { b1 with view := v } (e - n) e pen <;> rfl

theorem scrollUp_sim (b : Buffer) (h : b.view.length = b.rows) (s e n : Nat) (pen : Pen)
    (hn : 0 < n ∨ e ≤ b.rows) :
    GenB.scrollUp (join b) (s, e) n pen = (b.scrollUp s e n pen).map join := by
  have gshape : ∀ g : GenB.Buffer, GenB.scrollUp g (s, e) n pen =
      (match csub e s with
       | none => none
       | some x1 =>
         let n := min n x1
         let r1 :=
           match csub e 1 with
           | none => none
           | some x2 =>
             match csub g.rows 1 with
             | none => none
             | some x3 =>
               if x2 < x3 then
                 match csub e 1 with
                 | none => none
                 | some x4 =>
                   let len5 := g.lines.length
                   match csub len5 g.rows with
                   | none => none
                   | some x6 =>
                     match g.lines[x6 + x4]? with
                     | none => none
                     | some x7 =>
                       some { g with lines := List.set g.lines (x6 + x4) { x7 with wrapped := false } }
               else
                 some g
         match r1 with
         | none => none
         | some g => genTail g s e n pen) := fun g => rfl
  have mshape : b.scrollUp s e n pen =
      (match csub e s, csub e 1, csub b.rows 1 with
       | some h, some e1, some r1 =>
         let n := min n h
         match (if e1 < r1 then b.unwrapRow e1 else some b) with
         | none => none
         | some b1 => modTail b1 s e n pen
       | _, _, _ => none) := by
    unfold Buffer.scrollUp modTail
    cases csub e s <;> cases csub e 1 <;> cases csub b.rows 1 <;> rfl
  rw [gshape, mshape]
  simp only [join_lines, join_rows, off_join _ _ _ h, getRow_join, setRow_join]
  cases hh : csub e s with
  | none => rfl
  | some hh' =>
    cases csub e 1 with
    | none => rfl
    | some e1 =>
      cases csub b.rows 1 with
      | none => rfl
      | some r1 =>
        simp only []
        have hne : min n hh' ≤ e := by
          have := (csub_eq_some_iff.1 hh).2; omega
        have hn' : s = 0 → (0 < min n hh' ∨ e ≤ b.rows) := by
          intro hs
          have := csub_eq_some_iff.1 hh
          omega
        by_cases he : e1 < r1
        · simp only [he, if_true, Buffer.unwrapRow, Buffer.updRow, modAtM]
          cases b.view[e1]? with
          | none => rfl
          | some x =>
            simp only [Option.map_some]
            exact tail_sim { b with view := b.view.set e1 { x with wrapped := false } } (by simp [h]) s e _ pen
              hn' hne
        · simp only [he, if_false]
          exact tail_sim b h s e _ pen hn' hne

/-- DISCREPANCY between model and code, outside every caller's range (`Terminal` only scrolls ranges inside
    the view): `scroll_up(0..e, 0, pen)` with `e > rows` does not panic in the Rust code (the `for _ in 0..0`
    loop never calls `Vec::insert`), the model rejects it.  Concrete input: a 1-row buffer, range `0..2`, `n = 0`. -/
example :
    let b : Buffer := { sb := [], view := [Line.blank 1 Pen.default], cols := 1, rows := 1, limit := none,
                        trimNeeded := false }
    (GenB.scrollUp (join b) (0, 2) 0 Pen.default).isSome = true ∧ b.scrollUp 0 2 0 Pen.default = none := by
  decide

theorem new_sim (cols rows : Nat) (limit : Option Nat) (pen : Option Pen) :
    GenB.new cols rows limit pen = join (Buffer.new cols rows limit pen) := by
  simp only [GenB.new, Buffer.new, join, GenEqLine.blank_eq, GenEqLine.penDefault_eq, List.nil_append]
  cases limit <;> rfl

theorem view_sim (b : Buffer) (h : b.view.length = b.rows) : GenB.view (join b) = some b.view := by
  simp only [GenB.view, join_lines, join_rows, off_join _ _ _ h, GenL.slice]
  simp [List.take_of_length_le]

theorem lines_sim (b : Buffer) : GenB.lines (join b) = b.lines := rfl

theorem extend_eq (g : GenB.Buffer) (n cols : Nat) (pen : Pen) :
    GenB.extend g n cols pen = { g with lines := g.lines ++ List.replicate n (Line.blank cols pen) } := rfl

/-- one iteration of the `for line in &self.lines` loop of `text`, as the generated code writes it -/
def textStep : List Nat × List (List Nat) → Line → List Nat × List (List Nat) :=
  fun (current, text) line =>
    let current := current ++ (GenL.text line)
    if !line.wrapped then
      let text := text ++ [trimEnd current]
      let current := []
      (current, text)
    else
      (current, text)

def textFin (r : List Nat × List (List Nat)) : List (List Nat) :=
  if !r.1.isEmpty then r.2 ++ [trimEnd r.1] else r.2

theorem text_fold (ls : List Line) (cur : List Nat) (out : List (List Nat)) :
    textFin (List.foldl textStep (cur, out) ls) = out ++ Buffer.textGo ls cur := by
  induction ls generalizing cur out with
  | nil => simp only [List.foldl_nil, Buffer.textGo, textFin]; cases cur <;> simp
  | cons l ls ih =>
    simp only [List.foldl_cons, Buffer.textGo, textStep, GenEqLine.text_eq]
    cases l.wrapped
    · simp only [Bool.not_false, if_true]
      rw [ih]; simp
    · simp only [Bool.not_true, if_false, Bool.false_eq_true]
      rw [ih]

theorem text_eq (g : GenB.Buffer) : GenB.text g = Buffer.textGo g.lines [] := by
  have shape : GenB.text g = textFin (List.foldl textStep ([], []) g.lines) := rfl
  rw [shape, text_fold, List.nil_append]

theorem text_sim (b : Buffer) : GenB.text (join b) = b.text := text_eq (join b)

/-- one iteration of the loop of `logical_position`, as the generated code writes it -/
def logStep (cols : Nat) : Nat × Nat → Line → Nat × Nat :=
  fun (logColOffset, logRow) line =>
    if line.wrapped then
      let logColOffset := logColOffset + cols
      (logColOffset, logRow)
    else
      let logColOffset := 0
      let logRow := logRow + 1
      (logColOffset, logRow)

theorem log_fold (cols : Nat) (ls : List Line) (c r : Nat) :
    List.foldl (logStep cols) (c, r) ls = Buffer.logLoop cols ls c r := by
  induction ls generalizing c r with
  | nil => rfl
  | cons l ls ih =>
    simp only [List.foldl_cons, Buffer.logLoop, logStep]
    cases l.wrapped <;> simp only [if_true, if_false, Bool.false_eq_true] <;> exact ih _ _

theorem logicalPosition_eq (g : GenB.Buffer) (pos : Nat × Nat) (cols rows : Nat) :
    GenB.logicalPosition g pos cols rows = Buffer.logicalPosition g.lines pos cols rows := by
  have shape : GenB.logicalPosition g pos cols rows =
      (match csub g.lines.length rows with
       | none => none
       | some x1 =>
         match csub (pos.2 + x1) (min (pos.2 + x1) g.lines.length) with
         | none => none
         | some x2 =>
           let r := List.foldl (logStep cols) (0, x2) (List.take (pos.2 + x1) g.lines)
           some (pos.1 + r.1, r.2)) := rfl
  rw [shape]
  unfold Buffer.logicalPosition
  cases csub g.lines.length rows with
  | none => rfl
  | some off =>
    simp only [log_fold]
    rw [csub_eq_some (Nat.min_le_left _ _)]

theorem logicalPosition_sim (b : Buffer) (pos : Nat × Nat) (cols rows : Nat) :
    GenB.logicalPosition (join b) pos cols rows = Buffer.logicalPosition b.lines pos cols rows :=
  logicalPosition_eq (join b) pos cols rows

/-- `hard ≥ soft` for the scrollback limit (a clause of `BInv`: `hard = soft + soft / Gen.hardDiv`, the source's 10) -/
def limOK (b : Buffer) : Prop := ∀ lim, b.limit = some lim → lim.soft ≤ lim.hard

theorem limOK_of_BInv {b : Buffer} (hb : BInv b = true) : limOK b := by
  intro lim hl
  simp only [BInv, Bool.and_eq_true, hl] at hb
  have := hb.1.2
  simp only [beq_iff_eq] at this
  rw [this]; exact Nat.le_add_right _ _

theorem len_of_BInv {b : Buffer} (hb : BInv b = true) : b.view.length = b.rows := by
  simp only [BInv, Bool.and_eq_true] at hb
  simpa using hb.1.1.1.1.1.2

theorem trimScrollback_sim (b : Buffer) (h : b.view.length = b.rows) (hl : limOK b) :
    GenB.trimScrollback (join b) =
      some (match b.limit with
            | some lim =>
              if b.sb.length > lim.hard then
                (join { b with sb := b.sb.drop (b.sb.length - lim.soft) }, some (b.sb.take (b.sb.length - lim.soft)))
              else (join b, none)
            | none => (join b, none)) := by
  simp only [GenB.trimScrollback, join_limit, join_lines, join_rows, off_join _ _ _ h]
  cases hlim : b.limit with
  | none => rfl
  | some lim =>
    simp only []
    by_cases hgt : b.sb.length > lim.hard
    · have hs := hl lim hlim
      have hex : b.sb.length - lim.soft ≤ b.sb.length := Nat.sub_le _ _
      simp only [hgt, if_true, csub_eq_some (by omega : lim.soft ≤ b.sb.length), GenL.slice,
        List.length_append, List.drop_zero]
      have c : 0 ≤ b.sb.length - lim.soft ∧ b.sb.length - lim.soft ≤ b.sb.length + b.view.length := by omega
      simp only [c, and_self, if_true, List.take_append_of_le_length hex, List.drop_append_of_le_length hex]
      rfl
    · simp only [hgt, if_false]

/-- `Buffer::gc` returns an `Option` of the drained lines, the model a list, empty for `None` (as `Terminal::gc`
    reads it): hence `getD []`; when the generated result is `Some` is `gc_some_iff`. -/
theorem gc_sim (b : Buffer) (h : b.view.length = b.rows) (hl : limOK b) :
    (GenB.gc (join b)).map (fun r => (r.1, r.2.getD [])) = some (join b.gc.1, b.gc.2) := by
  unfold GenB.gc Buffer.gc
  cases ht : b.trimNeeded with
  | false => simp [join, ht]
  | true =>
    simp only [join_trim, ht, if_true]
    have := trimScrollback_sim { b with trimNeeded := false } h hl
    simp only [join] at this ⊢
    rw [this]
    cases b.limit with
    | none => rfl
    | some lim =>
      simp only [Option.map_some]
      by_cases hgt : b.sb.length > lim.hard <;> simp [hgt]

theorem gc_sim_BInv (b : Buffer) (hb : BInv b = true) :
    (GenB.gc (join b)).map (fun r => (r.1, r.2.getD [])) = some (join b.gc.1, b.gc.2) :=
  gc_sim b (len_of_BInv hb) (limOK_of_BInv hb)

/-- `gc` hands lines out exactly when the scrollback exceeded the hard limit -/
theorem gc_some_iff (b : Buffer) (h : b.view.length = b.rows) (hl : limOK b) (g : GenB.Buffer)
    (o : Option (List Line)) (hg : GenB.gc (join b) = some (g, o)) :
    o.isSome = true ↔ (b.trimNeeded = true ∧ ∃ lim, b.limit = some lim ∧ b.sb.length > lim.hard) := by
  unfold GenB.gc at hg
  cases ht : b.trimNeeded with
  | false => simp [join, ht] at hg; simp [← hg.2]
  | true =>
    simp only [join_trim, ht, if_true] at hg
    have := trimScrollback_sim { b with trimNeeded := false } h hl
    simp only [join] at this hg
    rw [this] at hg
    cases hlim : b.limit with
    | none => simp [hlim] at hg; simp [← hg.2]
    | some lim =>
      simp only [hlim, Option.some.injEq] at hg
      by_cases hgt : b.sb.length > lim.hard
      · simp only [hgt, if_true, Prod.mk.injEq] at hg; simp [← hg.2, hgt]
      · simp only [hgt, if_false, Prod.mk.injEq] at hg; simp [← hg.2, hgt]

/-- hand-kept list of the functions of buffer.rs with a simulation / equality theorem above -/
def provedFunctions : List String := [
  "Buffer::new", "Buffer::text", "Buffer::print", "Buffer::wrap", "Buffer::insert", "Buffer::delete",
  "Buffer::erase", "Buffer::scroll_up", "Buffer::scroll_down", "Buffer::logical_position", "Buffer::view",
  "Buffer::lines", "Buffer::gc", "Buffer::clear", "Buffer::extend", "Buffer::trim_scrollback"]

/-- each of them is a function the translator emitted.  The converse is `GenEqReflow.coverage_complete`: every
    emitted name is in this list or in that of GenEqReflow (`resize`, `relative_position`, `reflow`, `Reflow::next`). -/
theorem proved_are_translated : provedFunctions.all (fun f => GenB.translated.contains f) = true := by
  simp [provedFunctions, GenB.translated]

end Avt.GenEqBuffer
