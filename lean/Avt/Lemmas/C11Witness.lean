/-
  Avt.Lemmas.C11Witness — histories, reachability, the restore operation of property C11, and the
  evaluation harness for the known-finding witnesses (kernel-evaluated in Props/C11.lean; the one on a
  70000-column screen, whose history `kf7Hist` is defined here, in Lemmas/C11KF7Eval.lean).
-/
import Avt.Spec.C11
import Avt.Lemmas.Run

namespace Avt
namespace Lemmas.C11
open Avt.Spec.C11

/-- one public call -/
inductive HOp where
  | feedStr (s : List Nat)          -- `Vt::feed_str`
  | feedChars (s : List Nat)        -- `Vt::feed` per character (no `changes()`/`gc()`)
  | resize (cols rows : Nat)        -- `Vt::resize`
  deriving DecidableEq, Repr

def HOp.run (v : Vt) : HOp → Option Vt
  | .feedStr s => (v.feedStr s).map (·.1)
  | .feedChars s => v.feedAll s
  | .resize c r => (v.resize c r).map (·.1)

def runHist (v : Vt) : List HOp → Option Vt
  | [] => some v
  | op :: rest => match op.run v with | some v' => runHist v' rest | none => none

/-- a `feed_str` call at the head of a history, when its input makes the parser emit the one function `f` -/
theorem runHist_feedStr {p q : Parser} {t t' : Terminal} {s : List Nat} {f : Function} (rest : List HOp)
    (hp : Spec.C03.run p s = some (q, [f])) (he : t.execute f = some t') :
    runHist ⟨p, t⟩ (.feedStr s :: rest) = runHist ⟨q, Spec.finishT t'⟩ rest := by
  simp only [runHist, HOp.run, Option.map_some,
    Run.feedStr_of_run (v := ⟨p, t⟩) hp ((Terminal.foldM'_single ..).trans he)]

theorem runHist_append (v : Vt) (xs ys : List HOp) :
    runHist v (xs ++ ys) = (runHist v xs).bind fun v' => runHist v' ys := by
  induction xs generalizing v with
  | nil => rfl
  | cons x xs ih =>
    simp only [List.cons_append, runHist]
    cases x.run v with
    | none => rfl
    | some v' => exact ih v'

/-- reachable: built by `Vt::new` and driven through public calls only (resizes to `≥ 1x1`) -/
def Reach (s : Vt) : Prop :=
  ∃ cols rows lim hist, 1 ≤ cols ∧ 1 ≤ rows
    ∧ (∀ op ∈ hist, ∀ c r, op = HOp.resize c r → 1 ≤ c ∧ 1 ≤ r)
    ∧ (Vt.new cols rows lim).bind (fun v => runHist v hist) = some s

theorem Reach.feedAll {s s' : Vt} (h : Reach s) (xs : List Nat) (hf : s.feedAll xs = some s') : Reach s' := by
  obtain ⟨cols, rows, lim, hist, h1, h2, h3, h4⟩ := h
  refine ⟨cols, rows, lim, hist ++ [.feedChars xs], h1, h2, ?_, ?_⟩
  · intro op hop c r he
    rcases List.mem_append.mp hop with hop | hop
    · exact h3 op hop c r he
    · simp only [List.mem_singleton] at hop; subst hop; cases he
  · cases hn : Vt.new cols rows lim with
    | none => simp [hn] at h4
    | some v =>
      simp only [hn, Option.bind_some] at h4 ⊢
      rw [runHist_append, h4]
      simp [runHist, HOp.run, hf]

/-- `dump()` fed into a fresh terminal of the same size (built without scrollback limit, as the
    property says) -/
def restoreOf (s : Vt) : Option Vt :=
  match s.dump, Vt.new s.terminal.cols s.terminal.rows none with
  | some d, some f => (f.feedStr d).map (·.1)
  | _, _ => none

theorem restoreOf_eq_some {s r : Vt} (h : restoreOf s = some r) :
    ∃ d f ch, s.dump = some d ∧ Vt.new s.terminal.cols s.terminal.rows none = some f
      ∧ f.feedStr d = some (r, ch) := by
  unfold restoreOf at h
  split at h
  · rename_i d f hd hn
    obtain ⟨⟨r', ch⟩, hf, rfl⟩ := Option.map_eq_some_iff.1 h
    exact ⟨d, f, ch, hd, hn, hf⟩
  · cases h

/-- the restored terminal is itself reachable (one `feed_str` on a fresh terminal) -/
theorem Reach.restore {s r : Vt} (hc : 1 ≤ s.terminal.cols) (hr : 1 ≤ s.terminal.rows)
    (h : restoreOf s = some r) : Reach r := by
  obtain ⟨d, f, ch, -, hn, hf⟩ := restoreOf_eq_some h
  refine ⟨s.terminal.cols, s.terminal.rows, none, [.feedStr d], hc, hr, fun op hop c r' he => ?_, ?_⟩
  · cases (List.mem_singleton.1 hop).symm.trans he
  · simp only [hn, Option.bind_some, runHist, HOp.run, hf, Option.map_some]

/-- what a witness run shows: the findings the classifier attributes to the dumped state, and
    whether original and restored agree (normal form / public observation) right after the restore
    and after an identical probe on both -/
structure Outcome where
  findings : List Finding
  sameAtRestore : Bool
  obsSameAtRestore : Bool
  sameAfterProbe : Bool
  obsSameAfterProbe : Bool
  deriving DecidableEq, Repr

def witness (cols rows : Nat) (hist : List HOp) (probe : List Nat) : Option Outcome := do
  let v0 ← Vt.new cols rows none
  let s ← runHist v0 hist
  let r ← restoreOf s
  let (s', _) ← s.feedStr probe
  let (r', _) ← r.feedStr probe
  pure { findings := findings s.terminal,
         sameAtRestore := normD s == normD r, obsSameAtRestore := obs s == obs r,
         sameAfterProbe := normD s' == normD r', obsSameAfterProbe := obs s' == obs r' }

end Lemmas.C11

-- the namespace of the witness histories of Props/C11.lean (`kf1Hist` …); `kf7Hist` is here because
-- Lemmas/C11KF7Eval.lean, which evaluates it, does not import that file
namespace Props.C11
open Lemmas.C11

def esc : Nat := 0x1b

/-- KF7 witness (known/KF7.script), 70000x1: `CSI ?1047h`, `CSI 65535 C`, `CSI 1 C` (column 65536), `ESC 7`,
    `CSI ?1047l`, resize 10x1.  The state is reachable, none of KF1/KF2/KF3/KF6 applies (`sizeExceedsU16` looks
    at the CURRENT size), `dump()` contains `CSI 1;65537 H`, and the restored parked context has column 0
    instead of the clamped 9.  Checked in Avt/Lemmas/C11KF7Eval.lean (the kernel never walks the 70000-cell
    row: it is blank by the frame theorems of C16, and its resize is a lemma). -/
def kf7Hist : List HOp :=
  [.feedStr [esc, 0x5b, 0x3f, 0x31, 0x30, 0x34, 0x37, 0x68], .feedStr [esc, 0x5b, 0x36, 0x35, 0x35, 0x33, 0x35, 0x43],
   .feedStr [esc, 0x5b, 0x31, 0x43], .feedStr [esc, 0x37], .feedStr [esc, 0x5b, 0x3f, 0x31, 0x30, 0x34, 0x37, 0x6c],
   .resize 10 1]

end Props.C11
end Avt
