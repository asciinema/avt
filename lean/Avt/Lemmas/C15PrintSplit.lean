/-
  Avt.Lemmas.C15PrintSplit — `Terminal.print` cut into its stages: resolving a pending wrap
  (`printWrapPhase`, itself `wrapAtBottom` or `wrapElsewhere`), writing the cell and advancing
  (`printCellPhase`), flagging the row; `print_eq` puts them together, `print_stages` reads them off
  a `print` that returned.  Statements about `print` are proved stage by stage.
-/
import Avt.Model.Vt

namespace Avt
namespace Terminal

/-- pending wrap with the cursor on the bottom margin: mark the row, scroll the region, and (when the
    region ends above the last row) re-mark the row that moved up -/
def wrapAtBottom (t : Terminal) : Option Terminal :=
  match t.buffer.wrap t.cursor.row with
  | none => none
  | some b =>
    match ({ t with buffer := b } : Terminal).scrollUpInRegion 1 with
    | none => none
    | some t =>
      match csub t.rows 1 with
      | none => none
      | some r1 =>
        if t.bottomMargin < r1 then
          match csub t.bottomMargin 1 with
          | none => none
          | some bm1 => (t.buffer.wrap bm1).map fun b => { t with buffer := b }
        else some t

/-- pending wrap with the cursor elsewhere: mark the row and move down (unless on the last row) -/
def wrapElsewhere (t : Terminal) : Option Terminal :=
  match csub t.rows 1 with
  | none => none
  | some r1 =>
    if t.cursor.row < r1 then
      match t.buffer.wrap t.cursor.row with
      | none => none
      | some b => ({ t with buffer := b } : Terminal).doMoveCursorToRow (t.cursor.row + 1)
    else some t

/-- first half of `Terminal.print`: resolve a pending wrap -/
def printWrapPhase (t : Terminal) : Option Terminal :=
  if t.autoWrapMode && t.pendingWrap then
    let t := t.doMoveCursorToCol 0
    if t.cursor.row = t.bottomMargin then t.wrapAtBottom else t.wrapElsewhere
  else some t

/-- second half of `Terminal.print`: write the cell and advance -/
def printCellPhase (t : Terminal) (cell : Cell) : Option Terminal :=
  let nextCol := t.cursor.col + 1
  if nextCol ≥ t.cols then
    match csub t.cols 1 with
    | none => none
    | some c1 =>
      match t.buffer.print c1 t.cursor.row cell with
      | none => none
      | some b =>
        let t := { t with buffer := b }
        if t.autoWrapMode then some { t.doMoveCursorToCol t.cols with pendingWrap := true }
        else some t
  else
    let b := if t.insertMode then t.buffer.insert t.cursor.col t.cursor.row 1 cell
             else t.buffer.print t.cursor.col t.cursor.row cell
    match b with
    | none => none
    | some b => some (({ t with buffer := b } : Terminal).doMoveCursorToCol nextCol)

theorem print_eq (t : Terminal) (ch : Nat) :
    t.print ch =
      match t.activeCharsetValue with
      | none => none
      | some cs =>
        match cs.translate ch with
        | none => none
        | some ch' =>
          match t.printWrapPhase with
          | none => none
          | some t1 =>
            match t1.printCellPhase ⟨ch', t.pen⟩ with
            | none => none
            | some t2 => t2.markDirty t2.cursor.row := rfl

theorem print_stages {t t' : Terminal} {ch : Nat} (h : t.print ch = some t') :
    ∃ (cs : Charset) (ch' : Nat) (t1 t2 : Terminal), cs.translate ch = some ch' ∧ t.printWrapPhase = some t1
      ∧ t1.printCellPhase ⟨ch', t.pen⟩ = some t2 ∧ t2.markDirty t2.cursor.row = some t' := by
  rw [print_eq] at h
  split at h
  · cases h
  · split at h
    · cases h
    · rename_i hch
      split at h
      · cases h
      · rename_i h1
        split at h
        · cases h
        · rename_i h2
          exact ⟨_, _, _, _, hch, h1, h2, h⟩

end Terminal
end Avt
