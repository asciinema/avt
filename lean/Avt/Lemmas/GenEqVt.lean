/-
  Avt.Lemmas.GenEqVt — the generated translation of src/vt.rs and src/util.rs (Avt/Gen/VtGen.lean, regenerated
  from /repo/src by translate/rs2lean_buf.py on every run) EQUALS the hand-written model (`Avt.Vt.*`,
  `unwrapPush`/`unwrapMany`/`unwrapFlush`, `Avt.TextCollector.*`), for all inputs; for `TextCollector` through the
  abstraction `absTC`, the generated collector holding a `TextUnwrapper` where the model holds its `wrappedLine`.
  The generated code calls the generated `GenT.*` functions of terminal.rs (equal to the model by
  Lemmas/GenEq.lean) and, for `Parser::feed`, `Terminal::dump` and `Parser::dump`, the MODEL's `Parser.feed` (the
  table interpreter of DESIGN section 4.1), `Terminal.dump` and `Parser.dump`; the two dumps are tied to the
  source in GenEqDump, the constructors that rs2lean_buf.py leaves out (`untranslatedFunctions`) in GenEqCtor.
-/
import Avt.Gen.VtGen
import Avt.Lemmas.GenEq
import Avt.Lemmas.GenEqLine
import Avt.Lemmas.FoldM


namespace Avt.GenEqVt
open Avt

/-! ### vt.rs -/

theorem feed_eq (v : Vt) (c : Nat) : GenV.feed v c = Vt.feed v c := by
  simp only [GenV.feed, Vt.feed, GenEq.execute_eq]
  cases v.parser.feed c with
  | none => rfl
  | some r =>
    obtain ⟨p, o⟩ := r
    cases o with
    | none => rfl
    | some f => simp only []; cases v.terminal.execute f <;> rfl

theorem foldM'_feedAll (f : Vt → Nat → Option Vt) (hf : ∀ v c, f v c = Vt.feed v c) (s : List Nat) (v : Vt) :
    Terminal.foldM' f s v = Vt.feedAll v s := by
  rw [show f = Vt.feed from funext fun v => funext (hf v), Vt.feedAll_eq_foldM']

/-- the tail shared by `feed_str` and `resize`: `changes()` then `gc()` -/
theorem finish_eq (v : Vt) :
    (let (x5, x4) := GenT.changes v.terminal
     let v := { v with terminal := x5 }
     let lines := x4
     let (x7, x6) := GenT.gc v.terminal
     let v := { v with terminal := x7 }
     let scrollback := x6
     (v, ({ lines := lines, scrollback := scrollback } : Changes))) = Vt.finish v := by
  simp only [GenEq.changes_eq, GenEq.gc_eq, Vt.finish]

theorem feedStr_eq (v : Vt) (s : List Nat) : GenV.feedStr v s = Vt.feedStr v s := by
  unfold GenV.feedStr Vt.feedStr
  -- `feed_str` does not call `feed`: its `filter_map` / `for_each` are fused into one fold whose closure is the
  -- body of `GenV.feed` up to the order of the `match` arms, so the step is `feed_eq`, unfolded
  rw [foldM'_feedAll _ (fun v c => by
    have := feed_eq v c
    simp only [GenV.feed] at this
    cases h : v.parser.feed c with
    | none => simp only [h] at this ⊢; exact this
    | some r =>
      obtain ⟨p, o⟩ := r
      simp only [h] at this ⊢
      cases o <;> exact this) s v]
  cases Vt.feedAll v s with
  | none => rfl
  | some v' => simp only [Option.map_some]; exact congrArg some (finish_eq v')

theorem resize_eq (v : Vt) (cols rows : Nat) : GenV.resize v cols rows = Vt.resize v cols rows := by
  unfold GenV.resize Vt.resize
  rw [← GenEq.resize_eq]
  cases GenT.resize v.terminal cols rows with
  | none => rfl
  | some r =>
    obtain ⟨t, flag⟩ := r
    simp only [Option.map_some]
    exact congrArg some (finish_eq { v with terminal := t })

theorem size_eq (v : Vt) : GenV.size v = v.size := rfl
theorem view_eq (v : Vt) : GenV.view v = v.view := rfl
theorem lines_eq (v : Vt) : GenV.lines v = v.lines := rfl
theorem line_eq (v : Vt) (n : Nat) : GenV.line v n = v.line n := rfl
theorem text_eq (v : Vt) : GenV.text v = v.text := rfl
theorem cursor_eq (v : Vt) : GenV.cursor v = v.cursor := rfl
theorem cursorKeyAppMode_eq (v : Vt) : GenV.cursorKeyAppMode v = v.cursorKeyAppMode := rfl

theorem dump_eq (v : Vt) : GenV.dump v = v.dump := by
  unfold GenV.dump Vt.dump
  cases v.terminal.dump <;> cases v.parser.dump <;> rfl

/-! ### util.rs -/

/-- `TextUnwrapper` is the model's accumulator -/
theorem TextUnwrapper.push_eq (u : GenV.TextUnwrapper) (l : Line) :
    GenV.TextUnwrapper.push u l
      = (⟨(unwrapPush u.wrappedLine l).1⟩, (unwrapPush u.wrappedLine l).2) := by
  unfold GenV.TextUnwrapper.push unwrapPush
  simp only [GenEqLine.text_eq]
  cases l.wrapped <;> rfl

theorem TextUnwrapper.flush_eq (u : GenV.TextUnwrapper) :
    GenV.TextUnwrapper.flush u = unwrapFlush u.wrappedLine := rfl

/-- abstraction: the generated collector keeps a `TextUnwrapper`, the model its accumulator -/
def absTC (tc : GenV.TextCollector) : Avt.TextCollector := { vt := tc.vt, acc := tc.unwrapper.wrappedLine }

/-- one step of the effectful `filter_map(|l| self.unwrapper.push(&l))` as the generated code writes it: a hand copy
    of the lambda in `GenV.TextCollector.feedStr` / `.resize`, tied to it only by the `exact collect_eq …` below -/
def stepTC : GenV.TextCollector × List (List Nat) → Line → GenV.TextCollector × List (List Nat) :=
  fun (tc, out3) l =>
    let (x7, x6) := GenV.TextUnwrapper.push tc.unwrapper l
    let tc := { tc with unwrapper := x7 }
    match x6 with
    | none => (tc, out3)
    | some x8 =>
      let out3 := out3 ++ [x8]
      (tc, out3)

/-- the same over a local `unwrapper` (`TextCollector::flush`), tied to the generated text by `shape` in `flush_eq` -/
def stepU : GenV.TextUnwrapper × List (List Nat) → Line → GenV.TextUnwrapper × List (List Nat) :=
  fun (unwrapper, out1) l =>
    let (x5, x4) := GenV.TextUnwrapper.push unwrapper l
    let unwrapper := x5
    match x4 with
    | none => (unwrapper, out1)
    | some x6 =>
      let out1 := out1 ++ [x6]
      (unwrapper, out1)

theorem stepTC_eq (vt : Vt) (acc : List Nat) (out : List (List Nat)) (l : Line) :
    stepTC (⟨vt, ⟨acc⟩⟩, out) l = (⟨vt, ⟨(unwrapPush acc l).1⟩⟩, out ++ (unwrapPush acc l).2.toList) := by
  simp only [stepTC, TextUnwrapper.push_eq]
  cases (unwrapPush acc l).2 <;> simp

theorem stepU_eq (acc : List Nat) (out : List (List Nat)) (l : Line) :
    stepU (⟨acc⟩, out) l = (⟨(unwrapPush acc l).1⟩, out ++ (unwrapPush acc l).2.toList) := by
  simp only [stepU, TextUnwrapper.push_eq]
  cases (unwrapPush acc l).2 <;> simp

/-- consumed in order, the effectful `filter_map` is the model's `unwrapMany`; `mk` is what the generated code
    keeps around the accumulated line (the whole `TextCollector`, or the bare `TextUnwrapper`) -/
theorem fold_unwrap {σ : Type} (mk : List Nat → σ) (step : σ × List (List Nat) → Line → σ × List (List Nat))
    (hstep : ∀ acc out l, step (mk acc, out) l = (mk (unwrapPush acc l).1, out ++ (unwrapPush acc l).2.toList))
    (ls : List Line) (acc : List Nat) (out : List (List Nat)) :
    List.foldl step (mk acc, out) ls = (mk (unwrapMany acc ls).1, out ++ (unwrapMany acc ls).2) := by
  induction ls generalizing acc out with
  | nil => simp [unwrapMany]
  | cons l ls ih =>
    simp only [List.foldl_cons, hstep, ih, unwrapMany]
    cases (unwrapPush acc l).2 <;> simp

theorem fold_unwrapMany (ls : List Line) (vt : Vt) (acc : List Nat) (out : List (List Nat)) :
    List.foldl stepTC (⟨vt, ⟨acc⟩⟩, out) ls
      = (⟨vt, ⟨(unwrapMany acc ls).1⟩⟩, out ++ (unwrapMany acc ls).2) :=
  fold_unwrap (fun a => ⟨vt, ⟨a⟩⟩) stepTC (stepTC_eq vt) ls acc out

theorem fold_unwrapMany' (ls : List Line) (acc : List Nat) (out : List (List Nat)) :
    List.foldl stepU (⟨acc⟩, out) ls = (⟨(unwrapMany acc ls).1⟩, out ++ (unwrapMany acc ls).2) :=
  fold_unwrap (fun a => ⟨a⟩) stepU stepU_eq ls acc out

/-- `feed_str` and `resize` of the collector: the `Vt`'s, then the scrollback it reports goes through the unwrapper.
    `o` is taken from `h`: with `o := GenV.feedStr vt s` (`GenV.resize …`) the left side has to be the generated
    body up to defeq, `stepTC` for its lambda; the `exact` of the two users is where that is checked. -/
theorem collect_eq {o o' : Option (Vt × Changes)} (h : o = o') (acc : List Nat) :
    (match o with
      | none => none
      | some (x2, x1) => some (List.foldl stepTC (⟨x2, ⟨acc⟩⟩, []) x1.scrollback)).map
        (fun r : GenV.TextCollector × List (List Nat) => (absTC r.1, r.2))
      = o'.map fun (v, ch) =>
          let (acc, out) := unwrapMany acc ch.scrollback
          ({ vt := v, acc := acc }, out) := by
  subst h
  cases o with
  | none => rfl
  | some r => simp only [Option.map_some, fold_unwrapMany, List.nil_append, absTC]

theorem TextCollector.feedStr_eq (tc : GenV.TextCollector) (s : List Nat) :
    (GenV.TextCollector.feedStr tc s).map (fun r => (absTC r.1, r.2)) = (absTC tc).feedStr s := by
  obtain ⟨vt, ⟨acc⟩⟩ := tc
  exact collect_eq (GenEqVt.feedStr_eq vt s) acc

theorem TextCollector.resize_eq (tc : GenV.TextCollector) (cols rows : Nat) :
    (GenV.TextCollector.resize tc cols rows).map (fun r => (absTC r.1, r.2)) = (absTC tc).resize cols rows := by
  obtain ⟨vt, ⟨acc⟩⟩ := tc
  exact collect_eq (GenEqVt.resize_eq vt cols rows) acc

theorem TextCollector.flush_eq (tc : GenV.TextCollector) :
    GenV.TextCollector.flush tc = (absTC tc).flush := by
  obtain ⟨vt, ⟨acc⟩⟩ := tc
  have shape : GenV.TextCollector.flush ⟨vt, ⟨acc⟩⟩ =
      (let r := List.foldl stepU (⟨acc⟩, []) (GenV.lines vt)
       GenL.popWhile (fun x => x.isEmpty) (r.2 ++ Option.toList (GenV.TextUnwrapper.flush r.1))) := rfl
  rw [shape]
  unfold Avt.TextCollector.flush
  simp only [absTC, lines_eq, GenEqLine.popWhile_eq, Avt.TextCollector.dropTrailingEmpty,
    TextUnwrapper.flush_eq, fold_unwrapMany', List.nil_append]

/-- hand-kept list of the functions of vt.rs / util.rs with an equality theorem above -/
def provedFunctions : List String := [
  "Vt::feed_str", "Vt::feed", "Vt::size", "Vt::resize", "Vt::view", "Vt::lines", "Vt::line", "Vt::text",
  "Vt::cursor", "Vt::cursor_key_app_mode", "Vt::dump", "TextUnwrapper::push", "TextUnwrapper::flush",
  "TextCollector::feed_str", "TextCollector::resize", "TextCollector::flush"]

/-- constructors through `Builder` / derived `Default`, which translate/rs2lean_buf.py leaves out (the model has
    `Vt.new` directly).  rs2lean_p5.py translates the four into Gen/CtorGen.lean; GenEqCtor has them. -/
def untranslatedFunctions : List String :=
  ["Vt::builder", "Vt::new", "TextUnwrapper::new", "TextCollector::new"]

/-- the translator's list against the hand-kept one: a function entering or leaving the translated set fails
    here.  That every listed name has its theorem is by inspection. -/
theorem coverage_complete : GenV.translated = provedFunctions := rfl

theorem untranslated_as_expected : GenV.untranslated.length = untranslatedFunctions.length := by decide

end Avt.GenEqVt
