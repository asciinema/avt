/-
  Avt.Lemmas.FrameVt — the frame lemma lifted to `Vt`: a string (`feedAll`), the tail of
  `feed_str` (`finish` = `changes()` + `gc()`), and the connection with the decidable predicates of
  Spec/C12.
-/
import Avt.Lemmas.FrameExec
import Avt.Lemmas.FoldM
import Avt.Lemmas.InvTerminal
import Avt.Spec.C12
import Avt.Spec.C14
import Avt.Lemmas.Run

namespace Avt.Frame
open Avt

/-- `Rel` on the terminals; the parsers are equal, so the two runs execute the same functions -/
structure VRel (P : Par) (u v : Vt) : Prop where
  parser : u.parser = v.parser
  term : Rel P u.terminal v.terminal

/-- `Option.Rel (Reached P noRis)` (FrameExec.lean) for `Vt`: the parameters move by `Step`.  Not the
    `Vt` form of `RelX`, which fixes `P'.prim` and has no `noRis`. -/
def VRelX (P : Par) (noRis : Prop) : Option Vt → Option Vt → Prop
  | some u', some v' => ∃ P', VRel P' u' v' ∧ Step P P' noRis
  | none, none => True
  | _, _ => False

theorem VRelX.elim {P n} {ou ov : Option Vt} (h : VRelX P n ou ov) :
    (ou = none ∧ ov = none) ∨ ∃ u v P', ou = some u ∧ ov = some v ∧ VRel P' u v ∧ Step P P' n :=
  match ou, ov, h with
  | none, none, _ => .inl ⟨rfl, rfl⟩
  | some u, some v, ⟨P', R, st⟩ => .inr ⟨u, v, P', rfl, rfl, R, st⟩
  | some _, none, h => False.elim h
  | none, some _, h => False.elim h

theorem VRelX.mono {P n n'} {ou ov : Option Vt} (h : VRelX P n ou ov) (hn : n' → n) : VRelX P n' ou ov := by
  cases ou <;> cases ov <;> simp_all [VRelX]
  obtain ⟨P', R, st⟩ := h
  exact ⟨P', R, st.mono hn⟩

theorem feedAll_append (v : Vt) (xs ys : List Nat) :
    v.feedAll (xs ++ ys) = match v.feedAll xs with | some v' => v'.feedAll ys | none => none := by
  simp only [Vt.feedAll_eq_foldM', Terminal.foldM'_append]
  cases Terminal.foldM' Vt.feed xs v <;> rfl

/-- the two parsers run alike and never look at the terminal: what is left is `execAll_rel` on the
    functions emitted -/
theorem feedAll_rel {P : Par} {u v : Vt} (R : VRel P u v) (hg : P.g = true) (xs : List Nat)
    (hs : P.s = true ∨ Function.ris ∉ emitted v.parser xs) :
    VRelX P (Function.ris ∉ emitted v.parser xs) (u.feedAll xs) (v.feedAll xs) := by
  rw [Run.feedAll_eq_run, Run.feedAll_eq_run, R.parser]
  cases hr : Spec.C03.run v.parser xs with
  | none => trivial
  | some r =>
    rw [emitted_of_run (fs := r.2) hr] at hs ⊢
    rcases (execAll_rel R.term hg r.2 hs).none_or_some with ⟨h1, h2⟩ | ⟨_, _, h1, h2, P', R', st⟩ <;>
      simp only [Option.bind_some, h1, h2, Option.map_none, Option.map_some]
    · trivial
    · exact ⟨P', ⟨rfl, R'⟩, st⟩

/-- `finish` on the smaller side: the extra scrollback of the primary buffer grows by exactly what is
    handed out; nothing is handed out on the alternate screen -/
theorem finish_rel {P : Par} {u v : Vt} (R : VRel P u v) :
    ∃ P', VRel P' u (v.finish).1 ∧ P'.g = P.g ∧ P'.s = P.s ∧ P'.L = P.L ∧ P'.T = P.T
      ∧ P'.prim = P.prim ++ (v.finish).2.scrollback := by
  refine ⟨{ P with pa := P.pa ++ (v.terminal.buffer.gc).2 }, ⟨R.parser, ?_⟩, rfl, rfl, rfl, rfl, ?_⟩
  · rw [Vt.finish_eq, Spec.finishT_eq]
    exact { R.term with
      buf := gc_rel_right R.term.buf
      dirty := by simp [Dirty.clear, R.term.dirty] }
  · rw [Vt.finish_eq]
    have hT : v.terminal.activeBufferType = P.T := R.term.activeBufferType.symm.trans R.term.abt
    rw [hT]
    unfold Par.prim
    cases P.T <;> simp

theorem finish_unlimited {P : Par} {u v : Vt} (R : VRel P u v) (hs : P.s = true) (hL : P.L = none) :
    (v.finish).2.scrollback = [] := by
  rw [Vt.finish_eq]
  split
  · rfl
  · rename_i hT
    have hT' : P.T = .primary := by
      have : v.terminal.activeBufferType = P.T := R.term.activeBufferType.symm.trans R.term.abt
      cases h : P.T
      · rfl
      · rw [h] at this; exact absurd this hT
    have hl : v.terminal.buffer.limit = none := by
      rw [← R.term.buf.limit hs, R.term.limA]
      simp [Par.activeLimit, hT', hL]
    exact (gc_unlimited _ hl).1

theorem Rel.ofTInv {t : Terminal} (h : TInv t = true) :
    Rel ⟨true, true, t.scrollbackLimit, t.activeBufferType, [], []⟩ t t := by
  have k := TOK.of_TInv h
  refine Rel.self true true rfl rfl k.xt (fun _ => k.bcols) (fun _ => k.brows) k.bok.hv k.ook.hv ?_ fun hT => ?_
  · unfold Par.activeLimit
    rcases k.lim with ⟨hT, hl⟩ | ⟨hT, hl, _⟩ <;> simp only [hT, hl]
  · exact k.lim_parked hT

theorem VRel.ofInv {v : Vt} (h : Inv v = true) :
    VRel ⟨true, true, v.terminal.scrollbackLimit, v.terminal.activeBufferType, [], []⟩ v v := by
  simp only [Inv, Bool.and_eq_true] at h
  exact ⟨rfl, Rel.ofTInv h.2⟩

theorem isSuffix_append (c y : List Line) : Spec.C12.isSuffix y (c ++ y) = true := by
  simp [Spec.C12.isSuffix]

theorem sbCompatible_of {p q x y : List Line} (h : p ++ x = q ++ y) :
    Spec.C12.sbCompatible x y = true := by
  unfold Spec.C12.sbCompatible
  rcases List.append_eq_append_iff.mp h with ⟨c, _, hc⟩ | ⟨c, _, hc⟩
  · rw [hc]; simp [isSuffix_append]
  · rw [hc]; simp [isSuffix_append]

theorem bufEqv_of {p q : List Line} {w x y : Buffer} (h1 : BRel true p w x) (h2 : BRel true q w y) :
    Spec.C12.bufEqv x y = true := by
  unfold Spec.C12.bufEqv
  have hs : Spec.C12.sbCompatible x.sb y.sb = true :=
    sbCompatible_of (p := p) (q := q) (by rw [← h1.sb, ← h2.sb])
  simp [← h1.view, ← h2.view, ← h1.cols, ← h2.cols, ← h1.rows, ← h2.rows, ← h1.limit rfl, ← h2.limit rfl, hs]

theorem termEqv_of {P Q : Par} {w x y : Terminal} (R1 : Rel P w x) (R2 : Rel Q w y)
    (h1 : P.s = true) (h2 : Q.s = true) : Spec.C12.termEqv x y = true := by
  have hb : Spec.C12.bufEqv x.buffer y.buffer = true :=
    bufEqv_of (h1 ▸ R1.buf) (h2 ▸ R2.buf)
  have ho : Spec.C12.bufEqv x.otherBuffer y.otherBuffer = true :=
    bufEqv_of (h1 ▸ R1.other) (h2 ▸ R2.other)
  have hsl : x.scrollbackLimit = y.scrollbackLimit := by
    rw [R1.slB h1, R2.slB h2, ← R1.slA, ← R2.slA]
  unfold Spec.C12.termEqv Spec.C12.scalarsEq
  simp [hb, ho, hsl, ← R1.cols, ← R2.cols, ← R1.rows, ← R2.rows, ← R1.activeBufferType,
    ← R2.activeBufferType, ← R1.cursor, ← R2.cursor, ← R1.pen, ← R2.pen, ← R1.charsets, ← R2.charsets,
    ← R1.activeCharset, ← R2.activeCharset, ← R1.tabs, ← R2.tabs, ← R1.insertMode, ← R2.insertMode,
    ← R1.originMode, ← R2.originMode, ← R1.autoWrapMode, ← R2.autoWrapMode, ← R1.newLineMode,
    ← R2.newLineMode, ← R1.cursorKeysMode, ← R2.cursorKeysMode, ← R1.pendingWrap, ← R2.pendingWrap,
    ← R1.topMargin, ← R2.topMargin, ← R1.bottomMargin, ← R2.bottomMargin, ← R1.savedCtx, ← R2.savedCtx,
    ← R1.alternateSavedCtx, ← R2.alternateSavedCtx, ← R1.xtwinops, ← R2.xtwinops, ← R1.dirty, ← R2.dirty]

theorem equivChunk_of {P Q : Par} {w x y : Vt} (R1 : VRel P w x) (R2 : VRel Q w y)
    (h1 : P.s = true) (h2 : Q.s = true) : Spec.C12.equivChunk x y = true := by
  unfold Spec.C12.equivChunk
  simp [← R1.parser, ← R2.parser, termEqv_of R1.term R2.term h1 h2]

/-- the primary scrollback agrees when neither side has dropped anything of it -/
theorem primarySb_of {P Q : Par} {w x y : Terminal} (R1 : Rel P w x) (R2 : Rel Q w y)
    (h1 : P.prim = []) (h2 : Q.prim = []) : x.primaryBuffer.sb = y.primaryBuffer.sb := by
  have hT : P.T = Q.T := R1.abt.symm.trans R2.abt
  unfold Terminal.primaryBuffer
  rw [← R1.activeBufferType, ← R2.activeBufferType]
  unfold Par.prim at h1 h2
  rw [← hT] at h2
  have ha := R1.abt
  cases hP : P.T <;> rw [hP] at h1 h2 ha <;> simp only [] at h1 h2 <;> simp only [ha]
  · have e1 := R1.buf.sb; have e2 := R2.buf.sb
    rw [h1] at e1; rw [h2] at e2
    simpa using e1.symm.trans e2
  · have e1 := R1.other.sb; have e2 := R2.other.sb
    rw [h1] at e1; rw [h2] at e2
    simpa using e1.symm.trans e2

end Avt.Frame
