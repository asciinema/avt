/-
  Avt.Lemmas.PowerOn — `Terminal.new`, `Vt.new`, `Terminal.hardReset` and `Terminal.softReset` read once.
  Each is a checked `rows - 1` followed by a record, so each succeeds exactly when `1 ≤ rows`, and the
  result is that record at `rows - 1`: the power-on terminal `freshT` for the two `new`, and for
  `hardReset` up to `xtwinops`, which it does not assign.
-/
import Avt.Model.Vt
import Avt.Lemmas.Prim

namespace Avt
namespace Lemmas.C11

/-- the power-on terminal (for `rows ≥ 1`) -/
def freshT (cols rows : Nat) (lim : Option Nat) : Terminal :=
  { cols := cols, rows := rows,
    buffer := Buffer.new cols rows lim none,
    otherBuffer := Buffer.new cols rows (some 0) none,
    activeBufferType := .primary,
    scrollbackLimit := lim,
    cursor := {}, pen := {}, charsets := (.ascii, .ascii), activeCharset := 0,
    tabs := Tabs.new cols,
    insertMode := false, originMode := false, autoWrapMode := true, newLineMode := false,
    cursorKeysMode := .normal, pendingWrap := false, topMargin := 0, bottomMargin := rows - 1,
    savedCtx := {}, alternateSavedCtx := {}, dirtyLines := Dirty.new rows, xtwinops := false }

/-- what `hard_reset` leaves: the power-on terminal of the same size and limit; `xtwinops` is the one
    field it does not assign -/
def hardResetT (t : Terminal) : Terminal :=
  { freshT t.cols t.rows t.scrollbackLimit with xtwinops := t.xtwinops }

/-- what `soft_reset` leaves -/
def softResetT (t : Terminal) : Terminal :=
  { t with cursor := { t.cursor with visible := true }, topMargin := 0, bottomMargin := t.rows - 1,
           insertMode := false, originMode := false, pen := {}, charsets := (.ascii, .ascii),
           activeCharset := 0, savedCtx := {} }

end Lemmas.C11

open Lemmas.C11

namespace Terminal

theorem new_eq (c r : Nat) (l : Option Nat) :
    Terminal.new c r l = if 1 ≤ r then some (freshT c r l) else none := csub_map _ r 1

theorem new_eq_some_iff {c r : Nat} {l : Option Nat} {t : Terminal} :
    Terminal.new c r l = some t ↔ 1 ≤ r ∧ t = freshT c r l := csub_map_eq_some_iff

theorem hardReset_eq (t : Terminal) :
    t.hardReset = if 1 ≤ t.rows then some (hardResetT t) else none := csub_map _ t.rows 1

theorem hardReset_eq_some_iff {t t' : Terminal} :
    t.hardReset = some t' ↔ 1 ≤ t.rows ∧ t' = hardResetT t := csub_map_eq_some_iff

theorem softReset_eq (t : Terminal) :
    t.softReset = if 1 ≤ t.rows then some (softResetT t) else none := csub_map _ t.rows 1

theorem softReset_eq_some_iff {t t' : Terminal} :
    t.softReset = some t' ↔ 1 ≤ t.rows ∧ t' = softResetT t := csub_map_eq_some_iff

end Terminal

theorem Vt.new_eq_some_iff {c r : Nat} {l : Option Nat} {v : Vt} :
    Vt.new c r l = some v ↔ 1 ≤ r ∧ v = ⟨Parser.new, freshT c r l⟩ := by
  unfold Vt.new Terminal.new
  rw [Option.map_map]
  exact csub_map_eq_some_iff

end Avt
