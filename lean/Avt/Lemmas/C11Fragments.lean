/-
  Avt.Lemmas.C11Fragments — what each fragment of `Terminal.dump` other than the buffer part does to an
  arbitrary terminal: `Feeds frag t t'` with `t'` a record update of `t`.  `dump()` writes most fragments
  under a condition (`if t.insertMode then "\x9b4h"`): the lemma takes the condition as a variable and says
  that the field ends up as the condition dictates, given that it had its fresh value before.  Fragments
  that move the cursor are executed by C05 (`feeds_move`); where they put it is not said: they are stated up to
  `rcore`, as `Rep frag a { a with … }`.  Also the tab-stop loop (step 2) and the wrap-pending re-print (step 9;
  steps numbered as in Lemmas/DumpCut.lean).
-/
import Avt.Lemmas.C11BufferDump
import Avt.Props.C05

namespace Avt
namespace Lemmas.C11
open Avt.Spec.C11 Avt.Spec.C04 Avt.C04L Avt.Terminal

theorem emits_1047h : Emits [csi, 0x3f, 0x31, 0x30, 0x34, 0x37, 0x68] [.decset [.altScreenBuffer]] :=
  emits_csiText [0x9b] (Or.inr rfl) ⟨some 0x3f, [0x31, 0x30, 0x34, 0x37], [], 0x68⟩ rfl _ rfl

theorem emits_1047l : Emits [csi, 0x3f, 0x31, 0x30, 0x34, 0x37, 0x6c] [.decrst [.altScreenBuffer]] :=
  emits_csiText [0x9b] (Or.inr rfl) ⟨some 0x3f, [0x31, 0x30, 0x34, 0x37], [], 0x6c⟩ rfl _ rfl

theorem emits_home : Emits [csi, 0x31, 0x3b, 0x31, 0x48] [.cup 1 1] :=
  emits_csiText [0x9b] (Or.inr rfl) ⟨none, [0x31, 0x3b, 0x31], [], 0x48⟩ rfl _ rfl

theorem emits_cup (a b : Nat) (ha : a < 65536) (hb : b < 65536) : Emits (cupSeq a b) [.cup a b] := by
  have := emits_csi2 a b ha hb 0x48 Function.cup rfl (by decide) (by decide)
  simpa [cupSeq, csi] using this

theorem emits_decstbm (a b : Nat) (ha : a < 65536) (hb : b < 65536) :
    Emits (csi :: renderDec a ++ [0x3b] ++ renderDec b ++ [0x72]) [.decstbm a b] := by
  have := emits_csi2 a b ha hb 0x72 Function.decstbm rfl (by decide) (by decide)
  simpa [csi] using this

theorem emits_hpa (n : Nat) (hn : n < 65536) : Emits (csi :: renderDec n ++ [0x60]) [.cha n] :=
  emits_csi1 [0x9b] (Or.inr rfl) n hn 0x60 Function.cha rfl (by decide) (by decide)

theorem emits_cub (n : Nat) (hn : n < 65536) : Emits (csi :: renderDec n ++ [0x44]) [.cub n] :=
  emits_csi1 [0x9b] (Or.inr rfl) n hn 0x44 Function.cub rfl (by decide) (by decide)

theorem emits_cuf (n : Nat) (hn : n < 65536) : Emits (csi :: renderDec n ++ [0x43]) [.cuf n] :=
  emits_csi1 [0x9b] (Or.inr rfl) n hn 0x43 Function.cuf rfl (by decide) (by decide)

theorem emits_cuu (n : Nat) (hn : n < 65536) : Emits (csi :: renderDec n ++ [0x41]) [.cuu n] :=
  emits_csi1 [0x9b] (Or.inr rfl) n hn 0x41 Function.cuu rfl (by decide) (by decide)

theorem emits_cud (n : Nat) (hn : n < 65536) : Emits (csi :: renderDec n ++ [0x42]) [.cud n] :=
  emits_csi1 [0x9b] (Or.inr rfl) n hn 0x42 Function.cud rfl (by decide) (by decide)

theorem feeds_sgr0 (t : Terminal) : Feeds [0x1b, 0x5b, 0x6d] t { t with pen := {} } :=
  Feeds.one (emits_csiText [0x1b, 0x5b] (Or.inl rfl) ⟨none, [], [], 0x6d⟩ rfl _ rfl) rfl

/-- `CSI ?7l` is written only to switch auto-wrap off -/
theorem feeds_autoWrapOff (t : Terminal) (b : Bool) (h : b = true → t.autoWrapMode = true) :
    Feeds (if !b then [csi, 0x3f, 0x37, 0x6c] else []) t { t with autoWrapMode := b } := by
  cases b with
  | false => exact Feeds.one (emits_csiText [0x9b] (Or.inr rfl) ⟨some 0x3f, [0x37], [], 0x6c⟩ rfl _ rfl) rfl
  | true => exact (Feeds.nil t).to (by rw [← h rfl])

/-- `CSI ?7h` after a temporary `CSI ?7l` -/
theorem feeds_autoWrapOn (t : Terminal) (b : Bool) (h : t.autoWrapMode = b) :
    Feeds (if !b then [csi, 0x3f, 0x37, 0x68] else []) t { t with autoWrapMode := true } := by
  cases b with
  | false => exact Feeds.one (emits_csiText [0x9b] (Or.inr rfl) ⟨some 0x3f, [0x37], [], 0x68⟩ rfl _ rfl) rfl
  | true => exact (Feeds.nil t).to (by rw [← h])

theorem feeds_hideCursor (t : Terminal) (b : Bool) (h : t.cursor.visible = true) :
    Feeds (if !b then [csi, 0x3f, 0x32, 0x35, 0x6c] else []) t { t with cursor := { t.cursor with visible := b } } := by
  cases b with
  | false => exact Feeds.one (emits_csiText [0x9b] (Or.inr rfl) ⟨some 0x3f, [0x32, 0x35], [], 0x6c⟩ rfl _ rfl) rfl
  | true => exact (Feeds.nil t).to (by rw [← h])

theorem feeds_cursorKeys (t : Terminal) (m : CursorKeysMode) (h : t.cursorKeysMode = .normal) :
    Feeds (if m = .application then [csi, 0x3f, 0x31, 0x68] else []) t { t with cursorKeysMode := m } := by
  cases m with
  | application => exact Feeds.one (emits_csiText [0x9b] (Or.inr rfl) ⟨some 0x3f, [0x31], [], 0x68⟩ rfl _ rfl) rfl
  | normal => exact (Feeds.nil t).to (by rw [← h])

theorem feeds_insertOn (t : Terminal) (b : Bool) (h : t.insertMode = false) :
    Feeds (if b then [csi, 0x34, 0x68] else []) t { t with insertMode := b } := by
  cases b with
  | true => exact Feeds.one (emits_csiText [0x9b] (Or.inr rfl) ⟨none, [0x34], [], 0x68⟩ rfl _ rfl) rfl
  | false => exact (Feeds.nil t).to (by rw [← h])

theorem feeds_newLineOn (t : Terminal) (b : Bool) (h : t.newLineMode = false) :
    Feeds (if b then [csi, 0x32, 0x30, 0x68] else []) t { t with newLineMode := b } := by
  cases b with
  | true => exact Feeds.one (emits_csiText [0x9b] (Or.inr rfl) ⟨none, [0x32, 0x30], [], 0x68⟩ rfl _ rfl) rfl
  | false => exact (Feeds.nil t).to (by rw [← h])

theorem feeds_g0Drawing (t : Terminal) (cs : Charset) (h : t.charsets.1 = .ascii) :
    Feeds (if cs = .drawing then [0x1b, 0x28, 0x30] else []) t { t with charsets := (cs, t.charsets.2) } := by
  cases cs with
  | drawing => exact Feeds.one (emits_escText ⟨[0x28], 0x30⟩ rfl _ rfl) rfl
  | ascii => exact (Feeds.nil t).to (by rw [← h])

theorem feeds_g1Drawing (t : Terminal) (cs : Charset) (h : t.charsets.2 = .ascii) :
    Feeds (if cs = .drawing then [0x1b, 0x29, 0x30] else []) t { t with charsets := (t.charsets.1, cs) } := by
  cases cs with
  | drawing => exact Feeds.one (emits_escText ⟨[0x29], 0x30⟩ rfl _ rfl) rfl
  | ascii => exact (Feeds.nil t).to (by rw [← h])

/-- SO makes G1 the active set; there are two sets -/
theorem feeds_so (t : Terminal) (n : Nat) (hn : n ≤ 1) (h : t.activeCharset = 0) :
    Feeds (if n = 1 then [0x0e] else []) t { t with activeCharset := n } := by
  by_cases h1 : n = 1
  · rw [if_pos h1, h1]; exact Feeds.one emits_so rfl
  · rw [if_neg h1, show n = 0 by omega]; exact (Feeds.nil t).to (by rw [← h])

theorem feeds_decsc (t : Terminal) (hc : 1 ≤ t.cols) :
    Feeds [0x1b, 0x37] t
      { t with savedCtx := { cursorCol := min t.cursor.col (t.cols - 1), cursorRow := t.cursor.row, pen := t.pen,
                             originMode := t.originMode, autoWrapMode := t.autoWrapMode } } :=
  Feeds.one (emits_escText ⟨[], 0x37⟩ rfl _ rfl) (by simp [Terminal.execute, saveCursor, csub_eq_some hc])

theorem Feeds.TInv {s : List Nat} {t t' : Terminal} (h : Feeds s t t') (ht : TInv t = true) : TInv t' = true := by
  obtain ⟨q', hq, _⟩ := h Parser.new GP_new
  have hi : Inv ⟨Parser.new, t⟩ = true := by simp [Inv, ht, GP_new.2]
  obtain ⟨v', hv, hinv⟩ := Props.Closed.C02_feedAll s hi
  rw [hq] at hv
  cases hv
  simp only [Inv, Bool.and_eq_true] at hinv
  exact hinv.2

/-- the replay up to `rcore`: from every terminal that satisfies the invariant and is `a` up to `rcore`, the text `s`
    leads to one that satisfies the invariant and is `b` up to `rcore` -/
def Rep (s : List Nat) (a b : Terminal) : Prop :=
  ∀ t, TInv t = true → rcore t = rcore a → ∃ t', Feeds s t t' ∧ TInv t' = true ∧ rcore t' = rcore b

theorem Rep.nil (a : Terminal) : Rep [] a a := fun t ht hc => ⟨t, Feeds.nil t, ht, hc⟩

theorem Rep.append {s1 s2 : List Nat} {a b c : Terminal} (h1 : Rep s1 a b) (h2 : Rep s2 b c) : Rep (s1 ++ s2) a c := by
  intro t ht hc
  obtain ⟨t1, f1, i1, c1⟩ := h1 t ht hc
  obtain ⟨t2, f2, i2, c2⟩ := h2 t1 i1 c1
  exact ⟨t2, f1.append f2, i2, c2⟩

theorem Rep.cast {s s' : List Nat} {a b : Terminal} (h : Rep s a b) (e : s = s') : Rep s' a b := e ▸ h

theorem Rep.to {s : List Nat} {a b b' : Terminal} (h : Rep s a b) (e : rcore b = rcore b') : Rep s a b' :=
  fun t ht hc => let ⟨t', f, i, c⟩ := h t ht hc; ⟨t', f, i, c.trans e⟩

/-- what a fragment does from `a` with any values in the fields `rcore` forgets; the invariant comes along `Feeds` -/
theorem Rep.intro {s : List Nat} {a b : Terminal}
    (h : ∀ j, TInv (withJunk a j) = true → ∃ t', Feeds s (withJunk a j) t' ∧ rcore t' = rcore b) : Rep s a b := by
  intro t ht hc
  obtain ⟨j, rfl⟩ := of_rcore hc
  obtain ⟨t', f, c⟩ := h j ht
  exact ⟨t', f, f.TInv ht, c⟩

section moves
open Spec.C05

theorem feeds_move {s : List Nat} {f : Function} (he : Emits s [f]) {t : Terminal} (ht : TInv t = true)
    (hf : covered t f = true) : Feeds s t (moveSpec t f) :=
  Feeds.one he (C05_move ht hf)

theorem rep_originOn {a : Terminal} (b : Bool) (h : a.originMode = false) :
    Rep (if b then [csi, 0x3f, 0x36, 0x68] else []) a { a with originMode := b } := by
  cases b with
  | true => exact Rep.intro fun _ ht =>
      ⟨_, feeds_move (emits_csiText [0x9b] (Or.inr rfl) ⟨some 0x3f, [0x36], [], 0x68⟩ rfl _ rfl) ht rfl, rfl⟩
  | false => exact (Rep.nil a).to (by rw [← h])

theorem rep_originOff {a : Terminal} (b : Bool) (h : a.originMode = b) :
    Rep (if b then [csi, 0x3f, 0x36, 0x6c] else []) a { a with originMode := false } := by
  cases b with
  | true => exact Rep.intro fun _ ht =>
      ⟨_, feeds_move (emits_csiText [0x9b] (Or.inr rfl) ⟨some 0x3f, [0x36], [], 0x6c⟩ rfl _ rfl) ht rfl, rfl⟩
  | false => exact (Rep.nil a).to (by rw [← h])

theorem feeds_decstbm {t : Terminal} (ht : TInv t = true) (top bottom : Nat) (h1 : top < bottom)
    (h2 : bottom < t.rows) (h3 : t.rows ≤ 65535) :
    Feeds (csi :: renderDec (top + 1) ++ [0x3b] ++ renderDec (bottom + 1) ++ [0x72]) t
      (cursorAt { t with topMargin := top, bottomMargin := bottom } 0 (if t.originMode then top else 0)) :=
  (feeds_move (emits_decstbm (top + 1) (bottom + 1) (by omega) (by omega)) ht rfl).to (by
    simp [moveSpec, newMargins, arg, h1, h2])

/-- step 8: `CSI top+1 ; bottom+1 r`, written unless the region is the whole screen -/
theorem rep_margins {a : Terminal} (top bottom : Nat)
    (hm : top ≤ bottom ∧ bottom < a.rows ∧ (top < bottom ∨ (top = 0 ∧ bottom + 1 = a.rows)))
    (h3 : a.rows ≤ 65535) (h0 : a.topMargin = 0 ∧ a.bottomMargin = a.rows - 1) :
    Rep (if top > 0 || bottom < a.rows - 1
        then csi :: renderDec (top + 1) ++ [0x3b] ++ renderDec (bottom + 1) ++ [0x72] else []) a
      { a with topMargin := top, bottomMargin := bottom } := by
  by_cases hcnd : (decide (top > 0) || decide (bottom < a.rows - 1)) = true
  · rw [if_pos hcnd]
    simp only [Bool.or_eq_true, decide_eq_true_eq] at hcnd
    exact Rep.intro fun _ ht => ⟨_, feeds_decstbm ht top bottom (by omega) hm.2.1 h3, rfl⟩
  · rw [if_neg hcnd]
    simp only [Bool.or_eq_true, decide_eq_true_eq, not_or, Nat.not_lt, Nat.le_zero_eq] at hcnd
    exact (Rep.nil a).to (by rw [show top = 0 by omega, show bottom = a.rows - 1 by omega, ← h0.1, ← h0.2])

theorem feeds_cup {t : Terminal} (ht : TInv t = true) (r c : Nat) (h1 : r < 65535) (h2 : c < 65535) :
    Feeds (cupSeq (r + 1) (c + 1)) t (cursorAt t (absCol t c) (absRow t r)) :=
  (feeds_move (emits_cup (r + 1) (c + 1) (by omega) (by omega)) ht rfl).to (by simp [moveSpec, arg])

end moves

/-- the text `dump()` writes per tab stop: `CSI t+1 \`` then `ESC [ W` -/
def tabFrag (tb : Nat) : List Nat := csi :: renderDec (tb + 1) ++ [0x60, 0x1b, 0x5b, 0x57]

theorem feeds_tab (t : Terminal) (tb : Nat) (h1 : 0 < tb) (h2 : tb < t.cols) (h3 : t.cols ≤ 65535) :
    Feeds (tabFrag tb) t
      { t with tabs := Tabs.set t.tabs tb, cursor := { t.cursor with col := tb }, pendingWrap := false } := by
  have f1 : Feeds (csi :: renderDec (tb + 1) ++ [0x60]) t
      { t with cursor := { t.cursor with col := tb }, pendingWrap := false } :=
    Feeds.one (emits_hpa (tb + 1) (by omega)) (by
      have e1 : asUsize (tb + 1) 1 - 1 = tb := by rw [asUsize_of_pos (Nat.succ_pos tb)]; rfl
      have : ¬ tb ≥ t.cols := by omega
      simp [Terminal.execute, e1, moveCursorToCol, this, doMoveCursorToCol])
  have f2 : Feeds [0x1b, 0x5b, 0x57] { t with cursor := { t.cursor with col := tb }, pendingWrap := false }
      { t with tabs := Tabs.set t.tabs tb, cursor := { t.cursor with col := tb }, pendingWrap := false } :=
    Feeds.one (emits_csiText [0x1b, 0x5b] (Or.inl rfl) ⟨none, [], [], 0x57⟩ rfl _ rfl) (by
      simp [Terminal.execute, ctc, setTab, h1, h2])
  exact Feeds.cast (Feeds.append f1 f2) (by simp [tabFrag])

def tabsRes : List Nat → Terminal → Terminal
  | [], t => t
  | tb :: L, t =>
    tabsRes L { t with tabs := Tabs.set t.tabs tb, cursor := { t.cursor with col := tb }, pendingWrap := false }

theorem feeds_tabsLoop : ∀ (L : List Nat) (t : Terminal), (∀ tb ∈ L, 0 < tb ∧ tb < t.cols) → t.cols ≤ 65535 →
    Feeds (L.map tabFrag).flatten t (tabsRes L t)
  | [], t, _, _ => Feeds.nil t
  | tb :: L, t, h, hc => by
    obtain ⟨h1, h2⟩ := h tb (List.mem_cons_self ..)
    have f1 := feeds_tab t tb h1 h2 hc
    have f2 := feeds_tabsLoop L
      { t with tabs := Tabs.set t.tabs tb, cursor := { t.cursor with col := tb }, pendingWrap := false }
      (fun x hx => h x (List.mem_cons_of_mem _ hx)) hc
    simp only [List.map_cons, List.flatten_cons]
    exact Feeds.append f1 f2

theorem tabsRes_rcore : ∀ (L : List Nat) (t : Terminal),
    rcore (tabsRes L t) = rcore { t with tabs := L.foldl Tabs.set t.tabs }
  | [], _ => rfl
  | tb :: L, t =>
    tabsRes_rcore L { t with tabs := Tabs.set t.tabs tb, cursor := { t.cursor with col := tb }, pendingWrap := false }

theorem Tabs.set_append (xs : List Nat) (p : Nat) (h : ∀ x ∈ xs, x < p) : Tabs.set xs p = xs ++ [p] := by
  induction xs with
  | nil => rfl
  | cons x xs ih =>
    have hx : x < p := h x (List.mem_cons_self ..)
    simp only [Tabs.set, show ¬ p < x by omega, show ¬ p = x by omega, if_false, List.cons_append]
    rw [ih (fun y hy => h y (List.mem_cons_of_mem _ hy))]

theorem foldl_set_sorted : ∀ (L xs : List Nat), L.Pairwise (· < ·) → (∀ x ∈ xs, ∀ y ∈ L, x < y) →
    L.foldl Tabs.set xs = xs ++ L
  | [], xs, _, _ => by simp
  | a :: L, xs, h, hlt => by
    obtain ⟨h1, h2⟩ := List.pairwise_cons.1 h
    simp only [List.foldl_cons]
    rw [Tabs.set_append xs a (fun x hx => hlt x hx a (List.mem_cons_self ..)),
      foldl_set_sorted L (xs ++ [a]) h2 (by
        intro x hx y hy
        rcases List.mem_append.1 hx with hx | hx
        · exact hlt x hx y (List.mem_cons_of_mem _ hy)
        · simp only [List.mem_singleton] at hx; subst hx; exact h1 y hy)]
    simp

/-- dump step 2: `CSI 5 W` and one `CSI t+1 \` ESC [ W` per stop re-create exactly the tab stops
    `L` (sorted, inside `(0, cols)`); nothing is written if they are the fresh ones.  The text is worded as
    `tabsText` (DumpCut) has it, which `head_replay` (C11Replay) needs; its lambda is `tabFrag` unfolded. -/
theorem rep_tabs {a : Terminal} (L : List Nat) (hL : TabsOK L a.cols) (hc : a.cols ≤ 65535)
    (h0 : a.tabs = Tabs.new a.cols) :
    Rep (if L ≠ Tabs.new a.cols then
        [csi, 0x35, 0x57] ++ (L.map fun tb => csi :: renderDec (tb + 1) ++ [0x60, 0x1b, 0x5b, 0x57]).flatten
      else []) a { a with tabs := L } := by
  split
  · refine Rep.intro fun j _ => ?_
    have f1 : Feeds [csi, 0x35, 0x57] (withJunk a j) { withJunk a j with tabs := [] } :=
      Feeds.one (emits_csiText [0x9b] (Or.inr rfl) ⟨none, [0x35], [], 0x57⟩ rfl _ rfl) rfl
    have f2 := feeds_tabsLoop L { withJunk a j with tabs := [] } (fun tb h => hL.2 tb h) hc
    have e2 : L.foldl Tabs.set [] = L := by
      have := foldl_set_sorted L [] hL.1 (fun x hx => by cases hx)
      simpa using this
    exact ⟨_, f1.append f2, (tabsRes_rcore L _).trans (by rw [e2]; rfl)⟩
  · rename_i hne
    exact (Rep.nil a).to (by rw [Decidable.not_not.1 hne, ← h0])

theorem onRow_id (v : List Line) (r : Nat) (f : Line → Line) (h : ∀ l, v[r]? = some l → f l = l) : onRow v r f = v := by
  unfold onRow
  cases hv : v[r]? with
  | none => rfl
  | some l =>
    simp only
    rw [h l hv]
    exact List.set_of_getElem? hv

/-- dump step 9, second half: with the cursor in the last column (no wrap pending), auto-wrap on,
    replace mode and ASCII active: the pen of the last cell, then its character — the cell is rewritten
    with itself and the cursor is parked in the wrap-pending position -/
theorem feeds_pendingPrint (t : Terminal) (line : Line) (cell : Cell) (ht : TInv t = true)
    (hcol : t.cursor.col + 1 = t.cols) (haw : t.autoWrapMode = true)
    (hcs : t.activeCharset = 0 ∧ t.charsets.1 = .ascii)
    (hl : t.buffer.view[t.cursor.row]? = some line) (hcell : line.cells[t.cols - 1]? = some cell)
    (hok : CellOK cell) :
    ∃ pd, cell.pen.dump = some pd ∧
      Feeds (pd ++ [cell.ch]) t
        { t with pen := cell.pen, cursor := { t.cursor with col := t.cols }, pendingWrap := true,
                 dirtyLines := t.dirtyLines.set t.cursor.row true } := by
  obtain ⟨pd, hpd, f1⟩ := feeds_pen cell.pen hok.2
  refine ⟨pd, hpd, Feeds.append (f1 t) ?_⟩
  let u : Terminal := { t with pen := cell.pen }
  have hu : TInv u = true := TInv_withPen ht _
  have f2 := feeds_print hok.1 u hu
  have p := TOK.of_TInv ht
  have hpw : t.pendingWrap = false := p.pw_false (by omega)
  have hnw : (u.autoWrapMode && u.pendingWrap) = false := by
    show (t.autoWrapMode && t.pendingWrap) = false
    rw [hpw]; simp
  have hg : glyph u cell.ch = cell.ch := glyph_ascii (t := u) hcs cell.ch
  have e : printSpec u cell.ch = { t with pen := cell.pen, cursor := { t.cursor with col := t.cols }, pendingWrap := true, dirtyLines := t.dirtyLines.set t.cursor.row true } := by
    rw [printSpec_nowrap u _ hnw, hg]
    unfold putStep
    have hge : u.cursor.col + 1 ≥ u.cols := by show t.cursor.col + 1 ≥ t.cols; omega
    have hau : u.autoWrapMode = true := haw
    simp only [hge, if_true]
    rw [if_pos hau]
    have hb : bufOnRow u.buffer u.cursor.row (putCell (u.cols - 1) ⟨cell.ch, u.pen⟩) = t.buffer := by
      show ({ t.buffer with view := onRow t.buffer.view t.cursor.row (putCell (t.cols - 1) ⟨cell.ch, cell.pen⟩) } : Buffer) = t.buffer
      rw [onRow_id]
      intro l hl'
      rw [hl] at hl'
      cases hl'
      show ({ line with cells := line.cells.set (t.cols - 1) ⟨cell.ch, cell.pen⟩ } : Line) = line
      have : (⟨cell.ch, cell.pen⟩ : Cell) = cell := rfl
      rw [this, List.set_of_getElem? hcell]
    rw [hb]
  rw [e] at f2
  exact f2

end Lemmas.C11
end Avt
