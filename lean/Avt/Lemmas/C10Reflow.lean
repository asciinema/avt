/-
  Avt.Lemmas.C10Reflow — `Line.contract`, `Line.extend` and the `Reflow` iterator preserve the
  logical lines (rows joined along wrap marks, trailing default cells removed).
-/
import Avt.Lemmas.C10Logical
import Avt.Lemmas.Reflow

namespace Avt.Lemmas
open Avt Avt.Spec.C10

/-- `Line.contract` splits a row into a first part and a rest without changing the logical lines:
    the row followed by anything reads the same as the two pieces followed by the same thing -/
theorem contract_content (l : Line) (len : Nat) (tail : List Line) :
    logicalLines ((l.contract len).1 :: ((l.contract len).2.toList ++ tail))
      = logicalLines (l :: tail) := by
  obtain ⟨cells, w⟩ := l
  cases w with
  | true =>
    have hk : Line.keep ⟨cells, true⟩ len = cells := rfl
    have ho : Line.over ⟨cells, true⟩ len = ⟨cells.drop len, true⟩ := rfl
    rcases Line.contract_cases ⟨cells, true⟩ len with ⟨-, e⟩ | ⟨h, he, -⟩ | ⟨-, -, e⟩
    -- fits
    · rw [e]; rfl
    -- cut, nothing left over: impossible, a wrapped row is not trimmed
    · rw [ho] at he
      rw [hk] at h
      exact absurd (congrArg List.length he) (by rw [List.length_drop, List.length_nil]; omega)
    -- cut, with a rest
    · rw [e, hk, ho]
      simp only [Option.toList_some, List.singleton_append]
      rw [logicalLines_glue, List.take_append_drop]
  | false =>
    -- the kept cells differ from the original ones by trailing default cells only
    have hkeep : stripDefault (Line.keep ⟨cells, false⟩ len) = stripDefault cells := by
      show stripDefault (List.take (max len (Line.len ⟨cells, false⟩ - Line.trailers ⟨cells, false⟩)) cells) = _
      rw [stripDefault_eq, stripDefault_eq]
      apply rstrip_take_of_le
      have := stripDefault_length_eq ⟨cells, false⟩
      rw [stripDefault_eq] at this
      simp only at this
      omega
    have ho : Line.over ⟨cells, false⟩ len = ⟨stripDefault ((Line.keep ⟨cells, false⟩ len).drop len), false⟩ :=
      trim_eq _
    have hcases := Line.contract_cases ⟨cells, false⟩ len
    rw [ho] at hcases
    generalize Line.keep ⟨cells, false⟩ len = kept at hkeep hcases
    rcases hcases with ⟨-, e⟩ | ⟨-, he, e⟩ | ⟨-, -, e⟩ <;> rw [e]
    -- fits
    · exact logicalLines_cons_strip_congr hkeep tail
    -- cut, only blanks left over
    · apply logicalLines_cons_strip_congr
      rw [← hkeep]
      have hall := (rstrip_eq_nil_iff Cell.isDefault).1 he
      conv => rhs; rw [← List.take_append_drop len kept]
      rw [stripDefault_eq, stripDefault_eq, rstrip_append_of_all _ hall]
    -- cut, with a rest
    · simp only [Option.toList_some, List.singleton_append]
      rw [logicalLines_glue]
      apply logicalLines_cons_strip_congr
      rw [← hkeep, stripDefault_eq, stripDefault_eq, stripDefault_eq, rstrip_append_rstrip,
        List.take_append_drop]

theorem logicalLines_donor (a : List Cell) (other : Line) (tail : List Line) :
    logicalLines (⟨a, true⟩ :: Line.donor other :: tail) = logicalLines (⟨a, true⟩ :: other :: tail) := by
  obtain ⟨b, wo⟩ := other
  unfold Line.donor
  cases wo with
  | true => rfl
  | false =>
    simp only [Bool.not_false, if_true, trim_eq]
    apply logicalLines_cons_congr
    apply logicalLines_cons_strip_congr
    rw [stripDefault_eq, stripDefault_eq, rstrip_idem]

/-- `Line.extend` moves cells from the next row into this one without changing the logical lines:
    whatever it returns (`l'`, then the rest if any) reads the same as the two rows it was given;
    and when it says "do not emit yet" it leaves no rest -/
theorem extend_spec {l other : Line} {len : Nat} {l' : Line} {emit : Bool} {r : Option Line}
    (h : l.extend other len = some (l', emit, r)) :
    (∀ tail, logicalLines (l' :: (r.toList ++ tail)) = logicalLines (l :: other :: tail))
      ∧ (emit = false → r = none) := by
  obtain ⟨a, w⟩ := l
  rcases Line.extend_cases h with ⟨-, rfl, rfl, rfl⟩ | ⟨-, hw, rfl, rfl, rfl⟩ | ⟨-, hw, -, rfl, rfl, rfl⟩
      | ⟨hw, how, rfl, rfl, k, -, rfl⟩ | ⟨hw, how, rfl, rfl, rfl⟩
  -- already `len` wide: nothing moves
  · exact ⟨fun _ => rfl, nofun⟩
  -- unwrapped: padded with blanks
  · cases hw
    exact ⟨fun _ => logicalLines_cons_strip_congr (stripDefault_append_blanks a _) _, nofun⟩
  -- wrapped, the next row has more than is needed: its first cells move up, the rest stays
  · cases hw
    refine ⟨fun tail => ?_, nofun⟩
    rw [← logicalLines_donor, ← Line.donor_wrapped other]
    simp only [Option.toList_some, List.singleton_append]
    rw [logicalLines_glue, logicalLines_glue, List.append_assoc, List.take_append_drop]
  -- wrapped, the next row is unwrapped and moves up whole: one unwrapped row, padded
  · cases hw
    refine ⟨fun tail => ?_, nofun⟩
    have hd := Line.donor_wrapped other
    rw [how] at hd
    rw [← logicalLines_donor, show Line.donor other = ⟨(Line.donor other).cells, false⟩ from by rw [← hd],
      logicalLines_glue]
    exact logicalLines_cons_strip_congr (stripDefault_append_blanks _ k) _
  -- wrapped, the next row is wrapped and moves up whole: not emitted yet
  · cases hw
    obtain ⟨b, wo⟩ := other
    cases how
    exact ⟨fun tail => by rw [logicalLines_glue]; rfl, fun _ => rfl⟩

theorem step_logical {cols : Nat} {line : Line} {iter : List Line} {st : Buffer.Step}
    (h : Buffer.step cols line iter = some st) : logicalLines st.lines = logicalLines (line :: iter) := by
  rcases Buffer.step_cases h with ⟨-, e⟩ | ⟨-, e⟩ | ⟨-, rfl, l', he, e⟩ | ⟨-, nx, it, l', em, r, rfl, he, e⟩
      -- the second case, the row fits, is closed here
      <;> rw [e]
  -- too long: cut
  · exact contract_content line cols iter
  -- too short, nothing behind it: padded
  · obtain ⟨-, rfl⟩ := Line.expand_eq_some_iff.1 he
    obtain ⟨a, w⟩ := line
    cases w with
    | false => exact logicalLines_cons_strip_congr (stripDefault_append_blanks a _) _
    | true => simp only [logicalLines, joinRows, List.map_cons, List.map_nil, if_true,
        Bool.false_eq_true, if_false, stripDefault_append_blanks]
  -- too short: takes cells from the next row
  · obtain ⟨hc, hr⟩ := extend_spec he
    cases em with
    | false => obtain rfl := hr rfl; exact hc _
    | true => exact hc _

theorem reflowGo_logical (cols : Nat) :
    ∀ (fuel : Nat) (rest : Option Line) (iter out : List Line),
      Buffer.reflowGo cols fuel rest iter = some out →
      logicalLines out = logicalLines (rest.toList ++ iter) :=
  Buffer.reflowGo_induct (fun rest iter out => logicalLines out = logicalLines (rest.toList ++ iter))
    rfl (fun _ _ _ h => h)
    (fun _ _ o _ _ _ hs ih => (logicalLines_cons_congr o ih).trans (step_logical hs))
    (fun _ _ _ _ _ hs ih => ih.trans (step_logical hs))

theorem reflow_logical {ls out : List Line} {c : Nat} (h : Buffer.reflow ls c = some out) :
    logicalLines out = logicalLines ls := by
  simpa using reflowGo_logical c _ _ _ _ (Buffer.reflowGo_of_reflow h)

end Avt.Lemmas
