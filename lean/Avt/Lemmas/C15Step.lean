/-
  Avt.Lemmas.C15Step — the step relation of C15 and `step_execute`.  `StepD t t'`: the number of rows,
  the `xtwinops` switch and the number of flags are unchanged, no flag was cleared, and every row whose
  cells differ is flagged in `t'`.  A drawing function keeps it call by call (`StepD.of_paint`):
  terminal.rs marks the rows of a call right after making it.  The other functions write neither the
  buffer nor the flags (table of Lemmas/Writes.lean) or flag every row (buffer switches + reflow, hard reset).
-/
import Avt.Lemmas.C15Buffer
import Avt.Lemmas.Resize
import Avt.Spec.C15
import Avt.Lemmas.Writes
import Avt.Lemmas.PowerOn

namespace Avt.C15
open Avt

theorem resize_self {d : List Bool} {n : Nat} (h : d.length = n) : Dirty.resize d n = d := by
  unfold Dirty.resize; rw [if_pos (by omega), ← h, List.take_length]

theorem new_flagged {n i : Nat} (h : i < n) : Flagged (Dirty.new n) i := by
  simp [Flagged, Dirty.new, h]

structure StepD (t t' : Terminal) : Prop where
  rows : t'.rows = t.rows
  brows : t'.buffer.rows = t.buffer.rows
  xt : t'.xtwinops = t.xtwinops
  len : t'.dirtyLines.length = t.dirtyLines.length
  keep : ∀ i, Flagged t.dirtyLines i → Flagged t'.dirtyLines i
  sound : ∀ i, i < t.buffer.rows → cellsAt t'.buffer i ≠ cellsAt t.buffer i → Flagged t'.dirtyLines i

/-- the facts about a state the step lemmas need (all part of `TInv`) -/
structure Pre (t : Terminal) : Prop where
  brows : t.buffer.rows = t.rows
  len : t.dirtyLines.length = t.rows
  xt : t.xtwinops = false

theorem StepD.pre {t t' : Terminal} (h : StepD t t') (p : Pre t) : Pre t' :=
  ⟨by rw [h.brows, h.rows, p.brows], by rw [h.len, h.rows, p.len], by rw [h.xt, p.xt]⟩

theorem StepD.refl (t : Terminal) : StepD t t :=
  ⟨rfl, rfl, rfl, rfl, fun _ h => h, fun _ _ h => absurd rfl h⟩

theorem StepD.trans {t t1 t2 : Terminal} (h1 : StepD t t1) (h2 : StepD t1 t2) : StepD t t2 := by
  refine ⟨h2.rows.trans h1.rows, h2.brows.trans h1.brows, h2.xt.trans h1.xt, h2.len.trans h1.len,
    fun i hi => h2.keep i (h1.keep i hi), fun i hi hc => ?_⟩
  by_cases e : cellsAt t2.buffer i = cellsAt t1.buffer i
  · rw [e] at hc
    exact h2.keep i (h1.sound i hi hc)
  · exact h2.sound i (h1.brows ▸ hi) e

/-- everything that is not the buffer or the flags may change freely -/
theorem StepD.of_eq {t t' : Terminal} (hb : t'.buffer = t.buffer) (hd : t'.dirtyLines = t.dirtyLines)
    (hr : t'.rows = t.rows) (hx : t'.xtwinops = t.xtwinops) : StepD t t' :=
  ⟨hr, by rw [hb], hx, by rw [hd], fun i h => by rw [hd]; exact h, fun i _ hc => absurd (by rw [hb]) hc⟩

theorem StepD.edit {S} {t : Terminal} {b : Buffer} {d : List Bool} (p : Pre t) (hc : BChg S t.buffer b)
    (hm : Marked S t.rows t.dirtyLines d) : StepD t { t with buffer := b, dirtyLines := d } :=
  ⟨rfl, hc.rows, rfl, hm.len, hm.keep, fun i hi hne =>
    hm.flag i (Classical.byContradiction fun hn => hne (hc.same i hi hn)) (p.brows ▸ hi)⟩

/-- what a drawing function does keeps the flags sound, call by call -/
theorem StepD.of_paint {K} {t t' : Terminal} (h : Paint K t t') (p : Pre t) : StepD t t' := by
  induction h with
  | refl t => exact .refl t
  | trans _ _ ih1 ih2 => exact (ih1 p).trans (ih2 ((ih1 p).pre p))
  | move m => exact .of_eq (m .buffer rfl) (m .dirtyLines rfl) (m .rows rfl) (m .xtwinops rfl)
  | edit op _ hb hm => exact .edit p (run_chg hb) hm
  | flag hm => exact .edit p (.refl _ _) hm

theorem StepD.of_all {t t' : Terminal} (p : Pre t) (hr : t'.rows = t.rows) (hb : t'.buffer.rows = t.rows)
    (hx : t'.xtwinops = t.xtwinops) (hl : t'.dirtyLines.length = t.rows)
    (hall : ∀ i, i < t.rows → Flagged t'.dirtyLines i) : StepD t t' :=
  ⟨hr, hb.trans p.brows.symm, hx, hl.trans p.len.symm,
   fun i hi => hall i (p.len ▸ (List.getElem?_eq_some_iff.1 hi).1), fun i hi _ => hall i (p.brows ▸ hi)⟩

theorem StepD.of_same {W : Field → Bool} {t t' : Terminal} (h : Same W t t')
    (w : W .buffer = false ∧ W .dirtyLines = false ∧ W .rows = false ∧ W .xtwinops = false) :
    StepD t t' :=
  StepD.of_eq (h .buffer w.1) (h .dirtyLines w.2.1) (h .rows w.2.2.1) (h .xtwinops w.2.2.2)

/-- `reflow` flags every row (`dirty_lines.resize(rows); dirty_lines.extend(0..rows)`) -/
theorem reflow_all {t t' : Terminal} (h : t.reflow = some t') :
    t'.rows = t.rows ∧ t'.xtwinops = t.xtwinops ∧ t'.buffer.rows = t.rows ∧ t'.dirtyLines.length = t.rows
      ∧ ∀ i, i < t.rows → Flagged t'.dirtyLines i := by
  obtain ⟨_, _, _, _, hr, rfl⟩ := Terminal.reflow_eq_some.1 h
  exact ⟨rfl, rfl, Buffer.resize_rows hr, List.length_replicate, fun i hi => new_flagged hi⟩

theorem step_via_reflow {t t1 t' : Terminal} (p : Pre t) (h : t1.reflow = some t')
    (r1 : t1.rows = t.rows) (x1 : t1.xtwinops = t.xtwinops) : StepD t t' := by
  obtain ⟨a1, a2, a3, a4, a5⟩ := reflow_all h
  exact StepD.of_all p (a1.trans r1) (a3.trans r1) (a2.trans x1) (a4.trans r1) (fun i hi => a5 i (r1 ▸ hi))

theorem step_hardReset {t t' : Terminal} (p : Pre t) (h : t.hardReset = some t') : StepD t t' := by
  obtain ⟨-, rfl⟩ := Terminal.hardReset_eq_some_iff.1 h
  exact StepD.of_all p rfl rfl rfl (List.length_replicate ..) (fun i hi => new_flagged hi)

theorem step_decsetOne {t t' : Terminal} {m} (p : Pre t) (h : t.decsetOne m = some t') : StepD t t' := by
  cases hm : Spec.C16.isAltScreenMode m
  · exact .of_same (Terminal.decsetOne_same h)
      (by cases m <;> first | exact ⟨rfl, rfl, rfl, rfl⟩ | cases hm)
  · obtain ⟨t1, h1, h2⟩ := Terminal.decsetOne_screen hm h
    have s := Terminal.switch_same h1
    exact step_via_reflow p h2 (s .rows rfl) (s .xtwinops rfl)

theorem step_decrstOne {t t' : Terminal} {m} (p : Pre t) (h : t.decrstOne m = some t') : StepD t t' := by
  cases hm : Spec.C16.isAltScreenMode m
  · exact .of_same (Terminal.decrstOne_same h)
      (by cases m <;> first | exact ⟨rfl, rfl, rfl, rfl⟩ | cases hm)
  · obtain ⟨t1, h1, h2⟩ := Terminal.decrstOne_screen hm h
    have s := Terminal.switch_same h1
    refine step_via_reflow p h2 (Eq.trans ?_ (s .rows rfl)) (Eq.trans ?_ (s .xtwinops rfl)) <;> split <;> rfl

theorem step_execute {t t' : Terminal} {f : Function} (p : Pre t) (h : t.execute f = some t') :
    StepD t t' := by
  cases hd : f.draws
  case true => exact .of_paint (Paint.execute hd h) p
  cases f
  case decset ms =>
    exact Terminal.foldM'_inv (f := Terminal.decsetOne) (fun x => StepD t x) (ms := ms)
      (fun b a b' _ hb hs => hb.trans (step_decsetOne (hb.pre p) hs)) (StepD.refl _) h
  case decrst ms =>
    exact Terminal.foldM'_inv (f := Terminal.decrstOne) (fun x => StepD t x) (ms := ms)
      (fun b a b' _ hb hs => hb.trans (step_decrstOne (hb.pre p) hs)) (StepD.refl _) h
  case ris => exact step_hardReset p h
  case xtwinops a b => cases Terminal.execute_xtwinops_off p.xt h; exact .refl _
  -- the rest writes neither the buffer, the flags, `rows` nor `xtwinops`
  case sm ms | rm ms =>
    refine .of_same (Terminal.execute_same h) ⟨?_, ?_, ?_, ?_⟩ <;>
      exact any_writes_false ms (by intro m; cases m <;> rfl)
  all_goals first | exact .of_same (Terminal.execute_same h) ⟨rfl, rfl, rfl, rfl⟩ | cases hd

open Spec.C15

theorem changedRows_all (t t' : Terminal) (P : Nat → Bool) :
    (changedRows t t').all P = true ↔ ∀ i, i < t'.rows → rowCells t' i ≠ rowCells t i → P i = true := by
  simp only [changedRows, List.all_eq_true, List.mem_filter, List.mem_range, rowChanged, bne_iff_ne,
    ne_eq, and_imp]

theorem reportSound_iff (t t' : Terminal) (ls : List Nat) :
    reportSound t t' ls = true ↔ ∀ i, i < t'.rows → rowCells t' i ≠ rowCells t i → i ∈ ls := by
  simp only [reportSound, changedRows_all, List.contains_iff_mem]

end Avt.C15
