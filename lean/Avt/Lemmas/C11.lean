/-
  Avt.Lemmas.C11 — helper lemmas for property C11 (dump() reproduces the terminal).

  * decimal rendering: `renderDec n = digits n`, digits only, parses back to `n`;
  * the parser run on a string (`pfeedAll`) and its relation to `Vt.feedAll`;
  * `Parser.dump` round trip for the twelve states without parameter lists.
-/
import Avt.Spec.C11
import Avt.Lemmas.C19
import Avt.Lemmas.ParserSeq
import Avt.Lemmas.Run

namespace Avt
namespace Lemmas.C11
open Avt.Spec.C11 Avt.Spec.C03 Avt.ParserSem

/-- the decimal digits of `n`, most significant first, as code points -/
def digits (n : Nat) : List Nat :=
  if n < 10 then [0x30 + n] else digits (n / 10) ++ [0x30 + n % 10]
termination_by n
decreasing_by omega

theorem decDigitsAux_acc : ∀ (fuel n : Nat) (acc : List Nat),
    decDigitsAux fuel n acc = decDigitsAux fuel n [] ++ acc
  | 0, _, _ => by simp [decDigitsAux]
  | fuel + 1, n, acc => by
    simp only [decDigitsAux]
    split
    · simp
    · rw [decDigitsAux_acc fuel (n / 10) ((0x30 + n % 10) :: acc),
        decDigitsAux_acc fuel (n / 10) [0x30 + n % 10]]
      simp

theorem decDigitsAux_eq_digits : ∀ (fuel n : Nat), n < fuel → decDigitsAux fuel n [] = digits n
  | 0, _, h => by omega
  | fuel + 1, n, h => by
    simp only [decDigitsAux]
    rw [digits]
    by_cases h10 : n / 10 = 0
    · have : n < 10 := by omega
      simp only [h10, if_true, this]
      congr 2; omega
    · have : ¬ n < 10 := by omega
      simp only [h10, if_false, this]
      rw [decDigitsAux_acc, decDigitsAux_eq_digits fuel (n / 10) (by omega)]

theorem renderDec_eq_digits (n : Nat) : renderDec n = digits n :=
  decDigitsAux_eq_digits (n + 1) n (by omega)

theorem digits_isDigit : ∀ (n : Nat), ∀ d ∈ digits n, 0x30 ≤ d ∧ d ≤ 0x39 := by
  intro n
  induction n using Nat.strongRecOn with
  | _ n ih =>
    intro d hd
    rw [digits] at hd
    split at hd
    · simp only [List.mem_singleton] at hd; omega
    · simp only [List.mem_append, List.mem_singleton] at hd
      rcases hd with hd | hd
      · exact ih (n / 10) (by omega) d hd
      · omega

theorem digits_ne_nil (n : Nat) : digits n ≠ [] := by
  rw [digits]; split <;> simp

/-- reading a digit string back (what `Param::add_digit` computes, without the `u16` truncation) -/
def parseDec (ds : List Nat) : Nat := ds.foldl (fun a d => 10 * a + (d - 0x30)) 0

theorem parseDec_digits (n : Nat) : parseDec (digits n) = n := by
  induction n using Nat.strongRecOn with
  | _ n ih =>
    rw [digits]
    split
    · simp [parseDec]
    · have := ih (n / 10) (by omega)
      simp only [parseDec] at this ⊢
      rw [List.foldl_append, this]
      simp only [List.foldl_cons, List.foldl_nil]
      omega

theorem parseDec_renderDec (n : Nat) : parseDec (renderDec n) = n := by
  rw [renderDec_eq_digits, parseDec_digits]

theorem renderDec_isDigit (n : Nat) : ∀ d ∈ renderDec n, 0x30 ≤ d ∧ d ≤ 0x39 := by
  rw [renderDec_eq_digits]; exact digits_isDigit n

/-- the parser alone: final parser state and the functions emitted, in order.  The same function as
    `Spec.C03.run` (`run_eq_pfeedAll`), under the name the C11 statements use. -/
def pfeedAll : Parser → List Nat → Option (Parser × List Function)
  | p, [] => some (p, [])
  | p, c :: cs =>
    match p.feed c with
    | none => none
    | some (p', f) =>
      match pfeedAll p' cs with
      | none => none
      | some (q, fs) => some (q, f.toList ++ fs)

theorem run_eq_pfeedAll (p : Parser) (s : List Nat) : Spec.C03.run p s = pfeedAll p s := by
  induction s generalizing p with
  | nil => rfl
  | cons c cs ih => simp only [Spec.C03.run, pfeedAll, ih]; rfl

theorem pfeedAll_append (p : Parser) (xs ys : List Nat) :
    pfeedAll p (xs ++ ys) =
      (pfeedAll p xs).bind fun r => (pfeedAll r.1 ys).map fun r' => (r'.1, r.2 ++ r'.2) := by
  simp only [← run_eq_pfeedAll]
  exact Run.run_append p xs ys

theorem feedAll_eq_pfeedAll (v : Vt) (xs : List Nat) :
    v.feedAll xs = (pfeedAll v.parser xs).bind fun r =>
      (Terminal.foldM' Terminal.execute r.2 v.terminal).map fun t => { parser := r.1, terminal := t } := by
  rw [Run.feedAll_eq_run, run_eq_pfeedAll]

theorem feedAll_of_silent (v : Vt) (xs : List Nat) (q : Parser) (h : pfeedAll v.parser xs = some (q, [])) :
    v.feedAll xs = some { v with parser := q } :=
  Run.feedAll_of_run ((run_eq_pfeedAll ..).trans h) rfl

/-- the parser in state `st` with the registers of `Parser::new` -/
def clean (st : PState) (im : Option Nat := none) : Parser :=
  { state := st, intermediate := im }

theorem williams_intermediate : ∀ c, c < 48 → 32 ≤ c →
    williams .Escape c = (.collect, .EscapeIntermediate) ∧ williams .CsiEntry c = (.collect, .CsiIntermediate)
      ∧ williams .DcsEntry c = (.collect, .DcsIntermediate) :=
  fun c h1 h2 => ⟨ParserSeq.esc_int_w _ (by decide) c h2 (by omega), ParserSeq.csi_int_w _ (by decide) c h2 (by omega),
    ParserTable.williams_span [.DcsEntry] 0x20 0x2F _ (by decide) _ List.mem_cons_self c h2 (by omega)⟩

/-- private markers `<=>?` are collected on the way into the parameter state -/
theorem williams_marker : ∀ c, c < 64 → 60 ≤ c →
    williams .CsiEntry c = (.collect, .CsiParam) ∧ williams .DcsEntry c = (.collect, .DcsParam) :=
  fun c h1 h2 => ⟨ParserSeq.csi_marker_w c h2 (by omega),
    ParserTable.williams_span [.DcsEntry] 0x3C 0x3F _ (by decide) _ List.mem_cons_self c h2 (by omega)⟩

theorem williams_colon :
    williams .CsiEntry 0x3a = (.ignore, .CsiIgnore) ∧ williams .DcsEntry 0x3a = (.ignore, .DcsIgnore) := by
  decide +kernel

/-- the final `@` that `Parser::dump` appends to reach `DcsPassthrough` -/
theorem williams_dcs_final : williams .DcsEntry 0x40 = (.ignore, .DcsPassthrough)
    ∧ williams .DcsIntermediate 0x40 = (.ignore, .DcsPassthrough)
    ∧ williams .DcsParam 0x40 = (.ignore, .DcsPassthrough) := by decide +kernel

theorem silent_cons {p p' q : Parser} {c : Nat} {cs : List Nat} (h : p.feed c = some (p', none))
    (h' : pfeedAll p' cs = some (q, [])) : pfeedAll p (c :: cs) = some (q, []) := by
  simp only [pfeedAll, h, h']
  rfl

theorem imIn_elim {lo hi : Nat} {im : Option Nat} (h : imIn lo hi im = true) :
    ∃ c, im = some c ∧ lo ≤ c ∧ c ≤ hi := by
  cases im with
  | none => simp [imIn] at h
  | some c =>
    simp only [imIn, Bool.and_eq_true, decide_eq_true_eq] at h
    exact ⟨c, rfl, h.1, h.2⟩

/-- `Parser.dump` round trip, the twelve states without a parameter list: feeding the dumped prefix
    to any parser resting in `Ground` (whatever its dead registers hold) emits nothing and yields a
    parser equal to the dumped one up to dead registers. -/
theorem parser_dump_easy (p q0 : Parser) (hreg : PRegOK p = true) (hG : q0.state = .Ground)
    (hP : PInv q0 = true) (hs : paramsLive p.state = false) :
    ∃ d q, p.dump = some d ∧ pfeedAll q0 d = some (q, []) ∧ normP q = normP p := by
  obtain ⟨wE, wC, wD, wO, wS⟩ := ParserSem.introducers_anywhere q0.state
  have hE : q0.feed 0x1b = some (clean .Escape, none) := feed_clear hP wE
  have hC : q0.feed 0x9b = some (clean .CsiEntry, none) := feed_clear hP wC
  have hD : q0.feed 0x90 = some (clean .DcsEntry, none) := feed_clear hP wD
  have hO := feed_ignore wO
  have hS := feed_ignore wS
  obtain ⟨st, ps, cp, im⟩ := p
  cases st
  case Ground => exact ⟨[], q0, rfl, rfl, by rw [normP, hG]; rfl⟩
  case Escape => exact ⟨[0x1b], clean .Escape, rfl, silent_cons hE rfl, rfl⟩
  case EscapeIntermediate =>
    obtain ⟨c, rfl, h1, h2⟩ := imIn_elim (by simpa [PRegOK] using hreg)
    exact ⟨[0x1b, c], clean .EscapeIntermediate (some c), rfl,
      silent_cons hE (silent_cons (feed_collect (williams_intermediate c (by omega) h1).1) rfl), rfl⟩
  case CsiEntry => exact ⟨[0x9b], clean .CsiEntry, rfl, silent_cons hC rfl, rfl⟩
  case CsiParam => simp [paramsLive] at hs
  case CsiIntermediate =>
    obtain ⟨c, rfl, h1, h2⟩ := imIn_elim (by simpa [PRegOK] using hreg)
    exact ⟨[0x9b, c], clean .CsiIntermediate (some c), rfl,
      silent_cons hC (silent_cons (feed_collect (williams_intermediate c (by omega) h1).2.1) rfl), rfl⟩
  case CsiIgnore =>
    exact ⟨[0x9b, 0x3a], clean .CsiIgnore, rfl,
      silent_cons hC (silent_cons (feed_ignore williams_colon.1) rfl), rfl⟩
  case DcsEntry => exact ⟨[0x90], clean .DcsEntry, rfl, silent_cons hD rfl, rfl⟩
  case DcsParam => simp [paramsLive] at hs
  case DcsIntermediate =>
    obtain ⟨c, rfl, h1, h2⟩ := imIn_elim (by simpa [PRegOK] using hreg)
    exact ⟨[0x90, c], clean .DcsIntermediate (some c), rfl,
      silent_cons hD (silent_cons (feed_collect (williams_intermediate c (by omega) h1).2.2) rfl), rfl⟩
  case DcsPassthrough =>
    simp only [PRegOK, Bool.or_eq_true] at hreg
    rcases hreg with (hn | hi) | hm
    · cases im with
      | some c => simp at hn
      | none =>
        exact ⟨[0x90, 0x40], clean .DcsPassthrough, rfl,
          silent_cons hD (silent_cons (feed_ignore williams_dcs_final.1) rfl), rfl⟩
    · obtain ⟨c, rfl, h1, h2⟩ := imIn_elim hi
      exact ⟨[0x90, c, 0x40], clean .DcsPassthrough (some c), rfl,
        silent_cons hD (silent_cons (feed_collect (williams_intermediate c (by omega) h1).2.2)
          (silent_cons (feed_ignore williams_dcs_final.2.1) rfl)), rfl⟩
    · obtain ⟨c, rfl, h1, h2⟩ := imIn_elim hm
      exact ⟨[0x90, c, 0x40], clean .DcsPassthrough (some c), rfl,
        silent_cons hD (silent_cons (feed_collect (williams_marker c (by omega) h1).2)
          (silent_cons (feed_ignore williams_dcs_final.2.2) rfl)), rfl⟩
  case DcsIgnore =>
    exact ⟨[0x90, 0x3a], clean .DcsIgnore, rfl,
      silent_cons hD (silent_cons (feed_ignore williams_colon.2) rfl), rfl⟩
  case OscString => exact ⟨[0x9d], { q0 with state := .OscString }, rfl, silent_cons hO rfl, rfl⟩
  case SosPmApcString => exact ⟨[0x98], { q0 with state := .SosPmApcString }, rfl, silent_cons hS rfl, rfl⟩

end Lemmas.C11
end Avt
