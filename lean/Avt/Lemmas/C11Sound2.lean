/-
  Avt.Lemmas.C11Sound2 — soundness of the normal form `normT` for the alternate-screen switches, RIS and
  XTWINOPS, and for `Terminal.execute` as a whole.

  The switches are given in closed form under the invariant (`C16.enterAlt` of Avt/Lemmas/C16Switch.lean,
  `leaveAlt` here): `reflow` at an unchanged geometry only sets `trim_needed`, flags every row as changed and
  clamps the saved context.
  Leaving the alternate screen READS the parked primary buffer; the closed form needs the parked buffer
  to have the terminal's geometry (`resizedOnAlt = false`) — otherwise `Buffer.resize` reflows it and
  reads its scrollback, which `normT` erases (this is why `C11_norm_sound'` has that hypothesis and
  `C11_norm_sound`, without it, is false).
-/
import Avt.Lemmas.C11Sound1
import Avt.Props.Closed
import Avt.Props.C16
import Avt.Lemmas.C11ParserNorm

namespace Avt
namespace Lemmas.C11
open Avt.Spec.C11 Avt.Spec.C16 Avt.Terminal Avt.C04L
open Avt.C16 (reflowSame enterAlt)

/-- DECRST 47 / 1047 (`restore = false`), 1049 (`restore = true`) -/
def leaveAlt (t : Terminal) (restore : Bool) : Terminal :=
  let t1 := if t.activeBufferType = .primary then t else t.swapped .primary (List.replicate t.rows true)
  reflowSame (if restore then t1.restoreCursor else t1)

/-- the screen modes succeed under the invariant (Props/Closed); what they return is read off their stages -/
theorem decsetOne_alt (t : Terminal) (h : TInv t = true) {m : DecMode} (hm : isAltScreenMode m = true) :
    t.decsetOne m
      = some (enterAlt { t with savedCtx := parkedCtx t (m == .saveCursorAltScreenBuffer) }) := by
  have ht := TOK.of_TInv h
  obtain ⟨t', e, -⟩ := Props.Closed.Terminal_decsetOne_ok m ht
  rw [e, C16.enter_eq hm (fun _ => ⟨ht.bcols, ht.brows, ht.bok.hv⟩) e]

/-- `C16.reflow_same` asks that the buffer which comes to show has the terminal's size: the active one has
    it by `TInv`, the parked one by `hg` -/
theorem decrstOne_alt (t : Terminal) (h : TInv t = true) (hg : resizedOnAlt t = false) {m : DecMode}
    (hm : isAltScreenMode m = true) :
    t.decrstOne m = some (leaveAlt t (m == .saveCursorAltScreenBuffer)) := by
  have ht := TOK.of_TInv h
  obtain ⟨t', e, -⟩ := Props.Closed.Terminal_decrstOne_ok m ht
  obtain ⟨t1, h1, h2⟩ := decrstOne_screen hm e
  rw [e, leaveAlt]
  rcases switchTo_cases h1 with ⟨hp, rfl⟩ | ⟨hp, d, rfl⟩
  · rw [if_pos hp]
    cases m <;> cases hm <;> exact congrArg some (C16.reflow_same ht.bcols ht.brows ht.bok.hv h2)
  · rw [if_neg hp]
    have hgeo : t.otherBuffer.cols = t.cols ∧ t.otherBuffer.rows = t.rows := by
      cases ha : t.activeBufferType
      · exact absurd ha hp
      · simpa [resizedOnAlt, ha] using hg
    -- the switch has set some flags `d`, `leaveAlt` says all of them: `reflowSame` overwrites the flags, so
    -- the two terminals are the same by `rfl`
    cases m <;> cases hm <;>
      exact congrArg some ((C16.reflow_same hgeo.1 hgeo.2 ht.ook.hv h2).trans rfl)

theorem reflowSame_neq {u v : Terminal} (h : NEq u v) : NEq (reflowSame u) (reflowSame v) :=
  { h with savedCtx := by simp only [reflowSame, h.savedCtx, h.cols, h.rows]
           dirty := by simp only [reflowSame, List.length_replicate, h.rows] }

theorem restoreCursor_neq {u v : Terminal} (h : NEq u v) : NEq u.restoreCursor v.restoreCursor :=
  { h with cursor := by simp only [restoreCursor, h.cursor, h.savedCtx]
           pen := congrArg (·.pen) h.savedCtx
           originMode := congrArg (·.originMode) h.savedCtx
           autoWrapMode := congrArg (·.autoWrapMode) h.savedCtx
           pendingWrap := rfl }

/-- entering parks the saved context unclamped, but `reflow` clamps it at once -/
theorem enterAlt_neq {u v : Terminal} (h : NEq u v) : NEq (enterAlt u) (enterAlt v) := by
  unfold enterAlt
  rw [← h.abt]
  by_cases hp : u.activeBufferType = .alternate
  · rw [if_pos hp, if_pos hp]
    exact reflowSame_neq h
  · rw [if_neg hp, if_neg hp]
    exact { h with
      abt := rfl
      savedCtx := h.actx
      view := by simp only [reflowSame, swapped, h.cols, h.rows, h.pen]
      bcols := h.cols
      brows := h.rows
      other := .inr ⟨h.view, h.bcols, h.brows⟩
      actx := by simp only [reflowSame, swapped, h.savedCtx, h.cols, h.rows]
      dirty := by simp only [reflowSame, swapped, List.length_replicate, h.rows] }

/-- leaving READS the parked saved context unclamped (1049 restores the cursor from it): under the
    invariant and with the parked primary at the terminal's geometry it is inside the screen, so equal
    clamped contexts are equal -/
theorem leaveAlt_neq {u v : Terminal} (h : NEq u v) (restore : Bool)
    (hctx : u.activeBufferType = .alternate → u.alternateSavedCtx = v.alternateSavedCtx) :
    NEq (leaveAlt u restore) (leaveAlt v restore) := by
  have h1 : NEq (if u.activeBufferType = .primary then u else u.swapped .primary (List.replicate u.rows true))
      (if v.activeBufferType = .primary then v else v.swapped .primary (List.replicate v.rows true)) := by
    rw [← h.abt]
    cases ha : u.activeBufferType with
    | primary => exact h
    | alternate =>
      rw [if_neg (by nofun), if_neg (by nofun)]
      obtain ⟨o1, o2, o3⟩ := h.other.resolve_left (by rw [ha]; nofun)
      exact { h with
        abt := rfl
        savedCtx := hctx ha
        view := o1
        bcols := o2
        brows := o3
        other := .inl rfl
        actx := by simp only [swapped, h.savedCtx, h.cols, h.rows]
        dirty := by simp only [swapped, List.length_replicate, h.rows] }
  unfold leaveAlt
  cases restore
  · exact reflowSame_neq h1
  · exact reflowSame_neq (restoreCursor_neq h1)

theorem clampCtx_id (c : SavedCtx) (cols rows : Nat) (h1 : c.cursorCol < cols) (h2 : c.cursorRow < rows) :
    clampCtx c cols rows = c := by
  obtain ⟨cc, cr, p, o, a⟩ := c
  simp only at h1 h2
  simp only [clampCtx, SavedCtx.mk.injEq, and_true]
  exact ⟨by omega, by omega⟩

/-- on the alternate screen, a parked primary of the terminal's size holds the parked cursor -/
theorem parked_inside {t : Terminal} (ht : TOK t) (ha : t.activeBufferType = .alternate)
    (hg : resizedOnAlt t = false) :
    (t.otherBuffer.cols = t.cols ∧ t.otherBuffer.rows = t.rows)
      ∧ t.alternateSavedCtx.cursorCol < t.cols ∧ t.alternateSavedCtx.cursorRow < t.rows := by
  have g : t.otherBuffer.cols = t.cols ∧ t.otherBuffer.rows = t.rows := by simpa [resizedOnAlt, ha] using hg
  refine ⟨g, ?_⟩
  rcases ht.actx with h1 | h1
  · rw [ha] at h1; cases h1
  · rw [← g.1, ← g.2]; exact h1

/-- the side condition of `leaveAlt_neq` from the invariant -/
theorem parkedCtx_eq {u v : Terminal} (h : NEq u v) (hu : TInv u = true) (hv : TInv v = true)
    (gu : resizedOnAlt u = false) (gv : resizedOnAlt v = false) :
    u.activeBufferType = .alternate → u.alternateSavedCtx = v.alternateSavedCtx := by
  intro ha
  have a1 := (parked_inside (TOK.of_TInv hu) ha gu).2
  have a2 := (parked_inside (TOK.of_TInv hv) (h.abt ▸ ha) gv).2
  have := h.actx
  rwa [clampCtx_id _ _ _ a1.1 a1.2, clampCtx_id _ _ _ a2.1 a2.2] at this

theorem decsetOne_sound (m : DecMode) (u v : Terminal) (hu : TInv u = true) (hv : TInv v = true)
    (e : normT u = normT v) : (u.decsetOne m).map normT = (v.decsetOne m).map normT := by
  cases hm : isAltScreenMode m
  · exact (c_decsetOne m (by rw [simpleDecMode_eq, hm]; rfl)).sound u v e
  · have h := NEq.of_norm e
    rw [decsetOne_alt u hu hm, decsetOne_alt v hv hm]
    have hs : ∀ b, parkedCtx u b = parkedCtx v b := fun b => by
      simp only [parkedCtx, entryCtx, h.cursor, h.cols, h.pen, h.originMode, h.autoWrapMode, h.savedCtx]
    have h' : NEq { u with savedCtx := parkedCtx u (m == .saveCursorAltScreenBuffer) }
        { v with savedCtx := parkedCtx v (m == .saveCursorAltScreenBuffer) } := { h with savedCtx := hs _ }
    exact congrArg some (enterAlt_neq h').norm

theorem decrstOne_sound (m : DecMode) (u v : Terminal) (hu : TInv u = true) (hv : TInv v = true)
    (gu : resizedOnAlt u = false) (gv : resizedOnAlt v = false)
    (e : normT u = normT v) : (u.decrstOne m).map normT = (v.decrstOne m).map normT := by
  cases hm : isAltScreenMode m
  · exact (c_decrstOne m (by rw [simpleDecMode_eq, hm]; rfl)).sound u v e
  · have h := NEq.of_norm e
    rw [decrstOne_alt u hu gu hm, decrstOne_alt v hv gv hm]
    exact congrArg some (leaveAlt_neq h _ (parkedCtx_eq h hu hv gu gv)).norm

/-- what soundness of `normT` for one function asks of both terminals, and every function keeps
    (`pre_execute`): the invariant, and the parked primary has the terminal's geometry
    (`resizedOnAlt`, `roa` in the names below) -/
def Pre (t : Terminal) : Prop := TInv t = true ∧ resizedOnAlt t = false

theorem roa_of_fr_geo {t t' : Terminal} (h1 : C16.fr t' = C16.fr t) (h2 : C16.geo t' = C16.geo t) :
    resizedOnAlt t' = resizedOnAlt t := by
  simp only [C16.fr, C16.geo, Prod.mk.injEq] at h1 h2
  simp only [resizedOnAlt, h1.1, h1.2.2, h2.1, h2.2.1]

theorem roa_enterAlt (t : Terminal) (hc : t.buffer.cols = t.cols) (hr : t.buffer.rows = t.rows)
    (hg : resizedOnAlt t = false) : resizedOnAlt (enterAlt t) = false := by
  unfold enterAlt
  split
  · exact hg
  · show (true && (t.buffer.cols != t.cols || t.buffer.rows != t.rows)) = false
    rw [hc, hr, bne_self_eq_false, bne_self_eq_false]
    rfl

/-- after leaving, the primary screen is showing -/
theorem roa_leaveAlt (t : Terminal) (restore : Bool) : resizedOnAlt (leaveAlt t restore) = false := by
  have h1 : (if t.activeBufferType = .primary then t
      else t.swapped .primary (List.replicate t.rows true)).activeBufferType = .primary := by
    split
    · assumption
    · rfl
  have h2 : (leaveAlt t restore).activeBufferType = .primary := by
    show (if restore then _ else _ : Terminal).activeBufferType = _
    cases restore <;> exact h1
  rw [resizedOnAlt, h2]
  rfl

theorem pre_decsetOne {t t' : Terminal} {m : DecMode} (h : Pre t) (hs : t.decsetOne m = some t') : Pre t' := by
  have ht := TOK.of_TInv h.1
  obtain ⟨t2, e2, i2⟩ := Props.Closed.Terminal_decsetOne_ok m ht
  rw [hs] at e2; cases e2
  refine ⟨i2.TInv, ?_⟩
  cases hm : isAltScreenMode m
  · rw [roa_of_fr_geo (C16.fr_decsetOne_other hm hs) (C16.geo_decsetOne hs)]
    exact h.2
  · rw [decsetOne_alt t h.1 hm] at hs; cases hs
    exact roa_enterAlt _ ht.bcols ht.brows h.2

theorem pre_decrstOne {t t' : Terminal} {m : DecMode} (h : Pre t) (hs : t.decrstOne m = some t') : Pre t' := by
  obtain ⟨t2, e2, i2⟩ := Props.Closed.Terminal_decrstOne_ok m (TOK.of_TInv h.1)
  rw [hs] at e2; cases e2
  refine ⟨i2.TInv, ?_⟩
  cases hm : isAltScreenMode m
  · rw [roa_of_fr_geo (C16.fr_decrstOne_other hm hs) (C16.geo_decrstOne hs)]
    exact h.2
  · rw [decrstOne_alt t h.1 h.2 hm] at hs; cases hs
    exact roa_leaveAlt t _

theorem pre_execute {t t' : Terminal} {f : Function} (h : Pre t) (hs : t.execute f = some t') : Pre t' := by
  refine ⟨Terminal.execute_tinv h.1 hs, ?_⟩
  rcases C16.writes_fr f with ⟨ms, rfl⟩ | ⟨ms, rfl⟩ | rfl | w
  · exact (Terminal.foldM'_inv (f := Terminal.decsetOne) Pre (ms := ms)
      (fun b a b' _ hb hs' => pre_decsetOne hb hs') h hs).2
  · exact (Terminal.foldM'_inv (f := Terminal.decrstOne) Pre (ms := ms)
      (fun b a b' _ hb hs' => pre_decrstOne hb hs') h hs).2
  · obtain ⟨-, rfl⟩ := hardReset_eq_some_iff.1 hs
    rfl
  · rw [roa_of_fr_geo (C16.fr_of_same (execute_same hs) w)
      (C16.geo_execute (TOK.of_TInv h.1).xt hs)]
    exact h.2

theorem foldM_sound {g : Terminal → DecMode → Option Terminal}
    (hstep : ∀ m u v, Pre u → Pre v → normT u = normT v → (g u m).map normT = (g v m).map normT)
    (hpre : ∀ {t t' : Terminal} {m}, Pre t → g t m = some t' → Pre t') :
    ∀ (ms : List DecMode) (u v : Terminal), Pre u → Pre v → normT u = normT v →
      (foldM' g ms u).map normT = (foldM' g ms v).map normT :=
  fun ms => foldM'_cong Pre Pre hpre hpre ms fun m _ => hstep m

theorem hardResetT_neq {u v : Terminal} (h : NEq u v) : NEq (hardResetT u) (hardResetT v) where
  cols := h.cols
  rows := h.rows
  abt := rfl
  cursor := rfl
  pen := rfl
  charsets := rfl
  activeCharset := rfl
  tabs := congrArg Tabs.new h.cols
  insertMode := rfl
  originMode := rfl
  autoWrapMode := rfl
  newLineMode := rfl
  cursorKeysMode := rfl
  pendingWrap := rfl
  topMargin := rfl
  bottomMargin := congrArg (· - 1) h.rows
  savedCtx := rfl
  xtwinops := h.xtwinops
  view := by simp only [hardResetT, freshT, Buffer.new, h.cols, h.rows]
  bcols := h.cols
  brows := h.rows
  other := .inl rfl
  actx := by simp only [hardResetT, freshT, h.cols, h.rows]
  dirty := by simp only [hardResetT, freshT, Dirty.new, List.length_replicate, h.rows]

theorem hardReset_sound {u v : Terminal} (e : normT u = normT v) :
    (u.hardReset).map normT = (v.hardReset).map normT := by
  have h := NEq.of_norm e
  rw [hardReset_eq, hardReset_eq, h.rows]
  split
  · exact congrArg some (hardResetT_neq h).norm
  · rfl

/-- every function is simple, buffer-touching, a mode list, RIS or XTWINOPS -/
theorem fn_cases (f : Function) : simpleFn f = true ∨ bufferFn f = true
    ∨ (∃ ms, f = .decset ms) ∨ (∃ ms, f = .decrst ms) ∨ f = .ris ∨ (∃ a b, f = .xtwinops a b) := by
  cases f
  case decset ms => exact .inr (.inr (.inl ⟨ms, rfl⟩))
  case decrst ms => exact .inr (.inr (.inr (.inl ⟨ms, rfl⟩)))
  case ris => exact .inr (.inr (.inr (.inr (.inl rfl))))
  case xtwinops a b => exact .inr (.inr (.inr (.inr (.inr ⟨a, b, rfl⟩))))
  all_goals first | exact .inl rfl | exact .inr (.inl rfl)

/-- normal-form soundness, every function (`C11_norm_sound_step` in Props/C11) -/
theorem norm_sound_execute_all (f : Function) (u v : Terminal) (hu : Pre u) (hv : Pre v)
    (e : normT u = normT v) : (u.execute f).map normT = (v.execute f).map normT := by
  rcases fn_cases f with h | h | ⟨ms, rfl⟩ | ⟨ms, rfl⟩ | rfl | ⟨a, b, rfl⟩
  · exact norm_sound_execute f h u v e
  · exact norm_sound_buffer f h u v hu.1 hv.1 e
  · exact foldM_sound (fun m u v hu hv e => decsetOne_sound m u v hu.1 hv.1 e) pre_decsetOne ms u v hu hv e
  · exact foldM_sound (fun m u v hu hv e => decrstOne_sound m u v hu.1 hv.1 hu.2 hv.2 e) pre_decrstOne ms u v hu hv e
  · exact hardReset_sound e
  · have x1 : u.xtwinops = false := (TOK.of_TInv hu.1).xt
    have x2 : v.xtwinops = false := (TOK.of_TInv hv.1).xt
    simp [Terminal.execute, xtwinopsF, x1, x2, e]

end Lemmas.C11
end Avt
