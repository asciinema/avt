/-
  Avt.Lemmas.Persist — state that persists.  Five properties say of some fields of `Terminal` that only
  the functions of a class the specification names may change them: the modes that steer printing
  (C04), origin mode (C05), the scroll region (C06), the pen (C08), the tab stops (C18).  Each is the
  same statement about another set of fields: a relation that says "the fields in `X` are the same" is
  kept by every function that writes none of them (`Kept.of_fields`, from the table of
  Lemmas/Writes.lean; no invariant).  What is proved per property is the lookup
  `setsX f = false → f.writes x = false`; `kept` then lifts it to `Vt.feed`, `Vt.feedAll`,
  `Vt.feedStr` and histories (Lemmas/FrameLift.lean), `resize_fields` to `Vt.resize`.
-/
import Avt.Spec.C04
import Avt.Spec.C05
import Avt.Spec.C06
import Avt.Spec.C08
import Avt.Spec.C18
import Avt.Lemmas.FrameLift
import Avt.Lemmas.Writes

namespace Avt.Frame
variable {R : Terminal → Terminal → Prop} {X : List Field}

theorem Kept.of_fields {p : Function → Prop} (X : List Field)
    (hR : ∀ {t t'}, R t t' ↔ ∀ x ∈ X, x.Kept t t') (hd : ∀ x ∈ X, x.draws = false)
    (hw : ∀ {f}, p f → ∀ x ∈ X, f.writes x = false) : Kept R p where
  refl t := hR.2 fun x _ => .refl t x
  trans h1 h2 := hR.2 fun x hx => (hR.1 h1 x hx).trans (hR.1 h2 x hx)
  draws h := hR.2 fun x hx => h x (hd x hx)
  step hf h := hR.2 fun x hx => Terminal.execute_same h x (hw hf x hx)

/-- `Terminal.resize` keeps the fields it does not write (it writes the size, the showing buffer, the
    cursor's position and pending wrap, the margins, the tab stops, the saved position and the dirty
    flags; not the parked buffer) -/
theorem resize_fields (hR : ∀ {t t'}, R t t' ↔ ∀ x ∈ X, x.Kept t t') (hr : ∀ x ∈ X, x.resizes = false)
    {t t' : Terminal} {c r : Nat} (h : t.resize c r = some t') : R t t' :=
  hR.2 fun x hx => Terminal.resize_same h x (hr x hx)

end Avt.Frame

/-! ### C04: `autoWrapMode`, `insertMode`, `charsets`, `activeCharset`

  Only their setters (SM / RM 4, DECSET / DECRST ?7, the designations, SO / SI), the restores of the
  saved context (DECRC, SCORC, DECRST ?1048 / ?1049 — auto-wrap is part of the context) and the two
  resets change them: not cursor movement, scrolling, erasing, printing itself, DECSTBM, tabs, SGR, any
  other mode, entering the alternate screen, leaving it with ?47l / ?1047l, or a resize. -/

namespace Avt.C04M
open Avt Avt.Spec Avt.Spec.C04

/-- the modes that steer printing are the same -/
def PSame (t t' : Terminal) : Prop :=
  t'.autoWrapMode = t.autoWrapMode ∧ t'.insertMode = t.insertMode ∧ t'.charsets = t.charsets
    ∧ t'.activeCharset = t.activeCharset

theorem PSame.refl (t : Terminal) : PSame t t := ⟨rfl, rfl, rfl, rfl⟩

/-- the oracle's `samePrintModes` says exactly this -/
theorem samePrintModes_iff (p n : Terminal) : samePrintModes p n = true ↔ PSame p n := by
  simp [samePrintModes, PSame, and_assoc]

theorem PSame_iff {t t' : Terminal} :
    PSame t t' ↔ ∀ x ∈ [Field.autoWrapMode, .insertMode, .charsets, .activeCharset], x.Kept t t' := by
  rw [List.forall_mem_cons, List.forall_mem_cons, List.forall_mem_cons, List.forall_mem_singleton]; exact Iff.rfl

/-- the functions outside `setsPrintModes` write none of the four; of the modes only those it names do -/
theorem writes_of_setsPrintModes {f : Function} (hf : setsPrintModes f = false) :
    ∀ x ∈ [Field.autoWrapMode, .insertMode, .charsets, .activeCharset], f.writes x = false := by
  rw [List.forall_mem_cons, List.forall_mem_cons, List.forall_mem_cons, List.forall_mem_singleton]
  cases hd : f.draws
  case true =>
    exact ⟨f.writes_of_draws hd rfl, f.writes_of_draws hd rfl, f.writes_of_draws hd rfl,
      f.writes_of_draws hd rfl⟩
  cases f <;> try contradiction
  case sm ms | rm ms | decset ms | decrst ms =>
    refine ⟨?_, ?_, ?_, ?_⟩ <;> exact any_writes_of hf (by intro m; cases m <;> decide)
  all_goals first | exact ⟨rfl, rfl, rfl, rfl⟩ | cases hf

theorem kept : Frame.Kept PSame (setsPrintModes · = false) :=
  .of_fields _ PSame_iff (by decide) writes_of_setsPrintModes

theorem resize_pm {t t' : Terminal} {cols rows : Nat} (h : t.resize cols rows = some t') : PSame t t' :=
  Frame.resize_fields PSame_iff (by decide) h

end Avt.C04M

/-! ### C05: `originMode`

  Only DECSET / DECRST ?6, the restores of the saved context (origin mode is part of it) and the two
  resets change it: not any cursor movement, DECSTBM, scrolling, erasing, printing, tabs, SGR, any other
  mode, entering the alternate screen, leaving it with ?47l / ?1047l, saving the cursor, or a resize. -/

namespace Avt.C05O
open Avt Avt.Spec Avt.Spec.C05

def OSame (t t' : Terminal) : Prop := t'.originMode = t.originMode

theorem OSame.refl (t : Terminal) : OSame t t := rfl

theorem OSame_iff {t t' : Terminal} : OSame t t' ↔ ∀ x ∈ [Field.originMode], x.Kept t t' := by
  rw [List.forall_mem_singleton]; exact Iff.rfl

/-- the functions outside `setsOrigin` do not write origin mode; of the DEC modes only ?6 and, when
    reset, the two that restore the saved context do -/
theorem writes_of_setsOrigin {f : Function} (hf : setsOrigin f = false) :
    ∀ x ∈ [Field.originMode], f.writes x = false := by
  rw [List.forall_mem_singleton]
  cases f
  case decset ms | decrst ms => exact any_writes_of hf (by intro m; cases m <;> decide)
  case sm ms | rm ms => exact any_writes_false ms (by intro m; cases m <;> rfl)
  all_goals first | rfl | cases hf

theorem kept : Frame.Kept OSame (setsOrigin · = false) :=
  .of_fields _ OSame_iff (by decide) writes_of_setsOrigin

theorem resize_om {t t' : Terminal} {cols rows : Nat} (h : t.resize cols rows = some t') : OSame t t' :=
  Frame.resize_fields OSame_iff (by decide) h

end Avt.C05O

/-! ### C06: `topMargin`, `bottomMargin`

  Only DECSTBM, the two resets and a resize change the scroll region: in particular not the switches
  of screens (47 / 1047 / 1049) in either direction, whatever the geometry of the parked buffer. -/

namespace Avt.C06M
open Avt Avt.Spec Avt.Spec.C06

def MSame (t t' : Terminal) : Prop :=
  t'.topMargin = t.topMargin ∧ t'.bottomMargin = t.bottomMargin

theorem MSame.refl (t : Terminal) : MSame t t := ⟨rfl, rfl⟩

theorem MSame_iff {t t' : Terminal} :
    MSame t t' ↔ ∀ x ∈ [Field.topMargin, .bottomMargin], x.Kept t t' := by
  rw [List.forall_mem_cons, List.forall_mem_singleton]; exact Iff.rfl

/-- the functions outside `setsMargins` write neither margin; no mode does -/
theorem writes_of_setsMargins {f : Function} (hf : setsMargins f = false) :
    ∀ x ∈ [Field.topMargin, .bottomMargin], f.writes x = false := by
  rw [List.forall_mem_cons, List.forall_mem_singleton]
  cases hd : f.draws
  case true => exact ⟨f.writes_of_draws hd rfl, f.writes_of_draws hd rfl⟩
  cases f <;> try contradiction
  case decset ms | decrst ms | sm ms | rm ms =>
    exact ⟨any_writes_false ms (by intro m; cases m <;> rfl), any_writes_false ms (by intro m; cases m <;> rfl)⟩
  all_goals first | exact ⟨rfl, rfl⟩ | cases hf

theorem kept : Frame.Kept MSame (setsMargins · = false) :=
  .of_fields _ MSame_iff (by decide) writes_of_setsMargins

end Avt.C06M

/-! ### C08: `pen`

  Only SGR, the restores (DECRC, SCORC, DECRST 1048 / 1049) and the two resets change the pen: not
  printing, erasing, scrolling, saving the cursor, setting any DEC mode, the plain switch of screens
  (47 / 1047) in either direction with the reflow that follows, or a resize. -/

namespace Avt.C08P
open Avt Avt.Spec Avt.Spec.C08

def PSame (t t' : Terminal) : Prop := t'.pen = t.pen

theorem PSame.refl (t : Terminal) : PSame t t := rfl

theorem PSame_iff {t t' : Terminal} : PSame t t' ↔ ∀ x ∈ [Field.pen], x.Kept t t' := by
  rw [List.forall_mem_singleton]; exact Iff.rfl

/-- the functions outside `setsPen` do not write the pen; of the DEC modes only resetting 1048 / 1049
    (a restore) does -/
theorem writes_of_setsPen {f : Function} (hf : setsPen f = false) :
    ∀ x ∈ [Field.pen], f.writes x = false := by
  rw [List.forall_mem_singleton]
  cases f
  case decset ms | sm ms | rm ms => exact any_writes_false ms (by intro m; cases m <;> rfl)
  case decrst ms => exact any_writes_of hf (by intro m; cases m <;> decide)
  all_goals first | rfl | cases hf

theorem kept : Frame.Kept PSame (setsPen · = false) :=
  .of_fields _ PSame_iff (by decide) writes_of_setsPen

theorem resize_pen {t t' : Terminal} {cols rows : Nat} (h : t.resize cols rows = some t') : PSame t t' :=
  Frame.resize_fields PSame_iff (by decide) h

end Avt.C08P

/-! ### C18: `tabs` (and `cols`, which the default stops depend on)

  Only HTS / TBC / CTC (which edit the stop vector), RIS (back to the defaults) and a resize change
  them: not HT / CHT / CBT themselves, printing, erasing, scrolling, save / restore cursor, DECSTR, or
  the switches of screens (47 / 1047 / 1049) in either direction with the reflow that follows. -/

namespace Avt.Lemmas.C18
open Avt Avt.Spec Avt.Spec.C18

/-- `t'` has the stop vector and the width of `t` -/
def Fr (t t' : Terminal) : Prop := t'.tabs = t.tabs ∧ t'.cols = t.cols

theorem Fr_iff {t t' : Terminal} : Fr t t' ↔ ∀ x ∈ [Field.tabs, .cols], x.Kept t t' := by
  rw [List.forall_mem_cons, List.forall_mem_singleton]; exact Iff.rfl

/-- the functions outside `setsTabs` write neither the stops nor the width -/
theorem writes_of_setsTabs {f : Function} (hf : setsTabs f = false) :
    ∀ x ∈ [Field.tabs, .cols], f.writes x = false := by
  rw [List.forall_mem_cons, List.forall_mem_singleton]
  cases hd : f.draws
  case true => exact ⟨f.writes_of_draws hd rfl, f.writes_of_draws hd rfl⟩
  cases f <;> try contradiction
  case decset ms | decrst ms | sm ms | rm ms =>
    exact ⟨any_writes_false ms (by intro m; cases m <;> rfl), any_writes_false ms (by intro m; cases m <;> rfl)⟩
  all_goals first | exact ⟨rfl, rfl⟩ | cases hf

end Avt.Lemmas.C18

namespace Avt.C18T
open Avt Avt.Spec Avt.Spec.C18 Avt.Lemmas.C18

theorem kept : Frame.Kept Fr (setsTabs · = false) :=
  .of_fields _ Fr_iff (by decide) writes_of_setsTabs

end Avt.C18T
