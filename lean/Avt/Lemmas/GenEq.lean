/-
  Avt.Lemmas.GenEq — the generated translation of the Rust function bodies (Avt/Gen/TerminalGen.lean,
  regenerated from /repo/src by translate/rs2lean.py on every run) EQUALS the hand-written model,
  for all inputs.  One theorem `<name>_eq` per generated function.  A change in the Rust body of a
  translated function changes the generated definition and the corresponding theorem stops checking.
  Where terminal.rs calls into buffer.rs, dirty_lines.rs, tabs.rs or charset.rs, the generated `GenT.*` call the
  MODEL's `Avt.Buffer.*`, `Avt.Dirty.*`, `Avt.Tabs.*`, `Avt.Charset.translate`, not a generated body; those callees
  are tied to the source separately (`GenT.DirtyLines.*`, `GenT.Tabs.*` below, `GenB.*` in GenEqBuffer,
  `GenC.Charset.translate` in GenEqCtor); no theorem composes the two.
  The theorem names are read by `bin/check`: when this module, GenEqBuffer or GenEqLine stops building it maps
  each error to the enclosing theorem, strips the suffix (`_eq`, `_gen_shape`, `_flag` here; `_eq`, `_sim`,
  `_sim_BInv`, `_some_iff`, `_fold`, `_gen_shape` in GenEqBuffer / GenEqLine) and takes the stem for the generated
  function that changed, to decide which properties the failure counts against (a failure of another GenEq*
  module counts as a whole).  Here the stem is looked up in the call graph of TerminalGen.lean under the
  control functions a property covers.  A helper whose stem names no generated function (`printWrap_eq`,
  `triFlag`, `printN_fold`) is found nowhere in it: broken alone, it counts against the properties that cover
  every function and against none that covers a set of them.
-/
import Avt.Gen.TerminalGen
import Avt.Lemmas.C15PrintSplit
import Avt.Lemmas.Prim


namespace Avt.GenEq
open Avt

-- the translator writes a comparison as `decide (a = b)`, the model as `a == b`
theorem dec_beq (a b : Nat) : decide (a = b) = (a == b) := (Bool.beq_eq_decide_eq a b).symm

/-! ### pen.rs, cell.rs, cursor.rs, defaults -/

theorem Pen.default_eq : GenT.Pen.default = ({} : Pen) := rfl
theorem SavedCtx.default_eq : GenT.SavedCtx.default = ({} : SavedCtx) := rfl
theorem Cursor.default_eq : GenT.Cursor.default = ({} : Cursor) := rfl

theorem Pen.foreground_eq (p : Pen) : GenT.Pen.foreground p = p.fg := rfl
theorem Pen.background_eq (p : Pen) : GenT.Pen.background p = p.bg := rfl
theorem Pen.isBold_eq (p : Pen) : GenT.Pen.isBold p = p.isBold := by
  cases p with | mk fg bg i a => cases i <;> rfl
theorem Pen.isFaint_eq (p : Pen) : GenT.Pen.isFaint p = p.isFaint := by
  cases p with | mk fg bg i a => cases i <;> rfl

theorem Pen.isItalic_eq (p : Pen) : GenT.Pen.isItalic p = p.isItalic := by
  simp [GenT.Pen.isItalic, Avt.Pen.isItalic, bne, dec_beq]
theorem Pen.isUnderline_eq (p : Pen) : GenT.Pen.isUnderline p = p.isUnderline := by
  simp [GenT.Pen.isUnderline, Avt.Pen.isUnderline, bne, dec_beq]
theorem Pen.isStrikethrough_eq (p : Pen) : GenT.Pen.isStrikethrough p = p.isStrikethrough := by
  simp [GenT.Pen.isStrikethrough, Avt.Pen.isStrikethrough, bne, dec_beq]
theorem Pen.isBlink_eq (p : Pen) : GenT.Pen.isBlink p = p.isBlink := by
  simp [GenT.Pen.isBlink, Avt.Pen.isBlink, bne, dec_beq]
theorem Pen.isInverse_eq (p : Pen) : GenT.Pen.isInverse p = p.isInverse := by
  simp [GenT.Pen.isInverse, Avt.Pen.isInverse, bne, dec_beq]

theorem Pen.isDefault_eq (p : Pen) : GenT.Pen.isDefault p = p.isDefault := by
  simp only [GenT.Pen.isDefault, Avt.Pen.isDefault, Pen.isItalic_eq, Pen.isUnderline_eq,
    Pen.isStrikethrough_eq, Pen.isBlink_eq, Pen.isInverse_eq]
  cases p with | mk fg bg i a => cases i <;> cases fg <;> cases bg <;> simp [Bool.and_assoc]

theorem Pen.setItalic_eq (p : Pen) : GenT.Pen.setItalic p = p.setBit Gen.italicMask := rfl
theorem Pen.setUnderline_eq (p : Pen) : GenT.Pen.setUnderline p = p.setBit Gen.underlineMask := rfl
theorem Pen.setBlink_eq (p : Pen) : GenT.Pen.setBlink p = p.setBit Gen.blinkMask := rfl
theorem Pen.setInverse_eq (p : Pen) : GenT.Pen.setInverse p = p.setBit Gen.inverseMask := rfl
theorem Pen.setStrikethrough_eq (p : Pen) : GenT.Pen.setStrikethrough p = p.setBit Gen.strikethroughMask := rfl
theorem Pen.unsetItalic_eq (p : Pen) : GenT.Pen.unsetItalic p = p.unsetBit Gen.italicMask := rfl
theorem Pen.unsetUnderline_eq (p : Pen) : GenT.Pen.unsetUnderline p = p.unsetBit Gen.underlineMask := rfl
theorem Pen.unsetBlink_eq (p : Pen) : GenT.Pen.unsetBlink p = p.unsetBit Gen.blinkMask := rfl
theorem Pen.unsetInverse_eq (p : Pen) : GenT.Pen.unsetInverse p = p.unsetBit Gen.inverseMask := rfl
theorem Pen.unsetStrikethrough_eq (p : Pen) : GenT.Pen.unsetStrikethrough p = p.unsetBit Gen.strikethroughMask := rfl

theorem Cell.new_eq (ch : Nat) (pen : Pen) : GenT.Cell.new ch pen = ⟨ch, pen⟩ := rfl
theorem Cell.blank_eq (pen : Pen) : GenT.Cell.blank pen = Avt.Cell.blank pen := rfl
theorem Cell.fromChar_eq (ch : Nat) : GenT.Cell.fromChar ch = ⟨ch, Avt.Pen.default⟩ := rfl
theorem Cell.char_eq (c : Cell) : GenT.Cell.char c = c.ch := rfl
theorem Cell.pen_eq (c : Cell) : GenT.Cell.pen c = c.pen := rfl
theorem Cell.default_eq : GenT.Cell.default = Avt.Cell.blank Avt.Pen.default := rfl
theorem Cell.isDefault_eq (c : Cell) : GenT.Cell.isDefault c = c.isDefault := by
  simp [GenT.Cell.isDefault, Avt.Cell.isDefault, Pen.isDefault_eq, dec_beq]

theorem SavedCtx.isDefault_eq (c : SavedCtx) : GenT.SavedCtx.isDefault c = c.isDefault := by
  simp [GenT.SavedCtx.isDefault, Avt.SavedCtx.isDefault, Pen.isDefault_eq, Bool.and_assoc, dec_beq]

/-! ### dirty_lines.rs -/

theorem DirtyLines.new_eq (len : Nat) : GenT.DirtyLines.new len = Dirty.new len := rfl
theorem DirtyLines.add_eq (d : List Bool) (n : Nat) : GenT.DirtyLines.add d n = Dirty.add d n := rfl
theorem DirtyLines.extend_eq (d : List Bool) (r : Nat × Nat) :
    GenT.DirtyLines.extend d r = Dirty.extend d r.1 r.2 := rfl
theorem DirtyLines.resize_eq (d : List Bool) (len : Nat) : GenT.DirtyLines.resize d len = Dirty.resize d len := rfl
theorem DirtyLines.clear_eq (d : List Bool) : GenT.DirtyLines.clear d = Dirty.clear d := rfl

theorem toVec_aux (d : List Bool) : ∀ k,
    List.filterMap (fun (x : Bool × Nat) => if x.1 then some x.2 else none) (List.zipIdx d k) = Dirty.toVecGo d k := by
  induction d with
  | nil => intro k; rfl
  | cons b bs ih =>
    intro k
    cases b <;> simp [List.zipIdx_cons, Dirty.toVecGo, ih]

theorem DirtyLines.toVec_eq (d : List Bool) : GenT.DirtyLines.toVec d = Dirty.toVec d := by
  unfold GenT.DirtyLines.toVec Dirty.toVec
  exact toVec_aux d 0

/-! ### tabs.rs -/

theorem foldl_push {α} (l acc : List α) : List.foldl (fun acc x => acc ++ [x]) acc l = acc ++ l := by
  induction l generalizing acc with
  | nil => simp
  | cons x xs ih => simp [ih]

/-- idiom-defined: the range `(8..cols).step_by(8)` is given the meaning `Tabs.stepFrom 8 cols`; what the theorem
    compares is the loop pushing its elements -/
theorem Tabs.new_eq (cols : Nat) : GenT.Tabs.new cols = Avt.Tabs.new cols := by
  unfold GenT.Tabs.new Avt.Tabs.new
  exact foldl_push _ []

/-- idiom-defined: `if let Err(i) = v.binary_search(&pos) { v.insert(i, pos) }` is given the meaning `Tabs.set` -/
theorem Tabs.set_eq (l : List Nat) (pos : Nat) : GenT.Tabs.set l pos = Avt.Tabs.set l pos := rfl
/-- idiom-defined: `if let Ok(i) = v.binary_search(&pos) { v.remove(i) }` is given the meaning `Tabs.unset` -/
theorem Tabs.unset_eq (l : List Nat) (pos : Nat) : GenT.Tabs.unset l pos = Avt.Tabs.unset l pos := rfl

/-- idiom-defined as in `Tabs.new_eq`: `(start..end).step_by(8)` is given the meaning `Tabs.stepFrom` -/
theorem Tabs.expand_eq (l : List Nat) (s e : Nat) : GenT.Tabs.expand l s e = some (Avt.Tabs.expand l s e) := by
  have h : s % 8 ≤ 8 := by omega
  unfold GenT.Tabs.expand Avt.Tabs.expand
  simp only [foldl_push]
  by_cases h0 : s % 8 = 0 <;> simp [csub, h, h0]

theorem Tabs.contract_eq (l : List Nat) (pos : Nat) : GenT.Tabs.contract l pos = Avt.Tabs.contract l pos := by
  simp only [GenT.Tabs.contract, Avt.Tabs.contract]
  exact (List.prefix_iff_eq_take.1 (List.takeWhile_prefix _)).symm

theorem Tabs.clear_eq (l : List Nat) : GenT.Tabs.clear l = [] := rfl

theorem Tabs.before_eq (l : List Nat) (pos n : Nat) : GenT.Tabs.before l pos n = Avt.Tabs.before l pos n := by
  unfold GenT.Tabs.before Avt.Tabs.before
  cases csub n 1 <;> rfl

theorem Tabs.after_eq (l : List Nat) (pos n : Nat) : GenT.Tabs.after l pos n = Avt.Tabs.after l pos n := by
  unfold GenT.Tabs.after Avt.Tabs.after
  cases csub n 1 <;> rfl

/-! ### terminal.rs -/

open Avt.Terminal

theorem csub_asUsize_one (n : Nat) : csub (Avt.asUsize n 1) 1 = some (Avt.asUsize n 1 - 1) :=
  csub_eq_some (by unfold Avt.asUsize; split <;> omega)

theorem asUsize_eq (v d : Nat) : GenT.asUsize v d = Avt.asUsize v d := rfl

theorem new_eq (cols rows : Nat) (limit : Option Nat) : GenT.new cols rows limit = Terminal.new cols rows limit := by
  unfold GenT.new Terminal.new
  cases csub rows 1 <;> rfl

theorem default_eq : GenT.default = Terminal.new 80 24 none := by
  unfold GenT.default; exact new_eq _ _ _

theorem cursor_eq (t : Terminal) : GenT.cursor t = t.cursor := rfl

theorem doMoveCursorToCol_eq (t : Terminal) (col : Nat) :
    GenT.doMoveCursorToCol t col = t.doMoveCursorToCol col := rfl

theorem moveCursorToCol_eq (t : Terminal) (col : Nat) :
    GenT.moveCursorToCol t col = t.moveCursorToCol col := by
  unfold GenT.moveCursorToCol Terminal.moveCursorToCol
  simp only [doMoveCursorToCol_eq]
  split
  · cases csub t.cols 1 <;> rfl
  · rfl

theorem moveCursorToRelCol_eq (t : Terminal) (rel : Int) :
    GenT.moveCursorToRelCol t rel = t.moveCursorToRelCol rel := by
  unfold GenT.moveCursorToRelCol Terminal.moveCursorToRelCol
  simp only [doMoveCursorToCol_eq]
  split
  · rfl
  · split
    · cases csub t.cols 1 <;> rfl
    · rfl

theorem bs_eq (t : Terminal) : GenT.bs t = t.bs := by
  unfold GenT.bs Terminal.bs
  simp only [moveCursorToRelCol_eq]

theorem doMoveCursorToRow_eq (t : Terminal) (row : Nat) :
    GenT.doMoveCursorToRow t row = t.doMoveCursorToRow row := by
  unfold GenT.doMoveCursorToRow Terminal.doMoveCursorToRow
  cases csub t.cols 1 <;> rfl

theorem actualTopMargin_eq (t : Terminal) : GenT.actualTopMargin t = t.actualTopMargin := by
  unfold GenT.actualTopMargin Terminal.actualTopMargin
  cases t.originMode <;> rfl

theorem actualBottomMargin_eq (t : Terminal) : GenT.actualBottomMargin t = t.actualBottomMargin := by
  unfold GenT.actualBottomMargin Terminal.actualBottomMargin
  cases t.originMode <;> rfl

theorem moveCursorToRow_eq (t : Terminal) (row : Nat) :
    GenT.moveCursorToRow t row = t.moveCursorToRow row := by
  unfold GenT.moveCursorToRow Terminal.moveCursorToRow
  simp only [actualTopMargin_eq, actualBottomMargin_eq, doMoveCursorToRow_eq]
  cases t.actualBottomMargin <;> rfl

theorem moveCursorHome_eq (t : Terminal) : GenT.moveCursorHome t = t.moveCursorHome := by
  unfold GenT.moveCursorHome Terminal.moveCursorHome
  simp only [actualTopMargin_eq, doMoveCursorToCol_eq, doMoveCursorToRow_eq]

theorem moveCursorToNextTab_eq (t : Terminal) (n : Nat) :
    GenT.moveCursorToNextTab t n = t.moveCursorToNextTab n := by
  unfold GenT.moveCursorToNextTab Terminal.moveCursorToNextTab
  simp only [moveCursorToCol_eq]
  cases Tabs.after t.tabs t.cursor.col n <;> cases csub t.cols 1 <;> rfl

theorem moveCursorToPrevTab_eq (t : Terminal) (n : Nat) :
    GenT.moveCursorToPrevTab t n = t.moveCursorToPrevTab n := by
  unfold GenT.moveCursorToPrevTab Terminal.moveCursorToPrevTab
  simp only [moveCursorToCol_eq]
  cases Tabs.before t.tabs t.cursor.col n <;> rfl

theorem scrollUpInRegion_eq (t : Terminal) (n : Nat) :
    GenT.scrollUpInRegion t n = t.scrollUpInRegion n := by
  unfold GenT.scrollUpInRegion Terminal.scrollUpInRegion
  cases h : t.buffer.scrollUp t.topMargin (t.bottomMargin + 1) n t.pen with
  | none => simp [h]
  | some b => simp only [h]; cases Dirty.extend t.dirtyLines t.topMargin (t.bottomMargin + 1) <;> rfl

theorem scrollDownInRegion_eq (t : Terminal) (n : Nat) :
    GenT.scrollDownInRegion t n = t.scrollDownInRegion n := by
  unfold GenT.scrollDownInRegion Terminal.scrollDownInRegion
  cases h : t.buffer.scrollDown t.topMargin (t.bottomMargin + 1) n t.pen with
  | none => simp [h]
  | some b => simp only [h]; cases Dirty.extend t.dirtyLines t.topMargin (t.bottomMargin + 1) <;> rfl

theorem moveCursorDownWithScroll_eq (t : Terminal) :
    GenT.moveCursorDownWithScroll t = t.moveCursorDownWithScroll := by
  unfold GenT.moveCursorDownWithScroll Terminal.moveCursorDownWithScroll
  simp only [scrollUpInRegion_eq, doMoveCursorToRow_eq]
  rfl

theorem cursorDown_eq (t : Terminal) (n : Nat) : GenT.cursorDown t n = t.cursorDown n := by
  unfold GenT.cursorDown Terminal.cursorDown
  simp only [doMoveCursorToRow_eq]
  by_cases h : t.cursor.row > t.bottomMargin
  · simp only [h, ↓reduceIte]; cases csub t.rows 1 <;> rfl
  · simp only [h, ↓reduceIte]

theorem cursorUp_eq (t : Terminal) (n : Nat) : GenT.cursorUp t n = t.cursorUp n := by
  unfold GenT.cursorUp Terminal.cursorUp
  simp only [doMoveCursorToRow_eq]

theorem saveCursor_eq (t : Terminal) : GenT.saveCursor t = t.saveCursor := by
  unfold GenT.saveCursor Terminal.saveCursor
  cases csub t.cols 1 <;> rfl

theorem restoreCursor_eq (t : Terminal) : GenT.restoreCursor t = t.restoreCursor := rfl

theorem setTab_eq (t : Terminal) : GenT.setTab t = t.setTab := by
  unfold GenT.setTab Terminal.setTab
  split <;> rfl

theorem clearTab_eq (t : Terminal) : GenT.clearTab t = t.clearTab := rfl
theorem clearAllTabs_eq (t : Terminal) : GenT.clearAllTabs t = t.clearAllTabs := rfl

theorem switchToAlternateBuffer_eq (t : Terminal) :
    GenT.switchToAlternateBuffer t = t.switchToAlternateBuffer := by
  unfold GenT.switchToAlternateBuffer Terminal.switchToAlternateBuffer Terminal.markDirtyRange
  cases h : t.activeBufferType
  · simp only []
    cases Dirty.extend t.dirtyLines 0 t.rows <;> rfl
  · rfl

theorem switchToPrimaryBuffer_eq (t : Terminal) :
    GenT.switchToPrimaryBuffer t = t.switchToPrimaryBuffer := by
  unfold GenT.switchToPrimaryBuffer Terminal.switchToPrimaryBuffer Terminal.markDirtyRange
  cases h : t.activeBufferType
  · rfl
  · simp only []
    cases Dirty.extend t.dirtyLines 0 t.rows <;> rfl

theorem reflow_eq (t : Terminal) : GenT.reflow t = t.reflow := by
  unfold GenT.reflow Terminal.reflow Terminal.markDirtyRange
  simp only []
  generalize (if t.cols ≠ t.buffer.cols then { t with pendingWrap := false } else t) = t1
  cases t1.buffer.resize t1.cols t1.rows (t1.cursor.col, t1.cursor.row) with
  | none => simp only []
  | some r =>
    obtain ⟨b, col, row⟩ := r
    dsimp only
    cases Dirty.extend (Dirty.resize t1.dirtyLines t1.rows) 0 t1.rows with
    | none => simp only [Option.map]
    | some d =>
      dsimp only [Option.map]
      by_cases hc : t1.savedCtx.cursorCol ≥ t1.cols <;> by_cases hr : t1.savedCtx.cursorRow ≥ t1.rows <;>
        cases h3 : csub t1.cols 1 <;> cases h4 : csub t1.rows 1 <;> simp only [hc, hr, h4, ↓reduceIte]

theorem map_fst_tail {α β} (o : Option α) (b : β) :
    Option.map Prod.fst (match o with | none => none | some t => some (t, b)) = o := by
  cases o <;> rfl

theorem triFlag {α} (a b : Nat) (x y z : α) :
    (if a < b then (x, true) else if a = b then (y, false) else (z, true)) =
      ((if a < b then x else if a > b then z else y), decide (a ≠ b)) := by
  rcases Nat.lt_trichotomy a b with h | h | h
  · rw [if_pos h, if_pos h, decide_eq_true (Nat.ne_of_lt h)]
  · subst h; simp only [Nat.lt_irrefl, if_false, if_true, ne_eq, not_true, decide_false]
  · rw [if_neg (Nat.lt_asymm h), if_neg (Nat.ne_of_gt h), if_neg (Nat.lt_asymm h), if_pos h,
      decide_eq_true (Nat.ne_of_gt h)]

/-- the generated `Terminal::resize` in the model's terms: the model's result paired with "the size
    changed".  Width step by `triFlag`; it keeps `rows`; then either the height is unchanged and the
    flag is the width flag, or it changed (the `<` and `>` arms are the same term) and the flag is set. -/
theorem resize_gen_shape (t : Terminal) (cols rows : Nat) :
    GenT.resize t cols rows
      = (t.resize cols rows).map fun t' => (t', decide (cols ≠ t.cols ∨ rows ≠ t.rows)) := by
  unfold GenT.resize Terminal.resize
  simp only [reflow_eq, triFlag]
  obtain ⟨t1, ht1, hr⟩ : ∃ t1 : Terminal,
      (if cols < t.cols then ({ t with tabs := Tabs.contract t.tabs cols } : Terminal)
        else if cols > t.cols then { t with tabs := Tabs.expand t.tabs t.cols cols } else t) = t1
      ∧ t1.rows = t.rows :=
    ⟨_, rfl, by split <;> (try split) <;> rfl⟩
  simp only [ht1, hr]
  by_cases h : rows = t.rows
  · have e : decide (cols ≠ t.cols ∨ rows ≠ t.rows) = decide (cols ≠ t.cols) := by simp [h]
    rw [if_neg (h ▸ Nat.lt_irrefl _), if_pos h, if_neg (fun g => g h), e]
    simp only []
    cases Terminal.reflow _ <;> rfl
  · have e : decide (cols ≠ t.cols ∨ rows ≠ t.rows) = true := decide_eq_true (Or.inr h)
    rw [if_pos h, e]
    have : ∀ X : Option (Terminal × Bool), (if rows < t.rows then X
        else if rows = t.rows then some (t1, decide (cols ≠ t.cols)) else X) = X := by
      intro X; rw [if_neg h, ite_self]
    rw [this]
    cases csub rows 1 with
    | none => rfl
    | some r1 => simp only [Option.map]; cases Terminal.reflow _ <;> rfl

theorem resize_eq (t : Terminal) (cols rows : Nat) :
    (GenT.resize t cols rows).map Prod.fst = t.resize cols rows := by
  rw [resize_gen_shape]; cases t.resize cols rows <;> rfl

theorem resize_flag (t : Terminal) (cols rows : Nat) (t' : Terminal) (b : Bool)
    (h : GenT.resize t cols rows = some (t', b)) : b = decide (cols ≠ t.cols ∨ rows ≠ t.rows) := by
  rw [resize_gen_shape] at h
  cases ht : t.resize cols rows with
  | none => rw [ht] at h; cases h
  | some t1 => rw [ht] at h; cases h; rfl

theorem softReset_eq (t : Terminal) : GenT.softReset t = t.softReset := by
  unfold GenT.softReset Terminal.softReset
  simp only []
  cases csub t.rows 1 <;> rfl

theorem hardReset_eq (t : Terminal) : GenT.hardReset t = t.hardReset := by
  unfold GenT.hardReset Terminal.hardReset
  simp only []
  cases csub t.rows 1 <;> rfl

theorem primaryBuffer_eq (t : Terminal) : GenT.primaryBuffer t = t.primaryBuffer := rfl
theorem alternateBuffer_eq (t : Terminal) : GenT.alternateBuffer t = t.alternateBuffer := rfl
theorem view_eq (t : Terminal) : GenT.view t = t.view := rfl
theorem lines_eq (t : Terminal) : GenT.lines t = t.lines := rfl
theorem line_eq (t : Terminal) (n : Nat) : GenT.line t n = t.buffer.view[n]? := rfl
theorem text_eq (t : Terminal) : GenT.text t = t.text := rfl
theorem cursorKeysAppMode_eq (t : Terminal) :
    GenT.cursorKeysAppMode t = decide (t.cursorKeysMode = .application) := rfl

theorem gc_eq (t : Terminal) : GenT.gc t = t.gc := by
  unfold GenT.gc Terminal.gc
  cases h : t.activeBufferType <;> rfl

theorem changes_eq (t : Terminal) : GenT.changes t = t.changes := rfl

/-! #### control functions (the right-hand sides are the arms of the model's `execute`) -/

theorem ht_eq (t : Terminal) : GenT.ht t = t.moveCursorToNextTab 1 := by
  unfold GenT.ht; exact moveCursorToNextTab_eq t 1

theorem lf_eq (t : Terminal) : GenT.lf t = t.lf := by
  unfold GenT.lf Terminal.lf
  simp only [moveCursorDownWithScroll_eq, doMoveCursorToCol_eq]
  cases t.moveCursorDownWithScroll with
  | none => rfl
  | some t1 => simp only [Option.map]; split <;> rfl

theorem cr_eq (t : Terminal) : GenT.cr t = t.doMoveCursorToCol 0 := rfl
theorem so_eq (t : Terminal) : GenT.so t = { t with activeCharset := 1 } := rfl
theorem si_eq (t : Terminal) : GenT.si t = { t with activeCharset := 0 } := rfl

theorem nel_eq (t : Terminal) : GenT.nel t = t.nel := by
  unfold GenT.nel Terminal.nel
  simp only [moveCursorDownWithScroll_eq, doMoveCursorToCol_eq]
  cases t.moveCursorDownWithScroll <;> rfl

theorem hts_eq (t : Terminal) : GenT.hts t = t.setTab := by
  unfold GenT.hts; exact setTab_eq t

theorem ri_eq (t : Terminal) : GenT.ri t = t.ri := by
  unfold GenT.ri Terminal.ri
  simp only [scrollDownInRegion_eq, doMoveCursorToRow_eq]
  by_cases h1 : t.cursor.row = t.topMargin <;> by_cases h2 : t.cursor.row > 0 <;>
    simp only [h1, h2, ↓reduceIte]
  all_goals (try rfl)
  all_goals
    have h3 : csub t.cursor.row 1 = some (t.cursor.row - 1) := csub_eq_some h2
    simp only [h3]

theorem sc_eq (t : Terminal) : GenT.sc t = t.saveCursor := by
  unfold GenT.sc; exact saveCursor_eq t
theorem rc_eq (t : Terminal) : GenT.rc t = t.restoreCursor := rfl
theorem ris_eq (t : Terminal) : GenT.ris t = t.hardReset := by
  unfold GenT.ris; exact hardReset_eq t
theorem gzd4_eq (t : Terminal) (c : Charset) : GenT.gzd4 t c = { t with charsets := (c, t.charsets.2) } := rfl
theorem g1d4_eq (t : Terminal) (c : Charset) : GenT.g1d4 t c = { t with charsets := (t.charsets.1, c) } := rfl

theorem ich_eq (t : Terminal) (n : Nat) : GenT.ich t n = t.ich n := by
  unfold GenT.ich Terminal.ich Terminal.markDirty
  simp only [asUsize_eq, Cell.blank_eq]
  cases t.buffer.insert t.cursor.col t.cursor.row (Avt.asUsize n 1) (Avt.Cell.blank t.pen) with
  | none => rfl
  | some b => simp only []; cases Dirty.add t.dirtyLines t.cursor.row <;> rfl

theorem cuu_eq (t : Terminal) (n : Nat) : GenT.cuu t n = t.cursorUp (Avt.asUsize n 1) := by
  unfold GenT.cuu; exact cursorUp_eq t _
theorem cud_eq (t : Terminal) (n : Nat) : GenT.cud t n = t.cursorDown (Avt.asUsize n 1) := by
  unfold GenT.cud; exact cursorDown_eq t _
theorem cuf_eq (t : Terminal) (n : Nat) : GenT.cuf t n = t.moveCursorToRelCol ((Avt.asUsize n 1 : Nat) : Int) := by
  unfold GenT.cuf; exact moveCursorToRelCol_eq t _
theorem cub_eq (t : Terminal) (n : Nat) : GenT.cub t n = t.cub n := by
  unfold GenT.cub Terminal.cub
  simp only [moveCursorToRelCol_eq, asUsize_eq]
theorem cnl_eq (t : Terminal) (n : Nat) :
    GenT.cnl t n = (t.cursorDown (Avt.asUsize n 1)).map fun t => t.doMoveCursorToCol 0 := by
  unfold GenT.cnl
  simp only [cursorDown_eq, asUsize_eq, doMoveCursorToCol_eq]
  cases t.cursorDown (Avt.asUsize n 1) <;> rfl
theorem cpl_eq (t : Terminal) (n : Nat) :
    GenT.cpl t n = (t.cursorUp (Avt.asUsize n 1)).map fun t => t.doMoveCursorToCol 0 := by
  unfold GenT.cpl
  simp only [cursorUp_eq, asUsize_eq, doMoveCursorToCol_eq]
  cases t.cursorUp (Avt.asUsize n 1) <;> rfl
theorem cha_eq (t : Terminal) (n : Nat) : GenT.cha t n = t.moveCursorToCol (Avt.asUsize n 1 - 1) := by
  unfold GenT.cha
  simp only [asUsize_eq, csub_asUsize_one, moveCursorToCol_eq]
theorem cup_eq (t : Terminal) (row col : Nat) : GenT.cup t row col = t.cup row col := by
  unfold GenT.cup Terminal.cup
  simp only [asUsize_eq, csub_asUsize_one, moveCursorToCol_eq, moveCursorToRow_eq]
  rfl
theorem cht_eq (t : Terminal) (n : Nat) : GenT.cht t n = t.moveCursorToNextTab (Avt.asUsize n 1) := by
  unfold GenT.cht; exact moveCursorToNextTab_eq t _
theorem cbt_eq (t : Terminal) (n : Nat) : GenT.cbt t n = t.moveCursorToPrevTab (Avt.asUsize n 1) := by
  unfold GenT.cbt; exact moveCursorToPrevTab_eq t _
theorem vpa_eq (t : Terminal) (n : Nat) : GenT.vpa t n = t.moveCursorToRow (Avt.asUsize n 1 - 1) := by
  unfold GenT.vpa
  simp only [asUsize_eq, csub_asUsize_one, moveCursorToRow_eq]
theorem vpr_eq (t : Terminal) (n : Nat) : GenT.vpr t n = t.cursorDown (Avt.asUsize n 1) := by
  unfold GenT.vpr; exact cursorDown_eq t _
theorem su_eq (t : Terminal) (n : Nat) : GenT.su t n = t.scrollUpInRegion (Avt.asUsize n 1) := by
  unfold GenT.su; exact scrollUpInRegion_eq t _
theorem sd_eq (t : Terminal) (n : Nat) : GenT.sd t n = t.scrollDownInRegion (Avt.asUsize n 1) := by
  unfold GenT.sd; exact scrollDownInRegion_eq t _

theorem ctc_eq (t : Terminal) (op : CtcOp) : GenT.ctc t op = t.ctc op := by
  cases op <;> rfl
theorem tbc_eq (t : Terminal) (s : TbcScope) : GenT.tbc t s = t.tbc s := by
  cases s <;> rfl
theorem decstr_eq (t : Terminal) : GenT.decstr t = t.softReset := by
  unfold GenT.decstr; exact softReset_eq t

theorem ed_eq (t : Terminal) (s : EdScope) : GenT.ed t s = t.ed s := by
  unfold GenT.ed Terminal.ed Terminal.eraseWith Terminal.markDirtyRange
  cases s <;> simp only []
  · cases t.buffer.erase t.cursor.col t.cursor.row .fromCursorToEndOfView t.pen with
    | none => rfl
    | some b => simp only [Option.map]; cases Dirty.extend t.dirtyLines t.cursor.row t.rows <;> rfl
  · cases t.buffer.erase t.cursor.col t.cursor.row .fromStartOfViewToCursor t.pen with
    | none => rfl
    | some b => simp only [Option.map]; cases Dirty.extend t.dirtyLines 0 (t.cursor.row + 1) <;> rfl
  · cases t.buffer.erase t.cursor.col t.cursor.row .wholeView t.pen with
    | none => rfl
    | some b => simp only [Option.map]; cases Dirty.extend t.dirtyLines 0 t.rows <;> rfl

theorem el_eq (t : Terminal) (s : ElScope) : GenT.el t s = t.el s := by
  unfold GenT.el Terminal.el Terminal.eraseWith Terminal.markDirty
  cases s <;> simp only []
  · cases t.buffer.erase t.cursor.col t.cursor.row .fromCursorToEndOfLine t.pen with
    | none => rfl
    | some b => simp only [Option.map]; cases Dirty.add t.dirtyLines t.cursor.row <;> rfl
  · cases t.buffer.erase t.cursor.col t.cursor.row .fromStartOfLineToCursor t.pen with
    | none => rfl
    | some b => simp only [Option.map]; cases Dirty.add t.dirtyLines t.cursor.row <;> rfl
  · cases t.buffer.erase t.cursor.col t.cursor.row .wholeLine t.pen with
    | none => rfl
    | some b => simp only [Option.map]; cases Dirty.add t.dirtyLines t.cursor.row <;> rfl

theorem il_eq (t : Terminal) (n : Nat) : GenT.il t n = t.il n := by
  unfold GenT.il Terminal.il Terminal.ilRange Terminal.markDirtyRange
  simp only [asUsize_eq]
  by_cases hc : t.cursor.row ≤ t.bottomMargin <;> simp only [hc, ↓reduceIte]
  · cases t.buffer.scrollDown t.cursor.row (t.bottomMargin + 1) (Avt.asUsize n 1) t.pen with
    | none => rfl
    | some b => simp only [Option.map]; cases Dirty.extend t.dirtyLines t.cursor.row (t.bottomMargin + 1) <;> rfl
  · cases t.buffer.scrollDown t.cursor.row t.rows (Avt.asUsize n 1) t.pen with
    | none => rfl
    | some b => simp only [Option.map]; cases Dirty.extend t.dirtyLines t.cursor.row t.rows <;> rfl

theorem dl_eq (t : Terminal) (n : Nat) : GenT.dl t n = t.dl n := by
  unfold GenT.dl Terminal.dl Terminal.ilRange Terminal.markDirtyRange
  simp only [asUsize_eq]
  by_cases hc : t.cursor.row ≤ t.bottomMargin <;> simp only [hc, ↓reduceIte]
  · cases t.buffer.scrollUp t.cursor.row (t.bottomMargin + 1) (Avt.asUsize n 1) t.pen with
    | none => rfl
    | some b => simp only [Option.map]; cases Dirty.extend t.dirtyLines t.cursor.row (t.bottomMargin + 1) <;> rfl
  · cases t.buffer.scrollUp t.cursor.row t.rows (Avt.asUsize n 1) t.pen with
    | none => rfl
    | some b => simp only [Option.map]; cases Dirty.extend t.dirtyLines t.cursor.row t.rows <;> rfl

theorem dch_eq (t : Terminal) (n : Nat) : GenT.dch t n = t.dch n := by
  unfold GenT.dch Terminal.dch Terminal.markDirty
  simp only [asUsize_eq, moveCursorToCol_eq]
  by_cases hc : t.cursor.col ≥ t.cols <;> simp only [hc, ↓reduceIte]
  · cases csub t.cols 1 with
    | none => rfl
    | some c1 =>
      simp only []
      cases t.moveCursorToCol c1 with
      | none => rfl
      | some t1 =>
        simp only []
        cases t1.buffer.delete t1.cursor.col t1.cursor.row (Avt.asUsize n 1) t1.pen with
        | none => rfl
        | some b => simp only [Option.map]; cases Dirty.add t1.dirtyLines t1.cursor.row <;> rfl
  · cases t.buffer.delete t.cursor.col t.cursor.row (Avt.asUsize n 1) t.pen with
    | none => rfl
    | some b => simp only [Option.map]; cases Dirty.add t.dirtyLines t.cursor.row <;> rfl

theorem ech_eq (t : Terminal) (n : Nat) : GenT.ech t n = t.ech n := by
  unfold GenT.ech Terminal.ech Terminal.eraseWith Terminal.markDirty
  simp only [asUsize_eq]
  cases t.buffer.erase t.cursor.col t.cursor.row (.nextChars (Avt.asUsize n 1)) t.pen with
  | none => rfl
  | some b => simp only [Option.map]; cases Dirty.add t.dirtyLines t.cursor.row <;> rfl

theorem sm_eq (t : Terminal) (ms : List AnsiMode) : GenT.sm t ms = t.sm ms := rfl
theorem rm_eq (t : Terminal) (ms : List AnsiMode) : GenT.rm t ms = t.rm ms := rfl

theorem decstbm_eq (t : Terminal) (top bottom : Nat) : GenT.decstbm t top bottom = t.decstbm top bottom := by
  unfold GenT.decstbm Terminal.decstbm
  simp only [asUsize_eq, csub_asUsize_one, moveCursorHome_eq]
  cases csub (Avt.asUsize bottom t.rows) 1 <;> rfl

theorem xtwinops_eq (t : Terminal) (c r : Nat) : GenT.xtwinops t (c, r) = t.xtwinopsF c r := by
  unfold GenT.xtwinops Terminal.xtwinopsF
  simp only [asUsize_eq, ← resize_eq]
  split
  · cases GenT.resize t (Avt.asUsize c t.cols) (Avt.asUsize r t.rows) <;> rfl
  · rfl

theorem sgr_eq (t : Terminal) (ops : List SgrOp) : GenT.sgr t ops = t.sgr ops := by
  unfold GenT.sgr Terminal.sgr
  induction ops generalizing t with
  | nil => rfl
  | cons op ops ih =>
    simp only [List.foldl_cons]
    rw [ih]
    cases op <;> rfl

theorem decset_eq (t : Terminal) (ms : List DecMode) :
    GenT.decset t ms = Terminal.foldM' Terminal.decsetOne ms t := by
  unfold GenT.decset
  congr 1
  funext t m
  cases m <;>
    simp only [moveCursorHome_eq, switchToAlternateBuffer_eq, reflow_eq, saveCursor_eq, Terminal.decsetOne] <;>
    rfl

theorem decrst_eq (t : Terminal) (ms : List DecMode) :
    GenT.decrst t ms = Terminal.foldM' Terminal.decrstOne ms t := by
  unfold GenT.decrst
  congr 1
  funext t m
  cases m <;>
    simp only [moveCursorHome_eq, switchToPrimaryBuffer_eq, reflow_eq, restoreCursor_eq, Terminal.decrstOne] <;>
    rfl

/-! #### `print`: the generated body is cut into the three stages of `Terminal.print_eq` (C15PrintSplit).
The `G` definitions are verbatim copies of the generated text, tied to it by `rfl` (`print_gen_shape`); each is
compared with its stage of the model, so the case splits of one stage are not multiplied by the others'. -/

def printWrapG (t : Terminal) : Option Terminal :=
  if t.autoWrapMode && t.pendingWrap then
    let t := Avt.GenT.doMoveCursorToCol t 0
    if t.cursor.row = t.bottomMargin then
      match Avt.Buffer.wrap t.buffer t.cursor.row with
      | none => none
      | some b3 =>
        let t := { t with buffer := b3 }
        match Avt.GenT.scrollUpInRegion t 1 with
        | none => none
        | some t =>
          match Avt.csub t.rows 1 with
          | none => none
          | some x4 =>
            if t.bottomMargin < x4 then
              match Avt.csub t.bottomMargin 1 with
              | none => none
              | some x5 =>
                match Avt.Buffer.wrap t.buffer x5 with
                | none => none
                | some b6 =>
                  some { t with buffer := b6 }
            else
              some t
    else
      match Avt.csub t.rows 1 with
      | none => none
      | some x7 =>
        if t.cursor.row < x7 then
          match Avt.Buffer.wrap t.buffer t.cursor.row with
          | none => none
          | some b8 =>
            let t := { t with buffer := b8 }
            Avt.GenT.doMoveCursorToRow t (t.cursor.row + 1)
        else
          some t
  else
    some t

def printPutG (t : Terminal) (cell : Cell) : Option Terminal :=
  let nextCol := t.cursor.col + 1
  if nextCol ≥ t.cols then
    match Avt.csub t.cols 1 with
    | none => none
    | some x9 =>
      match Avt.Buffer.print t.buffer x9 t.cursor.row cell with
      | none => none
      | some b10 =>
        let t := { t with buffer := b10 }
        if t.autoWrapMode then
          let t := Avt.GenT.doMoveCursorToCol t t.cols
          some { t with pendingWrap := true }
        else
          some t
  else
    let r3 :=
      if t.insertMode then
        match Avt.Buffer.insert t.buffer t.cursor.col t.cursor.row 1 cell with
        | none => none
        | some b11 =>
          some { t with buffer := b11 }
      else
        match Avt.Buffer.print t.buffer t.cursor.col t.cursor.row cell with
        | none => none
        | some b12 =>
          some { t with buffer := b12 }
    match r3 with
    | none => none
    | some t =>
      some (Avt.GenT.doMoveCursorToCol t nextCol)

def printDirtyG (t : Terminal) : Option Terminal :=
  match Avt.Dirty.add t.dirtyLines t.cursor.row with
  | none => none
  | some d13 =>
    some { t with dirtyLines := d13 }

theorem printDirty_eq (t : Terminal) : printDirtyG t = t.markDirty t.cursor.row := by
  unfold printDirtyG Terminal.markDirty
  cases Dirty.add t.dirtyLines t.cursor.row <;> rfl

theorem print_gen_shape (t : Terminal) (ch : Nat) : GenT.print t ch =
    match (match t.activeCharset with | 0 => some t.charsets.1 | 1 => some t.charsets.2 | _ => none) with
    | none => none
    | some cs =>
      match cs.translate ch with
      | none => none
      | some c =>
        match printWrapG t with
        | none => none
        | some t1 =>
          match printPutG t1 (GenT.Cell.new c t.pen) with
          | none => none
          | some t2 => printDirtyG t2 := by
  rfl

theorem printWrap_eq (t : Terminal) : printWrapG t = t.printWrapPhase := by
  unfold printWrapG Terminal.printWrapPhase Terminal.wrapAtBottom Terminal.wrapElsewhere
  simp only [doMoveCursorToCol_eq, doMoveCursorToRow_eq, scrollUpInRegion_eq]
  by_cases hw : (t.autoWrapMode && t.pendingWrap) = true <;> simp only [hw, ↓reduceIte, Bool.false_eq_true]
  by_cases hr : (t.doMoveCursorToCol 0).cursor.row = (t.doMoveCursorToCol 0).bottomMargin <;>
    simp only [hr, ↓reduceIte]
  · cases (t.doMoveCursorToCol 0).buffer.wrap (t.doMoveCursorToCol 0).bottomMargin with
    | none => rfl
    | some b =>
      simp only []
      cases Terminal.scrollUpInRegion _ 1 with
      | none => rfl
      | some t1 =>
        simp only []
        cases csub t1.rows 1 with
        | none => rfl
        | some r1 =>
          simp only []
          split
          · cases csub t1.bottomMargin 1 with
            | none => rfl
            | some bm1 => simp only []; cases t1.buffer.wrap bm1 <;> rfl
          · rfl
  · rfl

theorem printPut_eq (t : Terminal) (cell : Cell) : printPutG t cell = t.printCellPhase cell := by
  unfold printPutG Terminal.printCellPhase
  simp only [doMoveCursorToCol_eq]
  by_cases hc : t.cursor.col + 1 ≥ t.cols
  · simp only [hc, ↓reduceIte] <;> rfl
  · simp only [hc, ↓reduceIte]
    by_cases hi : t.insertMode = true <;> simp only [hi, ↓reduceIte]
    · cases t.buffer.insert t.cursor.col t.cursor.row 1 cell <;> rfl
    · cases t.buffer.print t.cursor.col t.cursor.row cell <;> rfl

theorem print_eq (t : Terminal) (ch : Nat) : GenT.print t ch = t.print ch := by
  rw [print_gen_shape, Terminal.print_eq]
  unfold Terminal.activeCharsetValue
  simp only [printWrap_eq, printPut_eq, printDirty_eq, Cell.new_eq]
  rfl

theorem printN_fold (c : Nat) : ∀ (n s : Nat) (t : Terminal),
    Terminal.foldM' (fun t _n => t.print c) (List.range' s n) t = t.printN c n := by
  intro n
  induction n with
  | zero => intro s t; rfl
  | succ k ih =>
    intro s t
    simp only [List.range'_succ, Terminal.foldM', Terminal.printN]
    cases t.print c with
    | none => rfl
    | some t1 => simp only []; exact ih (s + 1) t1

theorem rep_eq (t : Terminal) (n : Nat) : GenT.rep t n = t.rep n := by
  unfold GenT.rep Terminal.rep
  simp only [asUsize_eq, Cell.char_eq, print_eq, printN_fold]
  by_cases h : t.cursor.col > 0
  · have h3 : csub t.cursor.col 1 = some (t.cursor.col - 1) := csub_eq_some h
    simp only [h, ↓reduceIte, h3]
    rfl
  · simp only [h, ↓reduceIte]

def decalnInnerG (row : Nat) (t : Terminal) (col : Nat) : Option Terminal :=
  match Avt.Buffer.print t.buffer col row (Avt.GenT.Cell.fromChar 0x45) with
  | none => none
  | some b1 =>
    some { t with buffer := b1 }

def decalnStepG (t : Terminal) (row : Nat) : Option Terminal :=
  match Avt.Terminal.foldM' (decalnInnerG row) (List.range' 0 t.cols) t with
  | none => none
  | some t =>
    match Avt.Dirty.add t.dirtyLines row with
    | none => none
    | some d2 =>
      some { t with dirtyLines := d2 }

theorem decaln_gen_shape (t : Terminal) :
    GenT.decaln t = Terminal.foldM' decalnStepG (List.range' 0 t.rows) t := rfl

theorem decalnInner_fold (row : Nat) : ∀ (n col : Nat) (t : Terminal),
    Terminal.foldM' (decalnInnerG row) (List.range' col n) t
      = (Terminal.decalnCols t.buffer row col n).map fun b => { t with buffer := b } := by
  intro n
  induction n with
  | zero => intro col t; rfl
  | succ k ih =>
    intro col t
    simp only [List.range'_succ, Terminal.foldM', Terminal.decalnCols, decalnInnerG, Cell.fromChar_eq]
    cases t.buffer.print col row ⟨0x45, Avt.Pen.default⟩ with
    | none => rfl
    | some b => simp only []; exact ih (col + 1) _

theorem decalnStep_fold : ∀ (k row : Nat) (t : Terminal),
    Terminal.foldM' decalnStepG (List.range' row k) t = Terminal.decalnRows t row k := by
  intro k
  induction k with
  | zero => intro row t; rfl
  | succ k ih =>
    intro row t
    simp only [List.range'_succ, Terminal.foldM', Terminal.decalnRows, decalnStepG, decalnInner_fold,
      Terminal.markDirty]
    cases Terminal.decalnCols t.buffer row 0 t.cols with
    | none => rfl
    | some b =>
      simp only [Option.map]
      cases Dirty.add t.dirtyLines row with
      | none => rfl
      | some d => simp only []; exact ih (row + 1) _

theorem decaln_eq (t : Terminal) : GenT.decaln t = t.decaln := by
  rw [decaln_gen_shape]; exact decalnStep_fold t.rows 0 t

theorem execute_eq (t : Terminal) (f : Function) : GenT.execute t f = t.execute f := by
  cases f <;>
    simp only [GenT.execute, Terminal.execute, bs_eq, cbt_eq, cha_eq, cht_eq, cnl_eq, cpl_eq, cr_eq, ctc_eq,
      cub_eq, cud_eq, cuf_eq, cup_eq, cuu_eq, dch_eq, decaln_eq, rc_eq, decrst_eq, sc_eq, decset_eq,
      decstbm_eq, decstr_eq, dl_eq, ech_eq, ed_eq, el_eq, g1d4_eq, gzd4_eq, ht_eq, hts_eq, ich_eq, il_eq,
      lf_eq, nel_eq, print_eq, rep_eq, ri_eq, ris_eq, rm_eq, sd_eq, sgr_eq, si_eq, sm_eq, so_eq, su_eq,
      tbc_eq, vpa_eq, vpr_eq, xtwinops_eq]

/-- hand-kept list of the Rust functions with an equality theorem above -/
def translatedFunctions : List String := [
  "SavedCtx::default", "SavedCtx::is_default", "Terminal::new", "Terminal::execute",
  "Terminal::cursor", "Terminal::gc", "Terminal::changes", "Terminal::save_cursor",
  "Terminal::restore_cursor", "Terminal::move_cursor_to_col", "Terminal::do_move_cursor_to_col",
  "Terminal::move_cursor_to_row", "Terminal::do_move_cursor_to_row",
  "Terminal::move_cursor_to_rel_col", "Terminal::move_cursor_home",
  "Terminal::move_cursor_to_next_tab", "Terminal::move_cursor_to_prev_tab",
  "Terminal::move_cursor_down_with_scroll", "Terminal::cursor_down", "Terminal::cursor_up",
  "Terminal::actual_top_margin", "Terminal::actual_bottom_margin", "Terminal::scroll_up_in_region",
  "Terminal::scroll_down_in_region", "Terminal::set_tab", "Terminal::clear_tab",
  "Terminal::clear_all_tabs", "Terminal::switch_to_alternate_buffer",
  "Terminal::switch_to_primary_buffer", "Terminal::resize", "Terminal::reflow",
  "Terminal::soft_reset", "Terminal::hard_reset", "Terminal::primary_buffer",
  "Terminal::alternate_buffer", "Terminal::view", "Terminal::lines", "Terminal::line",
  "Terminal::text", "Terminal::cursor_keys_app_mode", "Terminal::print", "Terminal::bs",
  "Terminal::ht", "Terminal::lf", "Terminal::cr", "Terminal::so", "Terminal::si", "Terminal::nel",
  "Terminal::hts", "Terminal::ri", "Terminal::sc", "Terminal::rc", "Terminal::ris",
  "Terminal::decaln", "Terminal::gzd4", "Terminal::g1d4", "Terminal::ich", "Terminal::cuu",
  "Terminal::cud", "Terminal::cuf", "Terminal::cub", "Terminal::cnl", "Terminal::cpl",
  "Terminal::cha", "Terminal::cup", "Terminal::cht", "Terminal::ed", "Terminal::el",
  "Terminal::il", "Terminal::dl", "Terminal::dch", "Terminal::su", "Terminal::sd", "Terminal::ctc",
  "Terminal::ech", "Terminal::cbt", "Terminal::rep", "Terminal::vpa", "Terminal::vpr",
  "Terminal::tbc", "Terminal::sm", "Terminal::rm", "Terminal::sgr", "Terminal::decstbm",
  "Terminal::xtwinops", "Terminal::decstr", "Terminal::decset", "Terminal::decrst", "as_usize",
  "Terminal::default", "Cursor::default", "DirtyLines::new", "DirtyLines::add",
  "DirtyLines::extend", "DirtyLines::resize", "DirtyLines::clear", "DirtyLines::to_vec",
  "Tabs::new", "Tabs::set", "Tabs::unset", "Tabs::expand", "Tabs::contract", "Tabs::clear",
  "Tabs::before", "Tabs::after", "Pen::foreground", "Pen::background", "Pen::is_bold",
  "Pen::is_faint", "Pen::is_italic", "Pen::is_underline", "Pen::is_strikethrough", "Pen::is_blink",
  "Pen::is_inverse", "Pen::set_italic", "Pen::set_underline", "Pen::set_blink",
  "Pen::set_strikethrough", "Pen::set_inverse", "Pen::unset_italic", "Pen::unset_underline",
  "Pen::unset_blink", "Pen::unset_strikethrough", "Pen::unset_inverse", "Pen::is_default",
  "Pen::default", "Cell::new", "Cell::blank", "Cell::is_default", "Cell::char", "Cell::pen",
  "Cell::default", "Cell::from"
]

/-- Rust functions of the scanned `impl` blocks that translate/rs2lean.py does not translate.  The two `dump`s
    (string formatting) are translated by rs2lean_p5.py into Gen/DumpGen.lean and proved in GenEqDump
    (`Terminal.dump_eq`, `Pen.dump_eq`); `Cell::width`, the `unicode-width` call, is translated nowhere. -/
def untranslatedFunctions : List String := ["Terminal::dump", "Pen::dump", "Cell::width"]

/-- the translator's list against the hand-kept one: a Rust function entering or leaving the translated set
    fails here.  That every listed name has its theorem is by inspection; no statement ties a string to a theorem. -/
theorem coverage_complete : GenT.translated = translatedFunctions := rfl

-- lengths only: the entries of `GenT.untranslated` carry the translator's reason and a source line number
theorem untranslated_as_expected : GenT.untranslated.length = untranslatedFunctions.length := by decide

end Avt.GenEq
