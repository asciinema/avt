/-
  Avt.Lemmas.ResizeSame — resizes that keep the width: a same-geometry resize is the identity on the
  lines (`resize_same`, from `Frame.resize_same`, which needs `view.length = rows` only), and a
  rows-only resize truncates from the bottom / appends blank lines without touching any cell
  (`resize_rows_only`).  `Buffer.unwrapLast` is `Spec.C10.unwrapLast` (`unwrapLast_eq`), and
  `Buffer.rowsOnlyLines` says of a buffer what `Spec.C10.rowsOnlyLines` says of a list of rows: the
  statements of this file are about a whole `Buffer` under `BInv` (the result record, the revealed
  scrollback read off `b.sb`) and are written with these; Lemmas/Resize and the C10 modules use C10's.
-/
import Avt.Lemmas.ResizeOK

namespace Avt
namespace Buffer

/-- a resize that keeps the width is phase 2 alone, followed by the split into scrollback and view -/
theorem resize_keep_width (b : Buffer) {r : Nat} {cur cur' : Nat × Nat} {L : List Line}
    (hlen : b.rows ≤ b.lines.length) (h2 : rsStep2 b.cols r b.lines cur b.rows = some (L, cur'))
    (hL : r ≤ L.length) :
    b.resize b.cols r cur =
      some ({ b with sb := L.take (L.length - r), view := L.drop (L.length - r), rows := r,
                     trimNeeded := true }, cur') := by
  obtain ⟨lp, hlp⟩ := logicalPosition_ok b.lines cur b.cols b.rows hlen
  rw [resize_eq]
  simp only [hlp, rsStep1, ne_eq, not_true_eq_false, if_false, h2, csub_eq_some hL]

theorem resize_same (b : Buffer) (cur : Nat × Nat) (h : BInv b = true) (_hcur : cur.2 < b.rows) :
    b.resize b.cols b.rows cur = some ({ b with trimNeeded := true }, cur) :=
  Frame.resize_same b cur (BOK.of_BInv h).hv

/-- clear the wrap flag of the last line -/
def unwrapLast : List Line → List Line
  | [] => []
  | [l] => [{ l with wrapped := false }]
  | l :: ls => l :: unwrapLast ls

/-- it is C10's `unwrapLast`, written by recursion -/
theorem unwrapLast_eq : ∀ ls : List Line, unwrapLast ls = Spec.C10.unwrapLast ls
  | [] => rfl
  | [_] => rfl
  | l :: y :: ys => by rw [Lemmas.unwrapLast_cons_cons, ← unwrapLast_eq (y :: ys)]; rfl

theorem unwrapLast_snoc (xs : List Line) (l : Line) :
    unwrapLast (xs ++ [l]) = xs ++ [{ l with wrapped := false }] := by
  rw [unwrapLast_eq, Lemmas.unwrapLast_append_singleton]

theorem unwrapLast_length (ls : List Line) : (unwrapLast ls).length = ls.length := by
  rw [unwrapLast_eq, Lemmas.unwrapLast_length]

theorem unwrapLast_cells (ls : List Line) : (unwrapLast ls).map Line.cells = ls.map Line.cells := by
  rcases List.eq_nil_or_concat ls with rfl | ⟨xs, l, rfl⟩
  · rfl
  · rw [List.concat_eq_append, unwrapLast_snoc, List.map_append, List.map_append]; rfl

theorem unwrapLast_dropLast : ∀ (ls : List Line), (unwrapLast ls).dropLast = ls.dropLast := by
  intro ls
  rcases List.eq_nil_or_concat ls with rfl | ⟨xs, l, rfl⟩
  · rfl
  · rw [List.concat_eq_append, unwrapLast_snoc, List.dropLast_concat, List.dropLast_concat]

theorem unwrapLast_lastUnwrapped : ∀ (ls : List Line), lastUnwrapped (unwrapLast ls) = true := by
  intro ls
  rw [unwrapLast_eq]
  exact Lemmas.lastUnwrapped_unwrapLast ls

theorem unwrapLast_of_lastUnwrapped : ∀ (ls : List Line), lastUnwrapped ls = true →
    unwrapLast ls = ls := by
  intro ls h
  rcases List.eq_nil_or_concat ls with rfl | ⟨xs, l, rfl⟩
  · rfl
  · rw [List.concat_eq_append, lastUnwrapped_snoc, Bool.not_eq_true'] at h
    rw [List.concat_eq_append, unwrapLast_snoc, ← h]

/-- the lines after a rows-only resize: truncated from the bottom by `excess` (and the new last line
    unwrapped), or extended with blank lines once the scrollback has been pulled into the view -/
def rowsOnlyLines (b : Buffer) (r : Nat) (cur : Nat × Nat) : List Line :=
  if r < b.rows then
    let excess := min (b.rows - r) (b.rows - 1 - cur.2)
    if excess > 0 then unwrapLast (b.lines.take (b.lines.length - excess)) else b.lines
  else
    b.lines ++ List.replicate (r - b.rows - min b.sb.length (r - b.rows)) (Line.blank b.cols Pen.default)

/-- the cursor after a rows-only resize -/
def rowsOnlyCursor (b : Buffer) (r : Nat) (cur : Nat × Nat) : Nat × Nat :=
  if r < b.rows then
    (cur.1, cur.2 - (b.rows - r - min (b.rows - r) (b.rows - 1 - cur.2)))
  else if cur.2 < b.rows then (cur.1, cur.2 + min b.sb.length (r - b.rows)) else cur

/-- rows-only resize (width unchanged): closed form of the result.  No reflow happens; the lines are
    `rowsOnlyLines`, re-split so that the view is the last `r` lines. -/
theorem resize_rows_only (b : Buffer) (r : Nat) (cur : Nat × Nat) (h : BInv b = true) (hr : 1 ≤ r)
    (hcur : cur.2 < b.rows ∨ cur.2 < r) :
    let L := rowsOnlyLines b r cur
    r ≤ L.length ∧
    b.resize b.cols r cur =
      some ({ b with sb := L.take (L.length - r), view := L.drop (L.length - r), rows := r,
                     trimNeeded := true }, rowsOnlyCursor b r cur) := by
  intro L
  have hb := BOK.of_BInv h
  obtain ⟨hlen, hw, hlu⟩ := hb.lines_facts
  have hll := lines_length hb.hv
  have key : rsStep2 b.cols r b.lines cur b.rows = some (L, rowsOnlyCursor b r cur) := by
    rw [rsStep2_eq, if_pos fun h1 => ⟨hr, hcur.elim id fun hc => Nat.lt_trans hc h1, .inr (by omega)⟩]
    show some (Spec.C10.rowsOnlyLines _ _ _ _ _, _) = some (rowsOnlyLines b r cur, _)
    unfold rowsOnlyLines rowsOnlyCursor Spec.C10.rowsOnlyLines rowsOnlyCur
    rw [show b.sb.length = b.lines.length - b.rows by rw [hll, Nat.add_sub_cancel]]
    by_cases h1 : r < b.rows
    · simp only [if_pos h1, unwrapLast_eq]
      by_cases h0 : min (b.rows - r) (b.rows - 1 - cur.2) = 0
      · rw [if_pos h0, if_neg (by omega)]
      · rw [if_neg h0, if_pos (Nat.pos_of_ne_zero h0)]
    · simp only [if_neg h1]
  -- the length bound is the one `rsStep2_ok` establishes for every phase-2 result
  obtain ⟨_, _, h2, _, _, hL, _⟩ := rsStep2_ok b.cols r b.lines cur b.rows hr hw hlu hlen hb.hr hcur
  rw [key] at h2
  cases h2
  exact ⟨hL, resize_keep_width b hlen key hL⟩

/-- every line that survives a rows-only resize keeps its cells: the resulting lines, cell-wise, are
    a prefix of the old lines followed by blank lines -/
theorem rowsOnlyLines_cells (b : Buffer) (r : Nat) (cur : Nat × Nat) :
    ∃ k n, (rowsOnlyLines b r cur).map Line.cells =
      (b.lines.take k).map Line.cells ++ List.replicate n (Line.blank b.cols Pen.default).cells
      ∧ (r ≥ b.rows → k = b.lines.length)
      ∧ (r ≤ b.rows → n = 0) := by
  unfold rowsOnlyLines
  by_cases h1 : r < b.rows
  · rw [if_pos h1]
    dsimp only
    split
    · exact ⟨b.lines.length - min (b.rows - r) (b.rows - 1 - cur.2), 0,
        by rw [unwrapLast_cells, List.replicate_zero, List.append_nil],
        fun h => absurd h (Nat.not_le_of_lt h1), fun _ => rfl⟩
    · exact ⟨b.lines.length, 0, by rw [List.take_length, List.replicate_zero, List.append_nil],
        fun _ => rfl, fun _ => rfl⟩
  · rw [if_neg h1]
    exact ⟨b.lines.length, r - b.rows - min b.sb.length (r - b.rows),
      by rw [List.map_append, List.map_replicate, List.take_length], fun _ => rfl,
      fun h => by rw [Nat.sub_eq_zero_of_le h, Nat.zero_sub]⟩

end Buffer
end Avt
