/-
  Avt.Lemmas.C17Multi — lists of several DEC modes in one DECSET / DECRST act left to right on the
  two saved contexts, each member exactly like the single-mode sequence
  (`Spec.C17.afterDecset`, `Spec.C17.afterDecrst`, `Spec.C17.lastRestoreOK`); the rule for a single
  mode is the list rule on `[m]`; and `step_ok`, the per-step specification for every `Function`.
-/
import Avt.Lemmas.C17Step
import Avt.Lemmas.Resize

namespace Avt.Spec.C17
open Avt

theorem moveCursorHome_eq {t t' : Terminal} (h : t.moveCursorHome = some t') :
    t' = { t with cursor := { t.cursor with col := 0, row := t.actualTopMargin }, pendingWrap := false } := by
  unfold Terminal.moveCursorHome Terminal.doMoveCursorToRow at h
  obtain ⟨c1, _, rfl⟩ := Option.map_eq_some_iff.mp h
  simp only [Terminal.doMoveCursorToCol, Nat.zero_le, Nat.min_eq_left, Terminal.actualTopMargin,
    Terminal.mk.injEq, Cursor.mk.injEq, and_true, true_and, and_self]
  rfl

/-- the buffer showing has the terminal's geometry (part of `TInv`) -/
def Geom (t : Terminal) : Prop := t.buffer.cols = t.cols ∧ t.buffer.rows = t.rows

theorem tinv_geom {t : Terminal} (hi : TInv t = true) : Geom t :=
  ⟨(TOK.of_TInv hi).bcols, (TOK.of_TInv hi).brows⟩

theorem decsetOne_geom {t t' : Terminal} {m : DecMode} (hg : Geom t)
    (h : t.decsetOne m = some t') : Geom t' := by
  cases hm : Spec.C16.isAltScreenMode m
  · have s := Terminal.decsetOne_same h
    unfold Geom
    rw [s .buffer (by cases m <;> first | rfl | cases hm), s .cols (by cases m <;> rfl),
      s .rows (by cases m <;> rfl)]
    exact hg
  · obtain ⟨_, _, h2⟩ := Terminal.decsetOne_screen hm h
    obtain ⟨_, _, _, _, hres, rfl⟩ := Terminal.reflow_eq_some.1 h2
    exact ⟨Buffer.resize_cols hres, Buffer.resize_rows hres⟩

/-- everything the fold over a DECSET list needs to know about `t'` relative to `t` -/
structure SetFacts (t t' : Terminal) (sc : Screens) (cur : SavedCtx) : Prop where
  cols : t'.cols = t.cols
  rows : t'.rows = t.rows
  top : t'.topMargin = t.topMargin
  scr : Screens.of t' = sc
  /-- where a reflow leaves the cursor depends on the geometry of the buffer showing -/
  cur : Geom t → ctxOf t' = cur

theorem ctxOf_reflow {t t' : Terminal} (F : ReflowFacts t t')
    (C : t'.cursor.col = t.cursor.col ∧ t'.cursor.row = t.cursor.row) : ctxOf t' = ctxOf t := by
  simp only [ctxOf, C.1, C.2, F.pen, F.origin, F.autoWrap, F.cols]

/-- "show the alternate screen": the fresh buffer has the terminal's geometry, so the reflow leaves
    the cursor where it is -/
theorem showAlt_facts {t t1 t' : Terminal} (h1 : t.switchTo .alternate = some t1)
    (h2 : t1.reflow = some t') :
    SetFacts t t' ((Screens.of t).show t.cols t.rows .alternate) (ctxOf t) := by
  have F := reflow_facts h2
  have R := show_facts h1 h2 rfl rfl rfl
  have T : t'.topMargin = t1.topMargin := Terminal.reflow_same h2 .topMargin rfl
  rcases Terminal.switchTo_cases h1 with ⟨_, rfl⟩ | ⟨_, d, rfl⟩
  · exact ⟨R.cols, R.rows, T, R.scr, fun hg => ctxOf_reflow F (F.cursor hg.1 hg.2)⟩
  · exact ⟨R.cols, R.rows, T, R.scr, fun _ => (ctxOf_reflow F (F.cursor rfl rfl)).trans rfl⟩

/-- one member of a DECSET list does to (screen showing, contexts, context in force) what `setOne` says -/
theorem decsetOne_facts {t t' : Terminal} {m : DecMode} (h : t.decsetOne m = some t') :
    SetFacts t t' (setOne t.cols t.rows t.topMargin ⟨Screens.of t, ctxOf t⟩ m).scr
      (setOne t.cols t.rows t.topMargin ⟨Screens.of t, ctxOf t⟩ m).cur := by
  cases m
  case cursorKeys => cases h; exact ⟨rfl, rfl, rfl, rfl, fun _ => rfl⟩
  case origin =>
    cases moveCursorHome_eq h
    refine ⟨rfl, rfl, rfl, rfl, fun _ => ?_⟩
    simp [ctxOf, setOne, Terminal.actualTopMargin]
  case autoWrap => cases h; exact ⟨rfl, rfl, rfl, rfl, fun _ => rfl⟩
  case textCursorEnable => cases h; exact ⟨rfl, rfl, rfl, rfl, fun _ => rfl⟩
  case altScreenBuffer =>
    obtain ⟨_, h1, h2⟩ := Terminal.decsetOne_screen rfl h
    exact showAlt_facts (t := t) h1 h2
  case saveCursor =>
    cases saveCursor_eq h
    exact ⟨rfl, rfl, rfl, rfl, fun _ => rfl⟩
  case saveCursorAltScreenBuffer =>
    obtain ⟨_, h1, h2⟩ := Terminal.decsetOne_screen rfl h
    have F := showAlt_facts (t := { t with savedCtx := ctxOf t }) h1 h2
    exact ⟨F.cols, F.rows, F.top, F.scr, F.cur⟩

/-- DECSET lists: after `CSI ? ms h` the screen showing and both contexts are those of
    `afterDecset t ms` (and so is the context in force) -/
theorem decset_multi {t t' : Terminal} {ms : List DecMode} (hi : TInv t = true)
    (h : Terminal.foldM' Terminal.decsetOne ms t = some t') :
    (afterDecset t ms).scr.holds t' = true ∧ ctxOf t' = (afterDecset t ms).cur := by
  have hg := tinv_geom hi
  have := (Terminal.foldM'_foldl (fun u (st : ListSt) => Geom u ∧ SetFacts t u st.scr st.cur)
    (g := setOne t.cols t.rows t.topMargin) (fun u m u1 st hs h1 => ?_) ms (s := ⟨Screens.of t, ctxOf t⟩)
    ⟨hg, rfl, rfl, rfl, rfl, fun _ => rfl⟩ h).2
  · refine ⟨?_, this.cur hg⟩
    have e := this.scr
    unfold afterDecset
    rw [← e]
    simp [Screens.holds, Screens.of]
  · obtain ⟨hi, hs⟩ := hs
    have F := decsetOne_facts h1
    have hst : (⟨Screens.of u, ctxOf u⟩ : ListSt) = st := by
      cases st; simp only [hs.scr, hs.cur hg]
    rw [hs.cols, hs.rows, hs.top, hst] at F
    exact ⟨decsetOne_geom hi h1,
      F.cols.trans hs.cols, F.rows.trans hs.rows, F.top.trans hs.top, F.scr, fun _ => F.cur hi⟩

theorem Screens.of_same {W : Field → Bool} {t t' : Terminal} (h : Same W t t')
    (w : W .activeBufferType = false ∧ W .savedCtx = false ∧ W .alternateSavedCtx = false) :
    Screens.of t' = Screens.of t := by
  unfold Screens.of
  rw [h .activeBufferType w.1, h .savedCtx w.2.1, h .alternateSavedCtx w.2.2]

theorem decrstOne_facts {t t' : Terminal} {m : DecMode} (h : t.decrstOne m = some t') :
    RstFacts t t' (rstOne t.cols t.rows (Screens.of t) m) := by
  cases m
  case altScreenBuffer | saveCursorAltScreenBuffer =>
    obtain ⟨_, h1, h2⟩ := Terminal.decrstOne_screen rfl h
    exact show_facts h1 h2 rfl rfl rfl
  -- the other modes switch nothing: `rstOne` leaves the screens as they are
  all_goals
    have s := Terminal.decrstOne_same h
    exact ⟨s .cols rfl, s .rows rfl, Screens.of_same s ⟨rfl, rfl, rfl⟩⟩

/-- pen and the two modes of a restore survive the reflow that follows it -/
theorem restoredModes_reflow {t1 t' : Terminal} (h : t1.restoreCursor.reflow = some t') :
    restoredModes t1.savedCtx t' = true := by
  have F := reflow_facts h
  simp [restoredModes, F.pen, F.origin, F.autoWrap, F.pending rfl, Terminal.restoreCursor]

/-- the last member of a DECRST list, when it is a restore, leaves the restored context showing -/
theorem decrst_last :
    ∀ (ms : List DecMode) {t t' : Terminal}, Terminal.foldM' Terminal.decrstOne ms t = some t' →
      lastRestoreOK ms t' = true := by
  intro ms
  induction ms with
  | nil => intro t t' _; rfl
  | cons m rest ih =>
    intro t t' h
    unfold Terminal.foldM' at h
    split at h
    · rename_i u1 h1
      cases rest with
      | cons m2 rest2 =>
        have := ih h
        simpa only [lastRestoreOK, List.getLast?_cons_cons] using this
      | nil =>
        unfold Terminal.foldM' at h
        cases h
        cases m <;> simp only [lastRestoreOK, List.getLast?_singleton]
        case saveCursor =>
          simp only [Terminal.decrstOne] at h1
          cases h1
          exact restoredFrom_restore t
        case saveCursorAltScreenBuffer =>
          obtain ⟨t1, _, h2⟩ := Terminal.decrstOne_screen rfl h1
          rw [(reflow_facts h2).saved]
          exact restoredModes_reflow h2
    · cases h

/-- DECRST lists: after `CSI ? ms l` the screen showing and both contexts are those of
    `afterDecrst t ms`, and a final restore shows the context of that screen -/
theorem decrst_multi {t t' : Terminal} {ms : List DecMode}
    (h : Terminal.foldM' Terminal.decrstOne ms t = some t') :
    (afterDecrst t ms).holds t' = true ∧ lastRestoreOK ms t' = true := by
  have := Terminal.foldM'_foldl (RstFacts t) (g := rstOne t.cols t.rows) (fun u m u1 sc hs h1 => ?_) ms
    (s := Screens.of t) ⟨rfl, rfl, rfl⟩ h
  · refine ⟨?_, decrst_last ms h⟩
    have e := this.scr
    unfold afterDecrst
    rw [← e]
    simp [Screens.holds, Screens.of]
  · have F := decrstOne_facts h1
    rw [hs.cols, hs.rows, hs.scr] at F
    exact ⟨F.cols.trans hs.cols, F.rows.trans hs.rows, F.scr⟩

theorem showScreen_eq (t : Terminal) (to : BufferType) (s a : SavedCtx) :
    showScreen t to s a
      = (((⟨t.activeBufferType, s, a⟩ : Screens).show t.cols t.rows to).saved,
         ((⟨t.activeBufferType, s, a⟩ : Screens).show t.cols t.rows to).other) := by
  unfold showScreen Screens.show
  split <;> rfl

theorem afterDecset_single (t : Terminal) (m : DecMode) :
    ((afterDecset t [m]).scr.saved, (afterDecset t [m]).scr.other) = modeCtx t true m := by
  cases m <;> first | rfl | exact (showScreen_eq ..).symm

theorem afterDecrst_single (t : Terminal) (m : DecMode) :
    ((afterDecrst t [m]).saved, (afterDecrst t [m]).other) = modeCtx t false m := by
  cases m <;> first | rfl | exact (showScreen_eq ..).symm

theorem pair_of_scr {t' : Terminal} {sc : Screens} (h : Screens.of t' = sc) :
    (t'.savedCtx, t'.alternateSavedCtx) = (sc.saved, sc.other) := h ▸ rfl

theorem decset_single_ok {t t' : Terminal} {m : DecMode} (h : t.decsetOne m = some t') :
    stepOK t (.decset [m]) t' = true := by
  have e := (pair_of_scr (decsetOne_facts h).scr).trans (afterDecset_single t m)
  simp only [stepOK, e, beq_self_eq_true, Bool.true_and, Bool.or_eq_true, bne_iff_ne, ne_eq]
  by_cases hm : m = .saveCursor
  · subst hm
    cases saveCursor_eq h
    simp [sameVisible]
  · exact .inl hm

/-- the context `?1049l` restores is the one the switch makes active, and the buffer it shows has the
    terminal's geometry unless it was parked through a resize -/
theorem switchPrim_ctx {t t1 : Terminal} (hi : TInv t = true) (h1 : t.switchTo .primary = some t1) :
    t1.savedCtx = primaryCtx t ∧ (primaryFresh t = true → Geom t1) := by
  rcases Terminal.switchTo_cases h1 with ⟨hq, rfl⟩ | ⟨hq, d, rfl⟩
  · exact ⟨(if_pos hq).symm, fun _ => tinv_geom hi⟩
  · refine ⟨(if_neg hq).symm, fun hf => ?_⟩
    simpa [primaryFresh, hq, Geom, Terminal.swapped] using hf

theorem decrst_single_ok {t t' : Terminal} {m : DecMode} (hi : TInv t = true)
    (h : t.decrstOne m = some t') : stepOK t (.decrst [m]) t' = true := by
  have e := (pair_of_scr (decrstOne_facts h).scr).trans (afterDecrst_single t m)
  cases m
  case saveCursor =>
    cases h
    simp [stepOK, modeCtx, restoredFrom_restore]
    simp [Terminal.restoreCursor]
  case saveCursorAltScreenBuffer =>
    obtain ⟨t1, h1, h2⟩ := Terminal.decrstOne_screen rfl h
    obtain ⟨k, kg⟩ := switchPrim_ctx hi h1
    simp [stepOK, e, ← k, restoredModes_reflow h2]
    cases hf : primaryFresh t
    · exact .inl rfl
    · exact .inr ((reflow_facts h2).cursor (kg hf).1 (kg hf).2)
  all_goals simp [stepOK, e]

theorem step_ok {t t' : Terminal} {f : Function} (hi : TInv t = true) (h : t.execute f = some t') :
    stepOK t f t' = true := by
  cases f
  case decrc | scorc =>
    have hk := ctxKept_of (frame hi rfl h)
    cases h
    simp [stepOK, restoredFrom_restore, hk]
    simp [Terminal.restoreCursor]
  case decsc | scosc =>
    have := saveCursor_eq h; subst this
    simp [stepOK, sameVisible]
  case decstr | ris =>
    obtain ⟨r1, _, rfl⟩ := Option.map_eq_some_iff.mp h
    simp [stepOK, defaultCtx_eq]
  case decset ms =>
    cases ms with
    | nil => exact (decset_multi hi h).1
    | cons m rest =>
      cases rest with
      | nil => exact decset_single_ok ((Terminal.foldM'_single ..).symm.trans h)
      | cons _ _ => exact (decset_multi hi h).1
  case decrst ms =>
    cases ms with
    | nil => simpa [stepOK] using decrst_multi h
    | cons m rest =>
      cases rest with
      | nil => exact decrst_single_ok hi ((Terminal.foldM'_single ..).symm.trans h)
      | cons _ _ => simpa [stepOK] using decrst_multi h
  -- clause (3): every other function keeps both contexts
  all_goals simp only [stepOK, ctxKept_of (frame hi rfl h), Bool.or_true]

end Avt.Spec.C17
