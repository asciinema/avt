/-
  Avt.Lemmas.FrameExec — the frame lemma for the buffer switches, `reflow`, RIS, and `Terminal.execute`
  as a whole, then for a list of functions.  All 50 functions are covered: `execute_rel` is an
  exhaustive `cases f`.

  The switches (`Rel.swapped`, `switchReflow_rel`), and with them `execute_rel` and what is built on
  it, assume `P.g = true`, and `RelX` hands it back (`P'.g = P.g`): a switch parks the active buffer
  with its extra scrollback, so `Rel.stale` wants it to have the terminal's geometry.
-/
import Avt.Lemmas.FrameTerm
import Avt.Lemmas.TermResize
import Avt.Lemmas.FoldM
import Avt.Lemmas.Footprint

namespace Avt.Frame
open Avt

section
variable {P : Par} {a b : Terminal}

theorem Rel.setG (R : Rel P a b) (g : Bool) (hc : g = true → a.buffer.cols = a.cols)
    (hr : g = true → a.buffer.rows = a.rows) : Rel { P with g := g } a b :=
  { R with geoC := hc, geoR := hr }

theorem reflow_rel (R : Rel P a b)
    (hc : (a.buffer.cols = a.cols ∧ a.buffer.rows = a.rows) ∨ P.pa = []) :
    RelO { P with g := true } a.reflow b.reflow := by
  rw [Terminal.reflow_eq, Terminal.reflow_eq, ← R.cols, ← R.rows, ← R.cursor]
  split
  · rcases resize_rel R.buf a.cols a.rows (a.cursor.col, a.cursor.row)
        (hc.imp (fun h => ⟨h.1, h.2, R.vlen⟩) id) with ⟨hx, hy⟩ | ⟨x', y', cur, hx, hy, hb, hxc, hxr, hxv, hxl⟩
    · rw [hx, hy]; trivial
    · rw [hx, hy]
      show Rel _ (a.reflowed x' cur) (b.reflowed y' cur)
      unfold Terminal.reflowed
      scal R
      rw [R.buf.cols]
      exact R.updG true hb rfl (fun _ => hxc.trans R.cols) (fun _ => hxr.trans R.rows)
        (hxv.trans hxr.symm) (hxl.trans R.limA)
  · trivial

/-- both terminals bring related buffers `x`, `y` to the front and park the active ones; `q` is what
    `x` holds more than `y`, `g` says whether `x` has the terminal's geometry -/
theorem Rel.swapped (R : Rel P a b) (hg : P.g = true) {T : BufferType} {g : Bool} {q : List Line} {x y : Buffer}
    (hb : BRel P.s q x y) (hgc : g = true → x.cols = a.cols) (hgr : g = true → x.rows = a.rows)
    (hv : x.view.length = x.rows) (hl : x.limit = Par.activeLimit ⟨P.s, g, P.L, T, q, P.pa⟩)
    (hlo : T = .alternate → a.buffer.limit = P.L.map Buffer.mkLimit) {d e : List Bool}
    (hd : d.length = e.length) :
    Rel ⟨P.s, g, P.L, T, q, P.pa⟩
      { a with activeBufferType := T, savedCtx := a.alternateSavedCtx, alternateSavedCtx := a.savedCtx,
               otherBuffer := a.buffer, buffer := x, dirtyLines := d }
      { b with activeBufferType := T, savedCtx := b.alternateSavedCtx, alternateSavedCtx := b.savedCtx,
               otherBuffer := b.buffer, buffer := y, dirtyLines := e } :=
  { buf := hb, other := R.buf, dirty := hd, abt := rfl, slA := R.slA, slB := R.slB
    stale := fun h => (h.elim (· (R.geoC hg)) (· (R.geoR hg))).elim
    xtw := R.xtw, geoC := hgc, geoR := hgr, vlen := hv, ovlen := R.vlen, limA := hl, limO := hlo
    cols := R.cols, rows := R.rows, activeBufferType := rfl, cursor := R.cursor, pen := R.pen
    charsets := R.charsets, activeCharset := R.activeCharset, tabs := R.tabs
    insertMode := R.insertMode, originMode := R.originMode, autoWrapMode := R.autoWrapMode
    newLineMode := R.newLineMode, cursorKeysMode := R.cursorKeysMode, pendingWrap := R.pendingWrap
    topMargin := R.topMargin, bottomMargin := R.bottomMargin, savedCtx := R.alternateSavedCtx
    alternateSavedCtx := R.savedCtx, xtwinops := R.xtwinops }

/-- The switch either way, `restore_cursor` or not, then `reflow`: what DECSET and DECRST 47 / 1047 /
    1049 do.  After a switch the geometry flag is set, or (a parked buffer with a stale geometry coming
    back) the active buffer is the same on both sides: either way `reflow_rel` applies. -/
theorem switchReflow_rel (R : Rel P a b) (hg : P.g = true) (to : BufferType) (restore : Bool) :
    RelX P
      (match a.switchTo to with | none => none | some t => (if restore then t.restoreCursor else t).reflow)
      (match b.switchTo to with | none => none | some t => (if restore then t.restoreCursor else t).reflow) := by
  have tail : ∀ {P' : Par} {a' b' : Terminal}, Rel P' a' b' → P'.g = true ∨ P'.pa = [] → P'.s = P.s →
      P'.L = P.L → P'.prim = P.prim →
      RelX P (if restore then a'.restoreCursor else a').reflow (if restore then b'.restoreCursor else b').reflow := by
    intro P' a' b' R' h h1 h2 h3
    have R'' : Rel P' (if restore then a'.restoreCursor else a') (if restore then b'.restoreCursor else b') := by
      cases restore
      · exact R'
      · exact restoreCursor_rel R'
    exact RelX.trans (RelO.toX (reflow_rel R'' (h.imp (fun h => ⟨R''.geoC h, R''.geoR h⟩) id))) h1 hg.symm h2 h3
  rw [Terminal.switchTo_eq, Terminal.switchTo_eq, ← R.activeBufferType, ← R.rows]
  by_cases hT : a.activeBufferType = to
  · rw [if_pos hT, if_pos hT]
    exact tail R (.inl hg) rfl rfl rfl
  · rw [if_neg hT, if_neg hT]
    rw [R.abt] at hT
    cases to with
    | alternate =>
      have hP : P.T = .primary := by cases h : P.T; rfl; exact absurd h hT
      have hb : BRel P.s [] (Buffer.new a.cols a.rows (some 0) (some a.pen))
          (Buffer.new b.cols b.rows (some 0) (some b.pen)) := by
        rw [R.cols, R.rows, R.pen]; exact BRel.refl _ _
      refine bindT (Q := RelX P) (dirtyExtend_map R.dirty 0 a.rows fun d e hd =>
          R.swapped hg (T := .alternate) (g := true) hb (fun _ => rfl) (fun _ => rfl) (by simp [Buffer.new]) rfl
            (fun _ => by have := R.limA; simpa [Par.activeLimit, hP] using this) hd)
        trivial fun a' b' R' => tail R' (.inl rfl) rfl rfl (by simp [Par.prim, hP])
    | primary =>
      have hP : P.T = .alternate := by cases h : P.T; exact absurd h hT; rfl
      -- the parked buffer comes back: it has the terminal's geometry, or it is the same on both sides
      have hgeo : (a.otherBuffer.cols = a.cols ∧ a.otherBuffer.rows = a.rows) ∨ P.po = [] := by
        by_cases h1 : a.otherBuffer.cols = a.cols
        · by_cases h2 : a.otherBuffer.rows = a.rows
          · exact .inl ⟨h1, h2⟩
          · exact .inr (R.stale (.inr h2))
        · exact .inr (R.stale (.inl h1))
      refine bindT (Q := RelX P) (dirtyExtend_map R.dirty 0 a.rows fun d e hd =>
          R.swapped hg (T := .primary) (g := decide (a.otherBuffer.cols = a.cols ∧ a.otherBuffer.rows = a.rows))
            R.other (fun h => (of_decide_eq_true h).1) (fun h => (of_decide_eq_true h).2) R.ovlen
            (by have := R.limO hP; simpa [Par.activeLimit] using this) (fun h => by cases h) hd)
        trivial fun a' b' R' => tail R' (hgeo.imp decide_eq_true id) rfl rfl (by simp [Par.prim, hP])

theorem decsetOne_rel (R : Rel P a b) (hg : P.g = true) (m : DecMode) :
    RelX P (a.decsetOne m) (b.decsetOne m) := by
  cases m <;> simp only [Terminal.decsetOne] <;> scal R
  case cursorKeys | autoWrap | textCursorEnable => exact R.scalars.toX
  case origin => exact RelO.toX (moveCursorHome_rel R.scalars)
  case altScreenBuffer => exact switchReflow_rel R hg .alternate false
  case saveCursor => exact RelO.toX (saveCursor_rel R)
  case saveCursorAltScreenBuffer =>
    exact bindT (Q := RelX P) (saveCursor_rel R) trivial fun a' b' R' => switchReflow_rel R' hg .alternate false

theorem decrstOne_rel (R : Rel P a b) (hg : P.g = true) (m : DecMode) :
    RelX P (a.decrstOne m) (b.decrstOne m) := by
  cases m <;> simp only [Terminal.decrstOne] <;> scal R
  case cursorKeys | autoWrap | textCursorEnable => exact R.scalars.toX
  case origin => exact RelO.toX (moveCursorHome_rel R.scalars)
  case altScreenBuffer => exact switchReflow_rel R hg .primary false
  case saveCursor => exact (restoreCursor_rel R).toX
  case saveCursorAltScreenBuffer => exact switchReflow_rel R hg .primary true

/-- `Terminal.foldM'_rel` (Lemmas/FoldM.lean) folds ONE relation; here a step (a buffer switch) may
    move `P` to the `P'` that `RelX` hides, so the step is assumed at every `P` and the results are
    chained by `RelX.trans`. -/
theorem foldM_rel {α} {f : Terminal → α → Option Terminal}
    (step : ∀ (P : Par) (a b : Terminal) (m : α), Rel P a b → P.g = true → RelX P (f a m) (f b m))
    (ms : List α) : ∀ (P : Par) (a b : Terminal), Rel P a b → P.g = true →
      RelX P (Terminal.foldM' f ms a) (Terminal.foldM' f ms b) := by
  induction ms with
  | nil => intro P a b R _; exact R.toX
  | cons m ms ih =>
    intro P a b R hg
    simp only [Terminal.foldM']
    rcases (step P a b m R hg).elim with ⟨ha, hb⟩ | ⟨a', b', P', ha, hb, R', h1, h2, h3, h4⟩
    · simp only [ha, hb]; trivial
    · simp only [ha, hb]
      exact RelX.trans (ih P' a' b' R' (h2.trans hg)) h1 h2 h3 h4

theorem hardReset_rel (R : Rel P a b) (hs : P.s = true) :
    RelO ⟨true, true, P.L, .primary, [], []⟩ a.hardReset b.hardReset := by
  unfold Terminal.hardReset
  scal R
  rw [R.slA, R.slB hs]
  refine RelO.mapSame _ fun r1 => ?_
  exact Rel.self true true rfl rfl (R.xtwinops ▸ R.xtw) (fun _ => rfl) (fun _ => rfl) (by simp [Buffer.new])
    (by simp [Buffer.new]) rfl (fun h => by cases h)

/-- which functions the frame lemma covers: every one (`execute_rel` is a `cases f`, RIS is
    `hardReset_rel`) -/
def coveredFrame (_ : Function) : Bool := true

theorem execute_rel (R : Rel P a b) (hg : P.g = true) (f : Function) (hf : f ≠ .ris) :
    RelX P (a.execute f) (b.execute f) := by
  cases f with
  | ris => exact absurd rfl hf
  | decset ms => exact foldM_rel (fun P a b m R hg => decsetOne_rel R hg m) ms P a b R hg
  | decrst ms => exact foldM_rel (fun P a b m R hg => decrstOne_rel R hg m) ms P a b R hg
  | bs => exact RelO.toX (bs_rel R)
  | cbt n => exact RelO.toX (moveCursorToPrevTab_rel R _)
  | cha n => exact RelO.toX (moveCursorToCol_rel R _)
  | cht n => exact RelO.toX (moveCursorToNextTab_rel R _)
  | cnl n => exact RelO.toX (RelO.map (cursorDown_rel R _) fun _ _ R' => doMoveCursorToCol_rel R' _)
  | cpl n => exact RelO.toX (RelO.map (cursorUp_rel R _) fun _ _ R' => doMoveCursorToCol_rel R' _)
  | cr => exact (doMoveCursorToCol_rel R 0).toX
  | ctc op => exact (ctc_rel R op).toX
  | cub n => exact RelO.toX (cub_rel R n)
  | cud n => exact RelO.toX (cursorDown_rel R _)
  | cuf n => exact RelO.toX (moveCursorToRelCol_rel R ((asUsize n 1 : Nat) : Int))
  | cup r c => exact RelO.toX (cup_rel R r c)
  | cuu n => exact RelO.toX (cursorUp_rel R _)
  | dch n => exact RelO.toX (dch_rel R n)
  | decaln => exact RelO.toX (decaln_rel R)
  | decrc => exact (restoreCursor_rel R).toX
  | decsc => exact RelO.toX (saveCursor_rel R)
  | decstbm t bt => exact RelO.toX (decstbm_rel R t bt)
  | decstr => exact RelO.toX (softReset_rel R)
  | dl n => exact RelO.toX (dl_rel R n)
  | ech n => exact RelO.toX (ech_rel R n)
  | ed s => exact RelO.toX (ed_rel R s)
  | el s => exact RelO.toX (el_rel R s)
  | g1d4 c | gzd4 c | si | so =>
    simp only [Terminal.execute]
    scal R
    exact R.scalars.toX
  | ht => exact RelO.toX (moveCursorToNextTab_rel R 1)
  | hts => exact (setTab_rel R).toX
  | ich n => exact RelO.toX (ich_rel R n)
  | il n => exact RelO.toX (il_rel R n)
  | lf => exact RelO.toX (lf_rel R)
  | nel => exact RelO.toX (nel_rel R)
  | print ch => exact RelO.toX (print_rel' R ch)
  | rep n => exact RelO.toX (rep_rel R n)
  | ri => exact RelO.toX (ri_rel R)
  | rm ms => exact (rm_rel R ms).toX
  | scorc => exact (restoreCursor_rel R).toX
  | scosc => exact RelO.toX (saveCursor_rel R)
  | sd n => exact RelO.toX (scrollDownInRegion_rel R _)
  | sgr ops => exact (sgr_rel R ops).toX
  | sm ms => exact (sm_rel R ms).toX
  | su n => exact RelO.toX (scrollUpInRegion_rel R _)
  | tbc s => exact (tbc_rel R s).toX
  | vpa n => exact RelO.toX (moveCursorToRow_rel R _)
  | vpr n => exact RelO.toX (cursorDown_rel R _)
  | xtwinops c r => exact RelO.toX (xtwinopsF_rel R c r)

/-- The frame lemma.  One `Function` executed on two related terminals: either both panic, or both
    succeed and the results are related again; strictness, limit and geometry flag are kept; the
    extra scrollback of the primary buffer is kept, except by RIS (strict variant only), after
    which nothing is extra. -/
theorem execute_frame (hg : P.g = true) (R : Rel P a b) (f : Function) (hs : P.s = true ∨ f ≠ .ris) :
    (a.execute f = none ∧ b.execute f = none) ∨
    ∃ a' b' P', a.execute f = some a' ∧ b.execute f = some b' ∧ Rel P' a' b' ∧ P'.g = true ∧ P'.s = P.s
      ∧ P'.L = P.L ∧ (f ≠ .ris → P'.prim = P.prim) ∧ (f = .ris → P'.prim = []) := by
  by_cases hf : f = .ris
  · subst hf
    have hs' : P.s = true := hs.resolve_right (fun h => h rfl)
    rcases (hardReset_rel R hs').elim with h | ⟨a', b', ha, hb, R'⟩
    · exact .inl h
    · exact .inr ⟨a', b', _, ha, hb, R', rfl, hs'.symm, rfl, fun h => absurd rfl h, fun _ => rfl⟩
  · rcases (execute_rel R hg f hf).elim with h | ⟨a', b', P', ha, hb, R', h1, h2, h3, h4⟩
    · exact .inl h
    · exact .inr ⟨a', b', P', ha, hb, R', h2.trans hg, h1, h3, fun _ => h4, fun h => absurd h hf⟩

end

/-- how the parameters may move along a run: strictness, limit and geometry flag stay; the extra
    scrollback of the primary buffer stays unless RIS was executed, which empties it -/
structure Step (P P' : Par) (noRis : Prop) : Prop where
  g : P'.g = true
  s : P'.s = P.s
  L : P'.L = P.L
  keep : noRis → P'.prim = P.prim
  reset : P'.prim = P.prim ∨ P'.prim = []

theorem Step.refl {P : Par} (hg : P.g = true) (n : Prop) : Step P P n :=
  ⟨hg, rfl, rfl, fun _ => rfl, Or.inl rfl⟩

theorem Step.trans {P P' P'' : Par} {n n' : Prop} (h1 : Step P P' n) (h2 : Step P' P'' n') :
    Step P P'' (n ∧ n') :=
  ⟨h2.g, h2.s.trans h1.s, h2.L.trans h1.L, fun h => (h2.keep h.2).trans (h1.keep h.1), by
    rcases h2.reset with h | h
    · rcases h1.reset with h' | h'
      · exact Or.inl (h.trans h')
      · exact Or.inr (h.trans h')
    · exact Or.inr h⟩

theorem Step.mono {P P' : Par} {n n' : Prop} (h : Step P P' n) (hn : n' → n) : Step P P' n' :=
  ⟨h.g, h.s, h.L, fun x => h.keep (hn x), h.reset⟩

/-- `a`, `b` are related at some `P'` that a run from `P` may have moved to: what `Option.Rel` puts
    between the results of two runs.  Not related to `Reach` (reachable states, Lemmas/InvVt.lean). -/
def Reached (P : Par) (noRis : Prop) (a b : Terminal) : Prop := ∃ P', Rel P' a b ∧ Step P P' noRis

theorem execute_step {P : Par} {a b : Terminal} (hg : P.g = true) (R : Rel P a b) (f : Function)
    (hs : P.s = true ∨ f ≠ .ris) : Option.Rel (Reached P (f ≠ .ris)) (a.execute f) (b.execute f) := by
  rcases execute_frame hg R f hs with ⟨ha, hb⟩ | ⟨a', b', P', ha, hb, R', h1, h2, h3, h4, h5⟩ <;> rw [ha, hb]
  · exact .none
  · refine .some ⟨P', R', h1, h2, h3, h4, ?_⟩
    by_cases hf : f = .ris
    · exact .inr (h5 hf)
    · exact .inl (h4 hf)

/-- A list of functions executed on two related terminals: both runs panic, or both return and the
    results are related again. -/
theorem execAll_rel {P : Par} {a b : Terminal} (R : Rel P a b) (hg : P.g = true) (fs : List Function)
    (hs : P.s = true ∨ Function.ris ∉ fs) :
    Option.Rel (Reached P (Function.ris ∉ fs))
      (Terminal.foldM' Terminal.execute fs a) (Terminal.foldM' Terminal.execute fs b) := by
  refine Terminal.foldM'_rel (Reached P (Function.ris ∉ fs)) fs (fun f hf a b h => ?_) a b
    ⟨P, R, Step.refl hg _⟩
  obtain ⟨P1, R1, st1⟩ := h
  have hne : Function.ris ∉ fs → f ≠ .ris := fun h e => h (e ▸ hf)
  rcases (execute_step st1.g R1 f (hs.imp (fun h => st1.s.trans h) hne)).none_or_some with
    ⟨h1, h2⟩ | ⟨_, _, h1, h2, P2, R2, st2⟩ <;> rw [h1, h2]
  · exact .none
  · exact .some ⟨P2, R2, (st1.trans st2).mono fun h => ⟨h, hne h⟩⟩

end Avt.Frame
