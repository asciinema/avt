/-
  Avt.Lemmas.C11Full — from `Terminal.dump` replayed (`Feeds` form, up to `normT`) to `restoreOf` at `Vt`
  level (up to `normD`); the hypotheses of the general dump replay (`DumpOK`) from the cell/pen invariant
  `CellsInv` and the decidable exception classifiers of `Spec.C11`, or from the Bool forms of `PenOK` / `LinesOK`
  (`penOKb_iff`, `viewOKb_iff`); the restore half (`restore_general`).
-/
import Avt.Lemmas.C11Replay
import Avt.Lemmas.C11CellsExec

namespace Avt
namespace Lemmas.C11

section
open Avt.Spec.C11 Avt.Spec.C04 Avt.C04L Avt.Terminal

/-- from `Terminal.dump` replayed on the fresh terminal to `restoreOf` -/
theorem restore_of_dump (s : Vt) (hinv : Inv s = true) (hreg : PRegOK s.parser = true)
    (hd : ∃ d t', s.terminal.dump = some d ∧ Feeds d (freshT s.terminal.cols s.terminal.rows none) t'
      ∧ normT t' = normT s.terminal) :
    ∃ r, restoreOf s = some r ∧ normD r = normD s := by
  simp only [Inv, Bool.and_eq_true] at hinv
  have ht := TOK.of_TInv hinv.2
  obtain ⟨d, t', hdump, f, hn⟩ := hd
  obtain ⟨q1, hq1, g1⟩ := f Parser.new GP_new
  obtain ⟨pd, q2, hpd, hq2, hnp⟩ := parser_dump s.parser q1 hinv.1 hreg g1.1 g1.2
  have hfeed : Vt.feedAll ⟨Parser.new, freshT s.terminal.cols s.terminal.rows none⟩ (d ++ pd) = some ⟨q2, t'⟩ := by
    rw [Lemmas.C19.feedAll_append, hq1]
    exact feedAll_of_silent ⟨q1, t'⟩ pd q2 hq2
  refine ⟨(Vt.finish ⟨q2, t'⟩).1, ?_, ?_⟩
  · unfold restoreOf
    have hvd : s.dump = some (d ++ pd) := by simp [Vt.dump, hdump, hpd]
    have hnew : Vt.new s.terminal.cols s.terminal.rows none
        = some ⟨Parser.new, freshT s.terminal.cols s.terminal.rows none⟩ :=
      Vt.new_eq_some_iff.2 ⟨ht.r1, rfl⟩
    simp only [hvd, hnew, Vt.feedStr_of_feedAll hfeed, Option.map_some]
  · have h1 := normT_finish ⟨q2, t'⟩
    have h2 : (Vt.finish ⟨q2, t'⟩).1.parser = q2 := rfl
    simp only [normD, h1, h2, hnp, hn]

end

open Avt.Spec.C11 Avt.Spec.C08

def colorOKb : Color → Bool
  | .indexed n => n < 256
  | .rgb r g b => r < 256 && g < 256 && b < 256

def penOKb (p : Pen) : Bool :=
  p.attrs < 32 && (match p.fg with | some c => colorOKb c | none => true)
    && (match p.bg with | some c => colorOKb c | none => true)

def cellOKb (c : Cell) : Bool := printableCh c.ch && penOKb c.pen

def viewOKb (v : List Line) : Bool := v.all fun l => l.cells.all cellOKb

theorem colorOKb_iff {c : Color} : colorOKb c = true ↔ ColorOK c := by
  cases c <;> simp [colorOKb, ColorOK, and_assoc]

theorem penOKb_iff {p : Pen} : penOKb p = true ↔ PenOK p := by
  simp only [penOKb, PenOK, Bool.and_eq_true, decide_eq_true_eq, and_assoc]
  refine and_congr_right fun _ => and_congr ?_ ?_
  · cases p.fg <;> simp [colorOKb_iff]
  · cases p.bg <;> simp [colorOKb_iff]

theorem cellOKb_iff {c : Cell} : cellOKb c = true ↔ CellOK c := by
  simp only [cellOKb, CellOK, Bool.and_eq_true, penOKb_iff]

theorem viewOKb_iff {v : List Line} : viewOKb v = true ↔ LinesOK v := by
  simp only [viewOKb, List.all_eq_true, cellOKb_iff]
  rfl

theorem linesOK_of_b {v : List Line} (h : viewOKb v = true) : LinesOK v := viewOKb_iff.1 h

/-! the four exception classifiers of `Spec.C11`, in the terms the statements use -/

theorem resizedOnAlt_primary {T : Terminal} (h : T.activeBufferType = .primary) : resizedOnAlt T = false := by
  simp [resizedOnAlt, h]

theorem cursorStepFaithful_inside {T : Terminal}
    (h : T.originMode = false ∨ (T.topMargin ≤ T.cursor.row ∧ T.cursor.row ≤ T.bottomMargin)) :
    cursorStepFaithful T = true := by
  simp [cursorStepFaithful, inside_iff.2 h]

theorem sizeExceedsU16_iff {T : Terminal} : sizeExceedsU16 T = false ↔ T.cols < 65535 ∧ T.rows ≤ 65535 := by
  simp only [sizeExceedsU16, Bool.or_eq_false_iff, decide_eq_false_iff_not, Nat.not_le, Nat.not_lt]

theorem parkedCtx_iff {T : Terminal} : parkedCtxExceedsU16 T = false ↔
    (T.activeBufferType = .primary → T.alternateSavedCtx.isDefault = true
      ∨ (T.alternateSavedCtx.cursorCol < 65535 ∧ T.alternateSavedCtx.cursorRow < 65535)) := by
  cases hp : T.activeBufferType
  · cases hd : T.alternateSavedCtx.isDefault <;> simp [parkedCtxExceedsU16, hp, hd, Nat.not_le]
  · simp [parkedCtxExceedsU16, hp]

/-- `DumpOK` from the decidable hypotheses -/
theorem DumpOK.of_b {T : Terminal} (hinv : TInv T = true) (hcells : viewOKb T.buffer.view = true)
    (hocells : T.activeBufferType = .alternate → viewOKb T.otherBuffer.view = true)
    (hpens : (penOKb T.pen && penOKb T.savedCtx.pen && penOKb T.alternateSavedCtx.pen) = true)
    (h2 : resizedOnAlt T = false) (h1 : cursorStepFaithful T = true)
    (h6 : T.cols < 65535 ∧ T.rows ≤ 65535) (h7 : parkedCtxExceedsU16 T = false) : DumpOK T := by
  simp only [Bool.and_eq_true] at hpens
  exact ⟨⟨hinv, penOKb_iff.1 hpens.1.1, h6.1, h6.2⟩, h2, viewOKb_iff.1 hcells, fun h => viewOKb_iff.1 (hocells h),
    penOKb_iff.1 hpens.1.2, penOKb_iff.1 hpens.2, parkedCtx_iff.1 h7, h1⟩

theorem dumpOK_of (T : Terminal) (hinv : TInv T = true) (hc : CellsInv T)
    (h2 : resizedOnAlt T = false) (h1 : cursorStepFaithful T = true) (h6 : sizeExceedsU16 T = false)
    (h7 : parkedCtxExceedsU16 T = false) : DumpOK T :=
  ⟨⟨hinv, hc.pen, (sizeExceedsU16_iff.1 h6).1, (sizeExceedsU16_iff.1 h6).2⟩, h2, hc.view, fun _ => hc.oview,
    hc.sctx, hc.actx, parkedCtx_iff.1 h7, h1⟩

theorem restore_of_dumpOK (s : Vt) (hinv : Inv s = true) (hreg : PRegOK s.parser = true)
    (h : TInv s.terminal = true → DumpOK s.terminal) : ∃ r, restoreOf s = some r ∧ normD r = normD s :=
  restore_of_dump s hinv hreg (dump_general s.terminal
    (h (by simp only [Inv, Bool.and_eq_true] at hinv; exact hinv.2)))

/-- **C11, restore half**: invariant + register shape + cell / pen invariant + the four exceptions -/
theorem restore_general (s : Vt) (hinv : Inv s = true) (hreg : PRegOK s.parser = true) (hc : CellsInv s.terminal)
    (h2 : resizedOnAlt s.terminal = false) (h1 : cursorStepFaithful s.terminal = true)
    (h6 : sizeExceedsU16 s.terminal = false) (h7 : parkedCtxExceedsU16 s.terminal = false) :
    ∃ r, restoreOf s = some r ∧ normD r = normD s :=
  restore_of_dumpOK s hinv hreg fun hi => dumpOK_of s.terminal hi hc h2 h1 h6 h7

end Lemmas.C11
end Avt
