/-
  Avt.Lemmas.Prim — the checked primitives of Avt/Model/Prim.lean: when each succeeds, and what it
  returns as a list (length, entries).  The three range primitives return a splice
  `l.take a ++ m ++ l.drop b`; a rotation followed by a fill of the vacated end, which is how the
  model scrolls rows and inserts or deletes cells, is a shift of the segment (`rotL_fill`,
  `rotR_fill`, `getElem?_shiftL`, `getElem?_shiftR`).
-/
import Avt.Model.Prim

namespace Avt

/-- for lemmas of the form "returns, in a state satisfying `P`" (`∃ a, o = some a ∧ P a`): a caller who
    already holds what was returned wants `P` of it -/
theorem Option.of_eq_some {α} {o : Option α} {P : α → Prop} (h : ∃ a, o = some a ∧ P a) {b : α}
    (hb : o = some b) : P b := by
  obtain ⟨a, ha, hp⟩ := h
  cases ha.symm.trans hb; exact hp

theorem Option.of_eq_some₂ {α β} {o : Option (α × β)} {P : α → β → Prop}
    (h : ∃ a b, o = some (a, b) ∧ P a b) {a : α} {b : β} (hb : o = some (a, b)) : P a b := by
  obtain ⟨a', b', ha, hp⟩ := h
  cases ha.symm.trans hb; exact hp

theorem csub_eq_some {a b : Nat} (h : b ≤ a) : csub a b = some (a - b) := by
  simp [csub, h]

theorem csub_eq_none {a b : Nat} (h : a < b) : csub a b = none := by
  simp [csub]; omega

theorem csub_eq_some_iff {a b k : Nat} : csub a b = some k ↔ b ≤ a ∧ k = a - b := by
  unfold csub; split <;> simp_all <;> omega

/-- the shape of every model function that starts with a checked subtraction -/
theorem csub_map {α} (f : Nat → α) (a b : Nat) :
    (csub a b).map f = if b ≤ a then some (f (a - b)) else none := by
  unfold csub; split <;> rfl

theorem csub_map_eq_some_iff {α} {f : Nat → α} {a b : Nat} {y : α} :
    (csub a b).map f = some y ↔ b ≤ a ∧ y = f (a - b) := by
  rw [csub_map]; split <;> simp [*, eq_comm]

theorem csub_isSome {a b : Nat} : (csub a b).isSome = true ↔ b ≤ a := by
  unfold csub; split <;> simp_all

theorem csub_add {a b k : Nat} (h : csub a b = some k) : k + b = a := by
  obtain ⟨hle, rfl⟩ := csub_eq_some_iff.1 h
  exact Nat.sub_add_cancel hle

theorem List.set_of_getElem? {α} {l : List α} {i : Nat} {x : α} (h : l[i]? = some x) : l.set i x = l := by
  obtain ⟨hi, rfl⟩ := List.getElem?_eq_some_iff.1 h
  exact List.set_getElem_self hi

theorem setAt_eq_some {α} {l : List α} {i : Nat} (x : α) (h : i < l.length) :
    setAt l i x = some (l.set i x) := by
  simp [setAt, h]

theorem setAt_eq_some_iff {α} {l l' : List α} {i : Nat} {x : α} :
    setAt l i x = some l' ↔ i < l.length ∧ l' = l.set i x := by
  unfold setAt; split
  · simp_all [eq_comm]
  · simp; intro h; omega

theorem setAt_mem {α} {l l' : List α} {i : Nat} {x y : α} (h : setAt l i x = some l') (hy : y ∈ l') :
    y = x ∨ y ∈ l := by
  obtain ⟨_, rfl⟩ := setAt_eq_some_iff.1 h
  exact (List.mem_or_eq_of_mem_set hy).symm

theorem setAt_length {α} {l l' : List α} {i : Nat} {x : α} (h : setAt l i x = some l') :
    l'.length = l.length := by
  obtain ⟨_, rfl⟩ := setAt_eq_some_iff.1 h; simp

theorem setAt_getElem? {α} {l l' : List α} {i j : Nat} {x : α} (h : setAt l i x = some l') :
    l'[j]? = if i = j then some x else l[j]? := by
  obtain ⟨hi, rfl⟩ := setAt_eq_some_iff.1 h
  rw [List.getElem?_set]; split
  · simp [*]
  · rfl

theorem modAt_eq_some {α} {l : List α} {i : Nat} (f : α → α) (h : i < l.length) :
    modAt l i f = some (l.set i (f l[i])) := by
  simp [modAt, List.getElem?_eq_getElem h]

theorem modAt_eq_some_iff {α} {l l' : List α} {i : Nat} {f : α → α} :
    modAt l i f = some l' ↔ ∃ h : i < l.length, l' = l.set i (f l[i]) := by
  unfold modAt
  by_cases h : i < l.length
  · simp [h, eq_comm]
  · simp [h]

theorem modAt_length {α} {l l' : List α} {i : Nat} {f : α → α} (h : modAt l i f = some l') :
    l'.length = l.length := by
  obtain ⟨_, rfl⟩ := modAt_eq_some_iff.1 h; simp

theorem modAtM_eq_some {α} {l : List α} {i : Nat} {f : α → Option α} {y : α} (h : i < l.length)
    (hf : f l[i] = some y) : modAtM l i f = some (l.set i y) := by
  simp [modAtM, List.getElem?_eq_getElem h, hf]

theorem modAtM_eq_some_iff {α} {l l' : List α} {i : Nat} {f : α → Option α} :
    modAtM l i f = some l' ↔ ∃ (h : i < l.length) (y : α), f l[i] = some y ∧ l' = l.set i y := by
  unfold modAtM
  by_cases h : i < l.length
  · simp only [List.getElem?_eq_getElem h]
    cases hf : f l[i] <;> simp [h, hf]
    exact eq_comm
  · simp [h]

theorem modAtM_length {α} {l l' : List α} {i : Nat} {f : α → Option α}
    (h : modAtM l i f = some l') : l'.length = l.length := by
  obtain ⟨_, _, _, rfl⟩ := modAtM_eq_some_iff.1 h; simp

theorem modAtM_mem {α} {l l' : List α} {i : Nat} {f : α → Option α} {y : α}
    (h : modAtM l i f = some l') (hy : y ∈ l') : y ∈ l ∨ ∃ x ∈ l, f x = some y := by
  obtain ⟨hi, z, hz, rfl⟩ := modAtM_eq_some_iff.1 h
  rcases List.mem_or_eq_of_mem_set hy with h | rfl
  · exact .inl h
  · exact .inr ⟨l[i], List.getElem_mem hi, hz⟩

theorem modAtM_get {α} {l l' : List α} {i : Nat} {f : α → Option α} (h : modAtM l i f = some l') :
    ∃ x y, l[i]? = some x ∧ f x = some y ∧ l'[i]? = some y := by
  obtain ⟨hi, y, hy, rfl⟩ := modAtM_eq_some_iff.1 h
  exact ⟨l[i], y, List.getElem?_eq_getElem hi, hy, by simp [hi]⟩

theorem modAtM_getElem? {α} {l l' : List α} {i j : Nat} {f : α → Option α}
    (h : modAtM l i f = some l') : l'[j]? = if i = j then l[i]?.bind f else l[j]? := by
  obtain ⟨hi, y, hy, rfl⟩ := modAtM_eq_some_iff.1 h
  rw [List.getElem?_set]; split
  · simp [hy, hi]
  · rfl

/-! ### a segment of a list replaced or rotated

`fillRange`, `rotLRange` and `rotRRange` all return `l.take a ++ m ++ l.drop b` for some `m` as long
as the segment `a..b`; the two rotations take for `m` a rotation of the segment itself.  In the
names below "splice" is that list, "segment" is `(l.take b).drop a`, and "rotate" is
`m.drop n ++ m.take n`. -/

theorem length_splice {α} {l m : List α} {a b : Nat} (hab : a ≤ b) (hb : b ≤ l.length)
    (hm : m.length = b - a) : (l.take a ++ m ++ l.drop b).length = l.length := by
  simp only [List.length_append, List.length_take, List.length_drop, hm]; omega

theorem getElem?_splice {α} {l m : List α} {a b j : Nat} (hab : a ≤ b) (hb : b ≤ l.length)
    (hm : m.length = b - a) :
    (l.take a ++ m ++ l.drop b)[j]? = if a ≤ j ∧ j < b then m[j - a]? else l[j]? := by
  have ha : (l.take a).length = a := by rw [List.length_take]; omega
  by_cases h1 : j < a
  · rw [List.append_assoc, List.getElem?_append_left (by omega), List.getElem?_take, if_pos h1,
      if_neg (by omega)]
  · by_cases h2 : j < b
    · rw [List.getElem?_append_left (by rw [List.length_append]; omega),
        List.getElem?_append_right (by omega), ha, if_pos ⟨by omega, h2⟩]
    · rw [List.getElem?_append_right (by rw [List.length_append]; omega), List.length_append, ha, hm,
        List.getElem?_drop, if_neg (by omega)]
      congr 1; omega

theorem length_segment {α} {l : List α} {a b : Nat} (hb : b ≤ l.length) :
    ((l.take b).drop a).length = b - a := by
  rw [List.length_drop, List.length_take, Nat.min_eq_left hb]

theorem getElem?_segment {α} {l : List α} {a b i : Nat} :
    ((l.take b).drop a)[i]? = if a + i < b then l[a + i]? else none := by
  rw [List.getElem?_drop, List.getElem?_take]

theorem length_rotate {α} {m : List α} {n : Nat} : (m.drop n ++ m.take n).length = m.length := by
  rw [List.length_append, List.length_drop, List.length_take]; omega

theorem getElem?_rotate {α} {m : List α} {n i : Nat} (hn : n ≤ m.length) :
    (m.drop n ++ m.take n)[i]? =
      if i + n < m.length then m[i + n]? else if i < m.length then m[i + n - m.length]? else none := by
  have hd : (m.drop n).length = m.length - n := List.length_drop
  by_cases h1 : i + n < m.length
  · rw [List.getElem?_append_left (by omega), List.getElem?_drop, if_pos h1, Nat.add_comm]
  · rw [List.getElem?_append_right (by omega), hd, List.getElem?_take, if_neg h1]
    by_cases h2 : i < m.length
    · rw [if_pos (by omega), if_pos h2]; congr 1; omega
    · rw [if_neg (by omega), if_neg h2]

theorem fillRange_eq_some {α} {l : List α} {a b : Nat} (x : α) (hab : a ≤ b) (hb : b ≤ l.length) :
    fillRange l a b x = some (l.take a ++ List.replicate (b - a) x ++ l.drop b) := by
  simp [fillRange, hab, hb]

theorem fillRange_eq_some_iff {α} {l l' : List α} {a b : Nat} {x : α} :
    fillRange l a b x = some l' ↔
      a ≤ b ∧ b ≤ l.length ∧ l' = l.take a ++ List.replicate (b - a) x ++ l.drop b := by
  unfold fillRange; split <;> simp_all [eq_comm]
  · omega

theorem fillRange_append {α} {A B C : List α} {p q : Nat} (x : α) (hp : A.length = p)
    (hq : p + B.length = q) :
    fillRange (A ++ B ++ C) p q x = some (A ++ List.replicate B.length x ++ C) := by
  have hAB : (A ++ B).length = q := by rw [List.length_append, hp, hq]
  rw [fillRange, if_pos ⟨by omega, by rw [List.length_append, hAB]; omega⟩, List.drop_left' hAB,
    List.append_assoc A B C, List.take_left' hp, ← hq, Nat.add_sub_cancel_left]

theorem fillRange_length {α} {l l' : List α} {a b : Nat} {x : α}
    (h : fillRange l a b x = some l') : l'.length = l.length := by
  obtain ⟨h1, h2, rfl⟩ := fillRange_eq_some_iff.1 h
  exact length_splice h1 h2 List.length_replicate

theorem fillRange_getElem? {α} {l l' : List α} {a b j : Nat} {x : α}
    (h : fillRange l a b x = some l') :
    l'[j]? = if a ≤ j ∧ j < b then some x else l[j]? := by
  obtain ⟨h1, h2, rfl⟩ := fillRange_eq_some_iff.1 h
  rw [getElem?_splice h1 h2 List.length_replicate]
  split
  · rw [List.getElem?_replicate, if_pos (by omega)]
  · rfl

theorem fillRange_mem {α} {l l' : List α} {a b : Nat} {x y : α}
    (h : fillRange l a b x = some l') (hy : y ∈ l') : y = x ∨ y ∈ l := by
  obtain ⟨_, _, rfl⟩ := fillRange_eq_some_iff.1 h
  simp only [List.mem_append, List.mem_replicate] at hy
  rcases hy with (hy | hy) | hy
  · exact .inr (List.mem_of_mem_take hy)
  · exact .inl hy.2
  · exact .inr (List.mem_of_mem_drop hy)

theorem rotLRange_eq_some {α} {l : List α} {a b n : Nat} (hab : a ≤ b) (hb : b ≤ l.length)
    (hn : n ≤ b - a) :
    rotLRange l a b n =
      some (l.take a ++ (((l.take b).drop a).drop n ++ ((l.take b).drop a).take n) ++ l.drop b) := by
  simp [rotLRange, hab, hb, hn]

theorem rotLRange_eq_some_iff {α} {l l' : List α} {a b n : Nat} :
    rotLRange l a b n = some l' ↔ a ≤ b ∧ b ≤ l.length ∧ n ≤ b - a ∧
      l' = l.take a ++ (((l.take b).drop a).drop n ++ ((l.take b).drop a).take n) ++ l.drop b := by
  unfold rotLRange; split
  · simp_all [eq_comm]
  · simp_all; omega

theorem rotLRange_length {α} {l l' : List α} {a b n : Nat} (h : rotLRange l a b n = some l') :
    l'.length = l.length := by
  obtain ⟨h1, h2, h3, rfl⟩ := rotLRange_eq_some_iff.1 h
  exact length_splice h1 h2 (length_rotate.trans (length_segment h2))

theorem rotLRange_mem {α} {l l' : List α} {a b n : Nat} {y : α}
    (h : rotLRange l a b n = some l') (hy : y ∈ l') : y ∈ l := by
  obtain ⟨_, _, _, rfl⟩ := rotLRange_eq_some_iff.1 h
  simp only [List.mem_append] at hy
  rcases hy with (hy | hy | hy) | hy
  · exact List.mem_of_mem_take hy
  · exact List.mem_of_mem_take (List.mem_of_mem_drop (List.mem_of_mem_drop hy))
  · exact List.mem_of_mem_take (List.mem_of_mem_drop (List.mem_of_mem_take hy))
  · exact List.mem_of_mem_drop hy

theorem rotRRange_eq_some {α} {l : List α} {a b n : Nat} (hab : a ≤ b) (hb : b ≤ l.length)
    (hn : n ≤ b - a) :
    rotRRange l a b n =
      some (l.take a ++ (((l.take b).drop a).drop ((b - a) - n) ++ ((l.take b).drop a).take ((b - a) - n))
        ++ l.drop b) := by
  simp [rotRRange, hab, hb, hn]

theorem rotRRange_eq_some_iff {α} {l l' : List α} {a b n : Nat} :
    rotRRange l a b n = some l' ↔ a ≤ b ∧ b ≤ l.length ∧ n ≤ b - a ∧
      l' = l.take a ++ (((l.take b).drop a).drop ((b - a) - n) ++ ((l.take b).drop a).take ((b - a) - n))
        ++ l.drop b := by
  unfold rotRRange; split
  · simp_all [eq_comm]
  · simp_all; omega

/-- a right rotation is the left rotation by the complement -/
theorem rotRRange_eq_rotL {α} {l : List α} {a b n : Nat} (hn : n ≤ b - a) :
    rotRRange l a b n = rotLRange l a b (b - a - n) := by
  simp only [rotRRange, rotLRange, hn, Nat.sub_le, and_true]

theorem rotRRange_toL {α} {l l' : List α} {a b n : Nat} (h : rotRRange l a b n = some l') :
    n ≤ b - a ∧ rotLRange l a b (b - a - n) = some l' := by
  have hn := (rotRRange_eq_some_iff.1 h).2.2.1
  exact ⟨hn, rotRRange_eq_rotL hn ▸ h⟩

theorem rotRRange_length {α} {l l' : List α} {a b n : Nat} (h : rotRRange l a b n = some l') :
    l'.length = l.length := rotLRange_length (rotRRange_toL h).2

theorem rotRRange_mem {α} {l l' : List α} {a b n : Nat} {y : α}
    (h : rotRRange l a b n = some l') (hy : y ∈ l') : y ∈ l := rotLRange_mem (rotRRange_toL h).2 hy

theorem rotLRange_getElem? {α} {l l' : List α} {a b n j : Nat}
    (h : rotLRange l a b n = some l') :
    l'[j]? = if a ≤ j ∧ j < b then (if j + n < b then l[j + n]? else l[j + n - (b - a)]?) else l[j]? := by
  obtain ⟨h1, h2, h3, rfl⟩ := rotLRange_eq_some_iff.1 h
  have hm := length_segment (a := a) h2
  rw [getElem?_splice h1 h2 (length_rotate.trans hm)]
  split
  · rename_i hj
    rw [getElem?_rotate (by omega), hm, getElem?_segment, getElem?_segment]
    by_cases h4 : j + n < b
    · rw [if_pos (by omega), if_pos (by omega), if_pos h4]; congr 1; omega
    · rw [if_neg (by omega), if_pos (by omega), if_pos (by omega), if_neg h4]; congr 1; omega
  · rfl

theorem rotRRange_getElem? {α} {l l' : List α} {a b n j : Nat}
    (h : rotRRange l a b n = some l') :
    l'[j]? = if a ≤ j ∧ j < b then (if a + n ≤ j then l[j - n]? else l[j + (b - a) - n]?) else l[j]? := by
  obtain ⟨hn, h'⟩ := rotRRange_toL h
  rw [rotLRange_getElem? h']
  split
  · rename_i hj
    by_cases h4 : a + n ≤ j
    · rw [if_neg (by omega), if_pos h4]; congr 1; omega
    · rw [if_pos (by omega), if_neg h4]; congr 1; omega
  · rfl

/-! ### rotate, then fill the vacated end: the segment is shifted -/

/-- `l[a..b].rotate_left(n); l[b-n..b].fill(x)`: the segment moves left by `n`, `x` fills the gap -/
theorem rotL_fill {α} {l : List α} {a b n : Nat} (x : α) (hab : a ≤ b) (hb : b ≤ l.length)
    (hn : n ≤ b - a) :
    ∃ l₁, rotLRange l a b n = some l₁ ∧ fillRange l₁ (b - n) b x
      = some (l.take a ++ (l.take b).drop (a + n) ++ List.replicate n x ++ l.drop b) := by
  have hm := length_segment (a := a) hb
  have ha : (l.take a).length = a := by rw [List.length_take]; omega
  have hn' : (((l.take b).drop a).take n).length = n := by rw [List.length_take, hm]; omega
  refine ⟨_, rotLRange_eq_some hab hb hn, ?_⟩
  rw [← List.append_assoc,
    fillRange_append x (by rw [List.length_append, ha, List.length_drop, hm]; omega) (by omega),
    List.drop_drop, hn']

/-- `l[a..b].rotate_right(n); l[a..a+n].fill(x)`: the segment moves right by `n` -/
theorem rotR_fill {α} {l : List α} {a b n : Nat} (x : α) (hab : a ≤ b) (hb : b ≤ l.length)
    (hn : n ≤ b - a) :
    ∃ l₁, rotRRange l a b n = some l₁ ∧ fillRange l₁ a (a + n) x
      = some (l.take a ++ List.replicate n x ++ (l.take (b - n)).drop a ++ l.drop b) := by
  have hm := length_segment (a := a) hb
  have ha : (l.take a).length = a := by rw [List.length_take]; omega
  have hn' : (((l.take b).drop a).drop (b - a - n)).length = n := by rw [List.length_drop, hm]; omega
  refine ⟨_, rotRRange_eq_some hab hb hn, ?_⟩
  rw [← List.append_assoc, List.append_assoc _ _ (l.drop b),
    fillRange_append x ha (by omega), hn', List.take_drop, List.take_take, Nat.min_eq_left (by omega),
    show a + (b - a - n) = b - n by omega, List.append_assoc _ _ (l.drop b)]

theorem getElem?_shiftL {α} {l m : List α} {a b n j : Nat} (hb : b ≤ l.length) (hn : a + n ≤ b)
    (hm : m.length = n) :
    (l.take a ++ (l.take b).drop (a + n) ++ m ++ l.drop b)[j]? =
      if a ≤ j ∧ j < b then (if j + n < b then l[j + n]? else m[j + n - b]?) else l[j]? := by
  have hs : ((l.take b).drop (a + n)).length = b - (a + n) := length_segment hb
  rw [List.append_assoc (l.take a), getElem?_splice (by omega) hb (by rw [List.length_append, hs, hm]; omega)]
  split
  · rename_i hj
    by_cases h : j + n < b
    · rw [List.getElem?_append_left (by omega), getElem?_segment, if_pos (by omega), if_pos h]
      congr 1; omega
    · rw [List.getElem?_append_right (by omega), hs, if_neg h]
      congr 1; omega
  · rfl

theorem getElem?_shiftR {α} {l m : List α} {a b n j : Nat} (hb : b ≤ l.length) (hn : a + n ≤ b)
    (hm : m.length = n) :
    (l.take a ++ m ++ (l.take (b - n)).drop a ++ l.drop b)[j]? =
      if a ≤ j ∧ j < b then (if j < a + n then m[j - a]? else l[j - n]?) else l[j]? := by
  have hs : ((l.take (b - n)).drop a).length = b - n - a := length_segment (by omega)
  rw [List.append_assoc (l.take a), getElem?_splice (by omega) hb (by rw [List.length_append, hs, hm]; omega)]
  split
  · rename_i hj
    by_cases h : j < a + n
    · rw [List.getElem?_append_left (by omega), if_pos h]
    · rw [List.getElem?_append_right (by omega), hm, getElem?_segment, if_pos (by omega), if_neg h]
      congr 1; omega
  · rfl

/-! ### entries put in below position `e`, then entries dropped at the top (`Buffer::scroll_up` from row 0) -/

/-- `k ≤ e` elements leave at the front after `R` was put below position `e`: what leaves and what stays -/
theorem take_drop_insert {α} (w R : List α) {k e : Nat} (hk : k ≤ e) (he : e ≤ w.length) :
    (w.take e ++ R ++ w.drop e).take k = w.take k
    ∧ (w.take e ++ R ++ w.drop e).drop k = (w.take e).drop k ++ R ++ w.drop e := by
  have hl : k ≤ (w.take e).length := by rw [List.length_take]; omega
  rw [List.append_assoc, List.take_append_of_le_length hl, List.drop_append_of_le_length hl,
    List.take_take, Nat.min_eq_left hk, List.append_assoc]
  exact ⟨rfl, rfl⟩

theorem length_drop_insert {α} (l : List α) (z : α) {e : Nat} (n : Nat) (he : e ≤ l.length) :
    (List.drop n (l.take e ++ List.replicate n z ++ l.drop e)).length = l.length := by
  rw [List.length_drop, List.length_append, List.length_append, List.length_take, List.length_replicate,
    List.length_drop, Nat.min_eq_left he]
  omega

theorem length_drop_append {α} (l : List α) (z : α) (n : Nat) :
    (List.drop n (l ++ List.replicate n z)).length = l.length := by
  rw [List.length_drop, List.length_append, List.length_replicate, Nat.add_sub_cancel]

theorem getElem?_drop_insert {α} (l : List α) (z : α) {e i : Nat} (n : Nat) (he : e ≤ l.length)
    (hi : e ≤ i) : (List.drop n (l.take e ++ List.replicate n z ++ l.drop e))[i]? = l[i]? := by
  have hl : (l.take e ++ List.replicate n z).length = e + n := by
    rw [List.length_append, List.length_take, List.length_replicate, Nat.min_eq_left he]
  rw [List.getElem?_drop, List.getElem?_append_right (by rw [hl]; omega), List.getElem?_drop, hl]
  congr 1
  omega

end Avt

namespace Avt.PrimL

theorem set_eq_take_drop {α} (l : List α) (i : Nat) (y : α) (h : i < l.length) :
    l.set i y = l.take i ++ [y] ++ l.drop (i + 1) := by
  rw [List.set_eq_take_append_cons_drop, if_pos h, List.append_assoc, List.singleton_append]

end Avt.PrimL
