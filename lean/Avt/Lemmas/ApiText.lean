/-
  Avt.Lemmas.ApiText — the texts a user of `feed_str` writes, and the function each makes the parser
  emit (composition of the C03 theorems; nothing here looks at the generated tables).
  `SeqText p xs of`: `xs` is one complete item as the parser in state `p` reads it — a whole CSI or ESC
  sequence from ANY state, a control or a printable character from Ground.  `CmdText`: the explicit
  spellings of the commands the properties name; numbers are ANY digit strings (empty, leading zeros),
  read as `val ds = decVal ds % 65536`.  `Api_seq` / `Api_spec`: items through `feed_str`.
-/
import Avt.Lemmas.ApiBridge
import Avt.Lemmas.C11StepsBase

namespace Avt.Api
open Avt Avt.Spec Avt.Spec.C03 Avt.Spec.C20 Avt.ParserSeq Avt.ParserSem

/-- the two CSI introducers: 7-bit `ESC [` and 8-bit `0x9B` -/
def IsCsi (intro : List Nat) : Prop := intro = [0x1B, 0x5B] ∨ intro = [0x9B]

/-- what the resting parser prints: `0x20..0x7F` (DEL included) and every code point from `0xA0` on -/
abbrev printable (c : Nat) : Bool := Lemmas.C11.printableCh c

/-- one complete item of input as the parser in state `p` reads it, and the function it emits -/
inductive SeqText (p : Parser) : List Nat → Option Function → Prop
  | csi {intro : List Nat} (hi : IsCsi intro) (t : CsiText) (ht : t.wf = true) :
      SeqText p (intro ++ t.body) t.fn
  | esc (t : EscText) (ht : t.wf = true) : SeqText p (0x1B :: t.body) t.fn
  | ctl (hg : p.state = .Ground) {c : Nat} {f : Function} (hc : (c, f) ∈ refExecTable) :
      SeqText p [c] (some f)
  | print (hg : p.state = .Ground) {c : Nat} (hc : printable c = true) : SeqText p [c] (some (.print c))

/-- **text ↦ function**: the parser emits exactly the item's function and is in Ground afterwards -/
theorem SeqText.run {p : Parser} {xs : List Nat} {of : Option Function} (hp : PInv p = true)
    (h : SeqText p xs of) :
    ∃ q, Spec.C03.run p xs = some (q, of.toList) ∧ q.state = .Ground ∧ PInv q = true := by
  cases h with
  | csi hi t ht => exact Props.C03.C03_csi_sequence hp _ hi t ht
  | esc t ht => exact Props.C03.C03_esc_sequence hp t ht
  | @ctl hg c f hc =>
    refine ⟨p, ?_, hg, hp⟩
    simp only [Spec.C03.run, feed_ground_ctl p hg hc, Option.toList, List.append_nil]
  | @print hg c hc =>
    refine ⟨p, ?_, hg, hp⟩
    simp only [Spec.C03.run, Lemmas.C11.feed_printableCh p hg hc, Option.toList, List.append_nil]

theorem run_printables (xs : List Nat) {p : Parser} (hg : p.state = .Ground)
    (h : ∀ c ∈ xs, printable c = true) : Spec.C03.run p xs = some (p, xs.map Function.print) :=
  Lemmas.print_dispatch (fun c hc => by simpa [Lemmas.C11.printableCh] using h c hc) p hg

/-- a digit string (possibly empty = parameter missing; leading zeros allowed) -/
def Digits (ds : List Nat) : Prop := ds.all (inR 0x30 0x39) = true

instance (ds : List Nat) : Decidable (Digits ds) := by unfold Digits; exact inferInstance

/-- the value the parser reads: decimal, modulo 65536 -/
def val (ds : List Nat) : Nat := decVal ds % 65536

/-- every value up to 65535 arrives exactly -/
theorem val_of_le {ds : List Nat} (h : decVal ds ≤ 65535) : val ds = decVal ds := by
  unfold val; omega

theorem val_nil : val [] = 0 := rfl

theorem parseParams_two {d1 d2 : List Nat} (h1 : Digits d1) (h2 : Digits d2) :
    parseParams (d1 ++ 0x3B :: d2) = [[val d1], [val d2]] := by
  unfold parseParams
  rw [List.foldl_append, List.foldl_cons, show d1.foldl stepW [[0]] = [[val d1]] from parseParams_digits d1 h1,
    ParserSem.stepW_semi]
  exact ParserSem.foldl_stepW_digits [[val d1]] [] d2 (fun d h => (inR_iff _ _ _).1 (List.all_eq_true.1 h2 d h)) 0

/-- a parameter string made of digits and `;` only -/
def ParamStr (ps : List Nat) : Prop := ps.all (fun c => inR 0x30 0x39 c || c == 0x3B) = true

theorem ParamStr_digits {ds : List Nat} (h : Digits ds) : ParamStr ds := by
  unfold ParamStr Digits at *
  rw [List.all_eq_true] at h ⊢
  intro c hc
  rw [h c hc]; rfl

theorem ParamStr_two {d1 d2 : List Nat} (h1 : Digits d1) (h2 : Digits d2) : ParamStr (d1 ++ 0x3B :: d2) := by
  have a := ParamStr_digits h1
  have b := ParamStr_digits h2
  unfold ParamStr at *
  rw [List.all_append, List.all_cons, a, b]; rfl

/-- a CSI text without intermediates -/
def csiNum (marker : Option Nat) (params : List Nat) (final : Nat) : CsiText := ⟨marker, params, [], final⟩

theorem csiNum_body (marker : Option Nat) (params : List Nat) (final : Nat) :
    (csiNum marker params final).body = marker.toList ++ params ++ [final] := by
  simp [csiNum, CsiText.body]

theorem csiNum_wf {marker : Option Nat} {params : List Nat} {final : Nat}
    (hm : marker = none ∨ marker = some 0x3F) (hp : ParamStr params) (hf : inR 0x40 0x7E final = true) :
    (csiNum marker params final).wf = true := by
  unfold ParamStr at hp
  rw [List.all_eq_true] at hp
  have h1 : params.all (inR 0x30 0x3B) = true := by
    rw [List.all_eq_true]
    intro c hc
    have := hp c hc
    simp only [Bool.or_eq_true, inR_iff, beq_iff_eq] at this
    rw [inR_iff]; omega
  have h2 : (params.head? != some 0x3A) = true := by
    cases params with
    | nil => rfl
    | cons c cs =>
      have := hp c (List.mem_cons_self ..)
      simp only [Bool.or_eq_true, inR_iff, beq_iff_eq] at this
      simp only [List.head?_cons, bne_iff_ne, ne_eq, Option.some.injEq]
      omega
  rcases hm with rfl | rfl <;>
    simp only [csiNum, CsiText.wf, h1, h2, hf, Bool.or_true, List.all_nil, Bool.and_self] <;> rfl

theorem csiNum_fn (marker : Option Nat) (params : List Nat) (final : Nat) :
    (csiNum marker params final).fn = refDispatchCsi marker final (parseParams params) := by
  cases marker <;> rfl

/-- `CSI n X`: the one-parameter commands (final character, function of the number read) -/
inductive Csi1 : Nat → (Nat → Function) → Prop
  | ich : Csi1 0x40 .ich | cuu : Csi1 0x41 .cuu | cud : Csi1 0x42 .cud | cuf : Csi1 0x43 .cuf
  | cub : Csi1 0x44 .cub | cnl : Csi1 0x45 .cnl | cpl : Csi1 0x46 .cpl | cha : Csi1 0x47 .cha
  | cht : Csi1 0x49 .cht | il : Csi1 0x4C .il | dl : Csi1 0x4D .dl | dch : Csi1 0x50 .dch
  | su : Csi1 0x53 .su | sd : Csi1 0x54 .sd | ech : Csi1 0x58 .ech | cbt : Csi1 0x5A .cbt
  | hpa : Csi1 0x60 .cha | hpr : Csi1 0x61 .cuf | rep : Csi1 0x62 .rep | vpa : Csi1 0x64 .vpa
  | vpr : Csi1 0x65 .vpr

/-- `CSI a ; b X`: CUP, HVP, DECSTBM -/
inductive Csi2 : Nat → (Nat → Nat → Function) → Prop
  | cup : Csi2 0x48 .cup | hvp : Csi2 0x66 .cup | decstbm : Csi2 0x72 .decstbm

/-- `CSI n X` where `n` selects from a table: ED, EL, TBC, CTC -/
inductive CsiSel : Nat → List (Nat × Function) → Prop
  | ed : CsiSel 0x4A refEd | el : CsiSel 0x4B refEl | tbc : CsiSel 0x67 refTbc | ctc : CsiSel 0x57 refCtc

/-- `ESC c` for the 7-bit forms of IND, NEL, HTS, RI -/
inductive EscFe : Nat → Function → Prop
  | ind : EscFe 0x44 .lf | nel : EscFe 0x45 .nel | hts : EscFe 0x48 .hts | ri : EscFe 0x4D .ri

/-- the command texts, spelled out, and the function each denotes -/
inductive CmdText (p : Parser) : List Nat → Function → Prop
  | csi1 {intro ds : List Nat} {final : Nat} {mk : Nat → Function} (hi : IsCsi intro)
      (hk : Csi1 final mk) (hd : Digits ds) : CmdText p (intro ++ ds ++ [final]) (mk (val ds))
  | csi2 {intro d1 d2 : List Nat} {final : Nat} {mk : Nat → Nat → Function} (hi : IsCsi intro)
      (hk : Csi2 final mk) (h1 : Digits d1) (h2 : Digits d2) :
      CmdText p (intro ++ (d1 ++ 0x3B :: d2) ++ [final]) (mk (val d1) (val d2))
  | csi2short {intro d1 : List Nat} {final : Nat} {mk : Nat → Nat → Function} (hi : IsCsi intro)
      (hk : Csi2 final mk) (h1 : Digits d1) : CmdText p (intro ++ d1 ++ [final]) (mk (val d1) 0)
  | sel {intro ds : List Nat} {final : Nat} {tbl : List (Nat × Function)} {f : Function}
      (hi : IsCsi intro) (hk : CsiSel final tbl) (hd : Digits ds) (hl : tbl.lookup (val ds) = some f) :
      CmdText p (intro ++ ds ++ [final]) f
  | decset {intro ds : List Nat} {m : DecMode} (hi : IsCsi intro) (hd : Digits ds)
      (hm : refDecMode (val ds) = some m) : CmdText p (intro ++ (0x3F :: ds) ++ [0x68]) (.decset [m])
  | decrst {intro ds : List Nat} {m : DecMode} (hi : IsCsi intro) (hd : Digits ds)
      (hm : refDecMode (val ds) = some m) : CmdText p (intro ++ (0x3F :: ds) ++ [0x6C]) (.decrst [m])
  | scosc {intro : List Nat} (hi : IsCsi intro) : CmdText p (intro ++ [0x73]) .scosc
  | scorc {intro : List Nat} (hi : IsCsi intro) : CmdText p (intro ++ [0x75]) .scorc
  | decstr {intro : List Nat} (hi : IsCsi intro) : CmdText p (intro ++ [0x21, 0x70]) .decstr
  | decsc : CmdText p [0x1B, 0x37] .decsc
  | decrc : CmdText p [0x1B, 0x38] .decrc
  | decaln : CmdText p [0x1B, 0x23, 0x38] .decaln
  | escFe {c : Nat} {f : Function} (hk : EscFe c f) : CmdText p [0x1B, c] f
  | ctl (hg : p.state = .Ground) {c : Nat} {f : Function} (hc : (c, f) ∈ refExecTable) : CmdText p [c] f

theorem Csi1.final_ok {final : Nat} {mk : Nat → Function} (h : Csi1 final mk) : inR 0x40 0x7E final = true := by
  cases h <;> decide

theorem Csi1.fn {final : Nat} {mk : Nat → Function} (h : Csi1 final mk) (v : Nat) :
    refDispatchCsi none final [[v]] = some (mk v) := by
  cases h <;> rfl

theorem Csi2.final_ok {final : Nat} {mk : Nat → Nat → Function} (h : Csi2 final mk) :
    inR 0x40 0x7E final = true := by
  cases h <;> decide

theorem Csi2.fn {final : Nat} {mk : Nat → Nat → Function} (h : Csi2 final mk) (a b : Nat) :
    refDispatchCsi none final [[a], [b]] = some (mk a b) ∧ refDispatchCsi none final [[a]] = some (mk a 0) := by
  cases h <;> exact ⟨rfl, rfl⟩

theorem CsiSel.final_ok {final : Nat} {tbl : List (Nat × Function)} (h : CsiSel final tbl) :
    inR 0x40 0x7E final = true := by
  cases h <;> decide

theorem CsiSel.fn {final : Nat} {tbl : List (Nat × Function)} (h : CsiSel final tbl) (v : Nat) :
    refDispatchCsi none final [[v]] = tbl.lookup v := by
  cases h <;> rfl

/-- a CSI text without intermediates whose parameter string is read as `ps` selects what the
    dispatcher returns for `ps` -/
theorem csiNum_seq {p : Parser} {intro params : List Nat} {marker : Option Nat} {final : Nat}
    {ps : List (List Nat)} {f : Function} (hi : IsCsi intro)
    (hm : marker = none ∨ marker = some 0x3F) (hp : ParamStr params) (hf : inR 0x40 0x7E final = true)
    (hps : parseParams params = ps) (hd : refDispatchCsi marker final ps = some f) :
    SeqText p (intro ++ (marker.toList ++ params) ++ [final]) (some f) := by
  have h := SeqText.csi (p := p) hi (csiNum marker params final) (csiNum_wf hm hp hf)
  rw [csiNum_body, csiNum_fn, hps, hd] at h
  rw [List.append_assoc]
  exact h

theorem decMode_one {v : Nat} {m : DecMode} (hm : refDecMode v = some m) :
    [[v]].filterMap (fun q => refDecMode (q.headD 0)) = [m] := by
  simp only [List.filterMap_cons, List.headD_cons, hm, List.filterMap_nil]

theorem CmdText.seq {p : Parser} {xs : List Nat} {f : Function} (h : CmdText p xs f) :
    SeqText p xs (some f) := by
  cases h with
  | csi1 hi hk hd =>
    exact csiNum_seq hi (.inl rfl) (ParamStr_digits hd) hk.final_ok (parseParams_digits _ hd) (hk.fn _)
  | csi2 hi hk h1 h2 =>
    exact csiNum_seq hi (.inl rfl) (ParamStr_two h1 h2) hk.final_ok (parseParams_two h1 h2) (hk.fn _ _).1
  | csi2short hi hk h1 =>
    exact csiNum_seq hi (.inl rfl) (ParamStr_digits h1) hk.final_ok (parseParams_digits _ h1) (hk.fn _ 0).2
  | sel hi hk hd hl =>
    exact csiNum_seq hi (.inl rfl) (ParamStr_digits hd) hk.final_ok (parseParams_digits _ hd)
      ((hk.fn _).trans hl)
  | decset hi hd hm =>
    exact csiNum_seq hi (.inr rfl) (ParamStr_digits hd) (by decide) (parseParams_digits _ hd)
      (congrArg (some ∘ Function.decset) (decMode_one hm))
  | decrst hi hd hm =>
    exact csiNum_seq hi (.inr rfl) (ParamStr_digits hd) (by decide) (parseParams_digits _ hd)
      (congrArg (some ∘ Function.decrst) (decMode_one hm))
  | scosc hi => exact SeqText.csi hi ⟨none, [], [], 0x73⟩ (by decide)
  | scorc hi => exact SeqText.csi hi ⟨none, [], [], 0x75⟩ (by decide)
  | decstr hi => exact SeqText.csi hi ⟨none, [], [0x21], 0x70⟩ (by decide)
  | decsc => exact SeqText.esc ⟨[], 0x37⟩ (by decide)
  | decrc => exact SeqText.esc ⟨[], 0x38⟩ (by decide)
  | decaln => exact SeqText.esc ⟨[0x23], 0x38⟩ (by decide)
  | escFe hk =>
    cases hk
    · exact SeqText.esc ⟨[], 0x44⟩ (by decide)
    · exact SeqText.esc ⟨[], 0x45⟩ (by decide)
    · exact SeqText.esc ⟨[], 0x48⟩ (by decide)
    · exact SeqText.esc ⟨[], 0x4D⟩ (by decide)
  | ctl hg hc => exact SeqText.ctl hg hc

/-- **text ↦ function ↦ terminal.**  From every reachable state, feeding one complete item that
    selects function `f`: `f` executes without panic into a state `t1`, `feed_str` returns what `Fed`
    says of `t1`, and the parser is in Ground. -/
theorem Api_seq {v : Vt} (hR : Reach v) {xs : List Nat} {f : Function}
    (hx : SeqText v.parser xs (some f)) :
    ∃ v' ch t1, v.terminal.execute f = some t1 ∧ v'.parser.state = .Ground ∧ Fed v xs t1 v' ch := by
  obtain ⟨hp, ht⟩ := reach_parts hR
  obtain ⟨q, hr, hq, _⟩ := hx.run hp
  obtain ⟨t1, h1, _⟩ := Props.Closed.C02_execute f ht
  obtain ⟨v', ch, e, F⟩ := Api_single hR hr h1
  exact ⟨v', ch, t1, h1, e ▸ hq, F⟩

/-- **text ↦ function ↦ specification.**  The same for a function that a sound specification `S`
    covers in the state it is executed in: the terminal is `S` run through `changes()` + `gc()`;
    `view()`, `cursor()` and the changed lines are those of `S`.  The step-level properties at the API
    are this theorem at their own `(cov, S)`. -/
theorem Api_spec {cov : Terminal → Function → Bool} {S : Terminal → Function → Terminal}
    (hS : SpecFor cov S) {v : Vt} (hR : Reach v) {xs : List Nat} {f : Function}
    (hx : SeqText v.parser xs (some f)) (hc : cov v.terminal f = true) :
    ∃ v' ch, v'.parser.state = .Ground ∧ Fed v xs (S v.terminal f) v' ch := by
  obtain ⟨v', ch, t1, h, hg, F⟩ := Api_seq hR hx
  cases h.symm.trans (hS _ _ (reach_parts hR).2 hc)
  exact ⟨v', ch, hg, F⟩

theorem Api_seq_none {v : Vt} (hR : Reach v) {xs : List Nat} (hx : SeqText v.parser xs none) :
    ∃ v' ch, v'.parser.state = .Ground ∧ Fed v xs v.terminal v' ch := by
  obtain ⟨q, hr, hq, _⟩ := hx.run (reach_parts hR).1
  obtain ⟨v', ch, t', h, e, F⟩ := Api_bridge_run hR hr
  cases (show some v.terminal = some t' from h)
  exact ⟨v', ch, e ▸ hq, F⟩

/-- an input that is a concatenation of complete items, and the functions it makes the parser emit;
    every item after the first is read from Ground (whatever the registers hold) -/
inductive Texts : Parser → List Nat → List Function → Prop
  | nil (p : Parser) : Texts p [] []
  | cons {p : Parser} {xs ys : List Nat} {of : Option Function} {fs : List Function}
      (h : SeqText p xs of) (hrest : ∀ q : Parser, q.state = .Ground → Texts q ys fs) :
      Texts p (xs ++ ys) (of.toList ++ fs)

theorem Texts.run {p : Parser} {xs : List Nat} {fs : List Function} (hp : PInv p = true)
    (h : Texts p xs fs) : ∃ q, Spec.C03.run p xs = some (q, fs) ∧ PInv q = true := by
  induction h with
  | nil p => exact ⟨p, rfl, hp⟩
  | @cons p xs ys of fs h _ ih =>
    obtain ⟨q, h1, h2, h3⟩ := h.run hp
    obtain ⟨r, h4, h5⟩ := ih q h2 h3
    exact ⟨r, Run.run_append_of h1 h4, h5⟩

theorem Texts.emits {p : Parser} {xs : List Nat} {fs : List Function} (hp : PInv p = true)
    (h : Texts p xs fs) : emits p xs fs := by
  obtain ⟨q, h1, _⟩ := h.run hp
  exact emits_of_run h1

end Avt.Api
