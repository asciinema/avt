/-
  Avt.Lemmas.C11BufferText — `Buffer.dump`, the text of one row (`feeds_row`): feeding it does what the
  idealised typist `typeCells` does (print every cell's character with that cell's pen), in the modes
  `DMode` in force while the buffer part of `dump()` is replayed.  The run-length encoder
  (`rep_encode_cell_text`) types exactly the characters it encodes because REP re-prints the character
  left of the cursor, which is the one just printed (`feeds_repGo`); an SGR in front of a chunk sets
  exactly that chunk's pen (`feeds_dumpChunks`, over the runs of `chunks_spec`, DumpCut).
-/
import Avt.Lemmas.C11StepsBase
import Avt.Lemmas.DumpCut

namespace Avt
namespace Lemmas.C11
open Avt.Spec.C11 Avt.Spec.C04 Avt.C04L

structure DMode (t : Terminal) : Prop where
  top : t.topMargin = 0
  bottom : t.bottomMargin + 1 = t.rows
  autoWrap : t.autoWrapMode = true
  replace : t.insertMode = false
  charset : t.activeCharset = 0 ∧ t.charsets.1 = .ascii

theorem glyph_ascii {t : Terminal} (h : t.activeCharset = 0 ∧ t.charsets.1 = .ascii) (ch : Nat) :
    glyph t ch = ch := by
  simp [Spec.C04.glyph, activeSet, h.1, h.2, translateRef]

theorem DMode.glyph {t : Terminal} (h : DMode t) (ch : Nat) : glyph t ch = ch := glyph_ascii h.charset ch

theorem DMode.printSpec {t : Terminal} (h : DMode t) (ch : Nat) : DMode (printSpec t ch) := by
  have m := Props.C04.C04_print_modes t ch
  simp only at m
  -- the conjuncts of `C04_print_modes` by position: 2 `rows`, 7 `charsets`, 8 `activeCharset`, 10 `insertMode`,
  -- 12 `autoWrapMode`, 15 `topMargin`, 16 `bottomMargin`
  obtain ⟨_, m2, _, _, _, _, m7, m8, _, m10, _, m12, _, _, m15, m16, _⟩ := m
  exact ⟨by rw [m15, h.top], by rw [m16, m2, h.bottom], by rw [m12, h.autoWrap], by rw [m10, h.replace],
    by rw [m8, m7]; exact h.charset⟩

theorem DMode.withPen {t : Terminal} (h : DMode t) (p : Pen) : DMode { t with pen := p } :=
  ⟨h.top, h.bottom, h.autoWrap, h.replace, h.charset⟩

theorem TInv_withPen {t : Terminal} (h : TInv t = true) (p : Pen) : TInv { t with pen := p } = true := h

theorem printSpec_pen (t : Terminal) (ch : Nat) : (printSpec t ch).pen = t.pen :=
  (Props.C04.C04_print_modes t ch).2.2.2.2.2.1

theorem putStep_col (u : Terminal) (g : Nat) (ha : u.autoWrapMode = true) :
    (putStep u g).cursor.col = if u.cursor.col + 1 ≥ u.cols then u.cols else u.cursor.col + 1 := by
  unfold putStep
  simp only [ha, if_true]
  split <;> rfl

theorem wrapStep_autoWrap (t : Terminal) : (wrapStep t).autoWrapMode = t.autoWrapMode := by
  obtain ⟨_, _, _, _, h, -⟩ := wrapStep_shape t
  rw [h]

/-- after a print (auto-wrap on) the cursor is right of the printed cell -/
theorem charLeft_printSpec {t : Terminal} (h : TInv t = true) (hm : DMode t) (ch : Nat) :
    charLeftOfCursor (printSpec t ch) = ch ∧ (printSpec t ch).cursor.col ≠ 0 := by
  obtain ⟨l, h1, h2⟩ := Props.C04.C04_cell_pen t ch h
  have p := TOK.of_TInv h
  have hcol : (printSpec t ch).cursor.col = Props.C04.printedCol t + 1 := by
    unfold Props.C04.printedCol Spec.C04.printSpec
    by_cases hw : (t.autoWrapMode && t.pendingWrap) = true
    · have c0 := (wrapStep_col t).1
      have c1 := (wrapStep_col t).2
      rw [if_pos hw, if_pos hw, putStep_col _ _ (by rw [wrapStep_autoWrap]; exact hm.autoWrap), c0, c1]
      have := p.c1
      split <;> omega
    · rw [if_neg hw, if_neg hw, putStep_col _ _ hm.autoWrap]
      have hpw : t.pendingWrap = false := by simpa [hm.autoWrap] using hw
      have hc : t.cursor.col < t.cols := by
        rcases p.ccol with ⟨h1, _⟩ | ⟨_, h2⟩
        · rw [hpw] at h1; cases h1
        · exact h2
      split <;> omega
  refine ⟨?_, by omega⟩
  unfold charLeftOfCursor
  rw [h1, hcol]
  simp only [Nat.add_sub_cancel, h2, hm.glyph]

/-- type the characters one after the other, as `Print` does -/
def typeChars (cs : List Nat) (t : Terminal) : Terminal := cs.foldl printSpec t

theorem typeChars_append (a b : List Nat) (t : Terminal) :
    typeChars (a ++ b) t = typeChars b (typeChars a t) := by simp [typeChars, List.foldl_append]

theorem typeChars_TInv : ∀ (cs : List Nat) (t : Terminal), TInv t = true → TInv (typeChars cs t) = true
  | [], _, h => h
  | c :: cs, t, h => typeChars_TInv cs _ (Props.C04.C04_print_TInv t c h)

theorem typeChars_DMode : ∀ (cs : List Nat) (t : Terminal), DMode t → DMode (typeChars cs t)
  | [], _, h => h
  | c :: cs, _, h => typeChars_DMode cs _ (h.printSpec c)

theorem typeChars_pen : ∀ (cs : List Nat) (t : Terminal), (typeChars cs t).pen = t.pen
  | [], _ => rfl
  | c :: cs, t => by
    show (typeChars cs (printSpec t c)).pen = t.pen
    rw [typeChars_pen cs, printSpec_pen]

theorem printTimes_eq_typeChars (ch : Nat) : ∀ (k : Nat) (t : Terminal),
    printTimes ch k t = typeChars (List.replicate k ch) t
  | 0, _ => rfl
  | k + 1, t => by
    simp only [printTimes, List.replicate_succ]
    exact printTimes_eq_typeChars ch k _

theorem feeds_typeChars : ∀ (cs : List Nat) (t : Terminal), (∀ c ∈ cs, printableCh c = true) →
    TInv t = true → Feeds cs t (typeChars cs t)
  | [], t, _, _ => Feeds.nil t
  | c :: cs, t, hc, h => by
    have h1 := feeds_print (hc c (List.mem_cons_self ..)) t h
    have h2 := feeds_typeChars cs (printSpec t c) (fun x hx => hc x (List.mem_cons_of_mem _ hx))
      (Props.C04.C04_print_TInv t c h)
    exact Feeds.append h1 h2

theorem feeds_repFlush (prev count : Nat) (hp : printableCh prev = true) (h1 : 1 ≤ count) (h2 : count ≤ 65536)
    (t : Terminal) (h : TInv t = true) (hm : DMode t) :
    Feeds (Buffer.repFlush prev count) t (typeChars (List.replicate count prev) t) := by
  unfold Buffer.repFlush
  split
  · -- prev, then REP (count - 1)
    have f1 := feeds_print hp t h
    have ht1 := Props.C04.C04_print_TInv t prev h
    obtain ⟨hcl, hcol⟩ := charLeft_printSpec h hm prev
    -- `h2`: the text carries `count - 1` as a CSI parameter, and `Param::add_digit` keeps a parameter `as u16`
    have f2 := feeds_rep (count - 1) (by omega) (printSpec t prev) ht1
    have e : repSpec (printSpec t prev) (count - 1) = typeChars (List.replicate count prev) t := by
      simp only [repSpec, if_neg hcol, hcl]
      have : max (count - 1) 1 = count - 1 := by omega
      rw [this, printTimes_eq_typeChars]
      obtain ⟨k, rfl⟩ : ∃ k, count = k + 1 := ⟨count - 1, by omega⟩
      simp [List.replicate_succ, typeChars]
    rw [e] at f2
    exact Feeds.cast (Feeds.append f1 f2) (by simp)
  · exact feeds_typeChars _ t (fun c hc => by rw [(List.mem_replicate.1 hc).2]; exact hp) h

theorem feeds_repGo : ∀ (cs : List Nat) (prev count : Nat) (t : Terminal),
    printableCh prev = true → (∀ c ∈ cs, printableCh c = true) → 1 ≤ count → count + cs.length ≤ 65536 →
    TInv t = true → DMode t →
    Feeds (Buffer.repGo cs prev count) t (typeChars (List.replicate count prev ++ cs) t)
  | [], prev, count, t, hp, _, h1, h2, h, hm => by
    simp only [Buffer.repGo, List.append_nil]
    exact feeds_repFlush prev count hp h1 (by simpa using h2) t h hm
  | c :: cs, prev, count, t, hp, hcs, h1, h2, h, hm => by
    simp only [Buffer.repGo]
    have hc := hcs c (List.mem_cons_self ..)
    have hcs' : ∀ x ∈ cs, printableCh x = true := fun x hx => hcs x (List.mem_cons_of_mem _ hx)
    simp only [List.length_cons] at h2
    split
    · rename_i heq
      subst heq
      have := feeds_repGo cs c (count + 1) t hp hcs' (by omega) (by omega) h hm
      have e : List.replicate (count + 1) c ++ cs = List.replicate count c ++ c :: cs := by
        rw [List.replicate_succ', List.append_assoc]; rfl
      rwa [e] at this
    · have f1 := feeds_repFlush prev count hp h1 (by omega) t h hm
      have f2 := feeds_repGo cs c 1 (typeChars (List.replicate count prev) t) hc hcs' (by omega) (by omega)
        (typeChars_TInv _ t h) (typeChars_DMode _ t hm)
      rw [typeChars_append]
      exact Feeds.append f1 f2

/-- the idealised typist: print the cell's character with the cell's pen -/
def typeCell (t : Terminal) (c : Cell) : Terminal := printSpec { t with pen := c.pen } c.ch

def typeCells (cs : List Cell) (t : Terminal) : Terminal := cs.foldl typeCell t

theorem typeCells_append (a b : List Cell) (t : Terminal) :
    typeCells (a ++ b) t = typeCells b (typeCells a t) := by simp [typeCells, List.foldl_append]

theorem typeCell_TInv {t : Terminal} (h : TInv t = true) (c : Cell) : TInv (typeCell t c) = true :=
  Props.C04.C04_print_TInv _ _ (TInv_withPen h c.pen)

theorem typeCell_DMode {t : Terminal} (h : DMode t) (c : Cell) : DMode (typeCell t c) :=
  (h.withPen c.pen).printSpec c.ch

theorem typeCells_TInv : ∀ (cs : List Cell) (t : Terminal), TInv t = true → TInv (typeCells cs t) = true
  | [], _, h => h
  | c :: cs, _, h => typeCells_TInv cs _ (typeCell_TInv h c)

theorem typeCells_DMode : ∀ (cs : List Cell) (t : Terminal), DMode t → DMode (typeCells cs t)
  | [], _, h => h
  | c :: cs, _, h => typeCells_DMode cs _ (typeCell_DMode h c)

/-- cells of one pen, typed with that pen already set: only the characters matter -/
theorem typeCells_uniform : ∀ (cs : List Cell) (t : Terminal), (∀ c ∈ cs, c.pen = t.pen) →
    typeCells cs t = typeChars (cs.map Cell.ch) t
  | [], _, _ => rfl
  | c :: cs, t, hu => by
    have hc : c.pen = t.pen := hu c (List.mem_cons_self ..)
    have e : typeCell t c = printSpec t c.ch := by
      unfold typeCell; rw [hc]
    show typeCells cs (typeCell t c) = typeChars (cs.map Cell.ch) (printSpec t c.ch)
    rw [e]
    exact typeCells_uniform cs _ (fun x hx => by rw [printSpec_pen]; exact hu x (List.mem_cons_of_mem _ hx))

theorem typeCells_pen : ∀ (cs : List Cell) (t : Terminal) (p : Pen), (∀ x ∈ cs, x.pen = p) → t.pen = p →
    (typeCells cs t).pen = p
  | [], _, _, _, h => h
  | c :: cs, t, p, hu, _ =>
    typeCells_pen cs (typeCell t c) p (fun x hx => hu x (List.mem_cons_of_mem _ hx))
      (by show (printSpec _ c.ch).pen = p; rw [printSpec_pen]; exact hu c (List.mem_cons_self ..))

/-- one chunk (cells of one pen): optional SGR, then the run-length encoded characters -/
theorem feeds_chunk (c : Cell) (cs : List Cell) (pen : Pen) (t : Terminal)
    (hu : ∀ x ∈ cs, x.pen = c.pen) (hok : ∀ x ∈ c :: cs, CellOK x) (hlen : (c :: cs).length ≤ 65536)
    (h : TInv t = true) (hm : DMode t) (hpen : t.pen = pen) :
    ∃ d txt, (if c.pen ≠ pen then (c.pen.dump).map fun d => (d, c.pen) else some ([], pen)) = some (d, c.pen)
      ∧ Buffer.repEncode (c :: cs) = some txt
      ∧ Feeds (d ++ txt) t (typeCells (c :: cs) t) := by
  have hcok := hok c (List.mem_cons_self ..)
  obtain ⟨d, hd, fd⟩ : ∃ d, (if c.pen ≠ pen then (c.pen.dump).map fun d => (d, c.pen) else some ([], pen))
      = some (d, c.pen) ∧ Feeds d t { t with pen := c.pen } := by
    by_cases hne : c.pen ≠ pen
    · obtain ⟨d, hd, f⟩ := feeds_pen c.pen hcok.2
      exact ⟨d, by simp [hne, hd], f t⟩
    · have he : c.pen = pen := by simpa using hne
      refine ⟨[], by simp [he], ?_⟩
      have : ({ t with pen := c.pen } : Terminal) = t := by rw [he, ← hpen]
      rw [this]; exact Feeds.nil t
  refine ⟨d, _, hd, rfl, Feeds.append fd ?_⟩
  have hu' : ∀ x ∈ c :: cs, x.pen = ({ t with pen := c.pen } : Terminal).pen := by
    intro x hx
    rcases List.mem_cons.1 hx with rfl | hx
    · rfl
    · exact hu x hx
  have e : typeCells (c :: cs) t = typeCells (c :: cs) { t with pen := c.pen } := rfl
  rw [e, typeCells_uniform _ _ hu']
  have := feeds_repGo (cs.map Cell.ch) c.ch 1 { t with pen := c.pen } hcok.1
    (fun x hx => by
      obtain ⟨y, hy, rfl⟩ := List.mem_map.1 hx
      exact (hok y (List.mem_cons_of_mem _ hy)).1)
    (by omega) (by simpa [Nat.add_comm] using hlen) (TInv_withPen h _) (hm.withPen _)
  simpa using this

theorem feeds_dumpChunks : ∀ (chunks : List (List Cell)) (pen : Pen) (t : Terminal),
    (∀ ch ∈ chunks, ∃ c cs, ch = c :: cs ∧ ∀ x ∈ cs, x.pen = c.pen) →
    (∀ ch ∈ chunks, ∀ x ∈ ch, CellOK x) → (∀ ch ∈ chunks, ch.length ≤ 65536) →
    TInv t = true → DMode t → t.pen = pen →
    ∃ s pen', Buffer.dumpChunks chunks pen = some (s, pen') ∧ Feeds s t (typeCells chunks.flatten t)
      ∧ (typeCells chunks.flatten t).pen = pen'
  | [], pen, t, _, _, _, _, _, hpen => ⟨[], pen, rfl, Feeds.nil t, hpen⟩
  | ch :: rest, pen, t, hsh, hok, hlen, h, hm, hpen => by
    obtain ⟨c, cs, rfl, hu⟩ := hsh ch (List.mem_cons_self ..)
    obtain ⟨d, txt, hd, htxt, f1⟩ := feeds_chunk c cs pen t hu (hok _ (List.mem_cons_self ..))
      (hlen _ (List.mem_cons_self ..)) h hm hpen
    have hpen1 : (typeCells (c :: cs) t).pen = c.pen :=
      typeCells_pen cs (typeCell t c) c.pen hu (printSpec_pen _ _)
    obtain ⟨more, pen'', hmore, f2, hp2⟩ := feeds_dumpChunks rest c.pen (typeCells (c :: cs) t)
      (fun x hx => hsh x (List.mem_cons_of_mem _ hx)) (fun x hx => hok x (List.mem_cons_of_mem _ hx))
      (fun x hx => hlen x (List.mem_cons_of_mem _ hx)) (typeCells_TInv _ t h) (typeCells_DMode _ t hm) hpen1
    refine ⟨d ++ txt ++ more, pen'', ?_, ?_, ?_⟩
    · simp only [Buffer.dumpChunks, hd, htxt, hmore]
    · rw [List.flatten_cons, typeCells_append]
      exact Feeds.append f1 f2
    · rw [List.flatten_cons, typeCells_append]
      exact hp2

/-- the text `Buffer::dump` writes for a row types the cells of that row -/
theorem feeds_row (l : Line) (pen : Pen) (t : Terminal) (hok : ∀ x ∈ l.cells, CellOK x)
    (hlen : l.cells.length ≤ 65536) (h : TInv t = true) (hm : DMode t) (hpen : t.pen = pen) :
    ∃ s pen', Buffer.dumpChunks (l.chunks fun c1 c2 => c1.pen ≠ c2.pen) pen = some (s, pen')
      ∧ Feeds s t (typeCells l.cells t) ∧ (typeCells l.cells t).pen = pen' := by
  obtain ⟨h1, h2⟩ := chunks_spec l
  have := feeds_dumpChunks (l.chunks penPred) pen t h1
    (fun ch hch x hx => hok x (by rw [← h2]; exact List.mem_flatten.2 ⟨ch, hch, hx⟩))
    (fun ch hch => by have := (List.sublist_flatten_of_mem hch).length_le; rw [h2] at this; omega) h hm hpen
  rw [h2] at this
  exact this

end Lemmas.C11
end Avt
