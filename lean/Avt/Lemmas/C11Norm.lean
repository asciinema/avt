/-
  Avt.Lemmas.C11Norm — soundness of the normal form `normD` for the functions that neither read nor
  write a buffer: `normT` commutes with their execution, hence terminals with equal normal forms
  stay so.  The `changes()` / `gc()` tail of a call does not show in `normT` at all (`normT_finish`).
-/
import Avt.Spec.C11
import Avt.Spec.C16
import Avt.Lemmas.FoldM
import Avt.Lemmas.BufferGc
import Avt.Lemmas.Dirty
import Avt.Lemmas.PowerOn

namespace Avt
namespace Lemmas.C11
open Avt.Spec.C11 Avt.Terminal

theorem normB_gc (b : Buffer) : normB b.gc.1 = normB b := by
  rw [Frame.gc_spec]; rfl

theorem normT_finish (v : Vt) : normT (Vt.finish v).1.terminal = normT v.terminal := by
  have hd : Dirty.clear (Dirty.clear v.terminal.dirtyLines) = Dirty.clear v.terminal.dirtyLines :=
    Dirty.clear_congr (Dirty.clear_length _)
  rw [Vt.finish_eq, Spec.finishT_eq]
  simp only [normT, hd, normB_gc]

def Commutes (g : Terminal → Option Terminal) : Prop :=
  ∀ t, g (normT t) = (g t).map normT

theorem Commutes.sound {g : Terminal → Option Terminal} (h : Commutes g) (s t : Terminal)
    (e : normT s = normT t) : (g s).map normT = (g t).map normT := by
  rw [← h s, ← h t, e]

theorem commutes_pure (g : Terminal → Terminal) (h : ∀ t, g (normT t) = normT (g t)) :
    Commutes (fun t => some (g t)) := by
  intro t; simp [h]

theorem Commutes.bind {g k : Terminal → Option Terminal} (hg : Commutes g) (hk : Commutes k) :
    Commutes (fun t => (g t).bind k) := by
  intro t
  simp only [hg t]
  cases g t with
  | none => rfl
  | some t' => simp [hk t']

theorem c_doMoveCursorToCol (c : Nat) (t : Terminal) :
    (normT t).doMoveCursorToCol c = normT (t.doMoveCursorToCol c) := rfl

theorem c_moveCursorToCol (c : Nat) : Commutes (fun t => t.moveCursorToCol c) := by
  intro t
  simp only [moveCursorToCol]
  -- `normT t` is a record update: the left side tests `(normT t).cols`, the right `t.cols`, equal only by
  -- unfolding.  The `show` restates the left side over `t`, so that `split` / `cases` act on both sides at
  -- once.  Every lemma below that branches on a field or on a `csub` opens this way.
  show (if c ≥ t.cols then _ else _) = _
  split
  · show Option.map _ (csub t.cols 1) = _
    cases csub t.cols 1 <;> rfl
  · rfl

theorem c_doMoveCursorToRow (r : Nat) : Commutes (fun t => t.doMoveCursorToRow r) := by
  intro t
  simp only [doMoveCursorToRow]
  show Option.map _ (csub t.cols 1) = _
  cases csub t.cols 1 <;> rfl

theorem c_moveCursorToRow (r : Nat) : Commutes (fun t => t.moveCursorToRow r) := by
  intro t
  simp only [moveCursorToRow]
  show (match t.actualBottomMargin with
    | none => none
    | some b => (normT t).doMoveCursorToRow (min (max (t.actualTopMargin + r) t.actualTopMargin) b)) = _
  cases t.actualBottomMargin with
  | none => rfl
  | some b => exact c_doMoveCursorToRow _ t

theorem c_moveCursorToRelCol (rel : Int) : Commutes (fun t => t.moveCursorToRelCol rel) := by
  intro t
  simp only [moveCursorToRelCol]
  show (if (t.cursor.col : Int) + rel < 0 then _ else if ((t.cursor.col : Int) + rel).toNat ≥ t.cols then _ else _) = _
  split
  · rfl
  · split
    · show Option.map _ (csub t.cols 1) = _
      cases csub t.cols 1 <;> rfl
    · rfl

theorem c_moveCursorHome : Commutes (fun t => t.moveCursorHome) := by
  intro t
  simp only [moveCursorHome]
  exact c_doMoveCursorToRow _ (t.doMoveCursorToCol 0)

theorem c_moveCursorToNextTab (n : Nat) : Commutes (fun t => t.moveCursorToNextTab n) := by
  intro t
  simp only [moveCursorToNextTab]
  show (match Tabs.after t.tabs t.cursor.col n, csub t.cols 1 with
    | some r, some c1 => (normT t).moveCursorToCol (r.getD c1)
    | _, _ => none) = _
  cases Tabs.after t.tabs t.cursor.col n with
  | none => rfl
  | some r =>
    cases csub t.cols 1 with
    | none => rfl
    | some c1 => exact c_moveCursorToCol _ t

theorem c_moveCursorToPrevTab (n : Nat) : Commutes (fun t => t.moveCursorToPrevTab n) := by
  intro t
  simp only [moveCursorToPrevTab]
  show (match Tabs.before t.tabs t.cursor.col n with
    | some r => (normT t).moveCursorToCol (r.getD 0)
    | none => none) = _
  cases Tabs.before t.tabs t.cursor.col n with
  | none => rfl
  | some r => exact c_moveCursorToCol _ t

theorem c_cursorDown (n : Nat) : Commutes (fun t => t.cursorDown n) := by
  intro t
  simp only [cursorDown]
  show (if t.cursor.row > t.bottomMargin then
      match csub t.rows 1 with
      | none => none
      | some r1 => (normT t).doMoveCursorToRow (min r1 (t.cursor.row + n))
    else (normT t).doMoveCursorToRow (min t.bottomMargin (t.cursor.row + n))) = _
  split
  · cases csub t.rows 1 with
    | none => rfl
    | some r1 => exact c_doMoveCursorToRow _ t
  · exact c_doMoveCursorToRow _ t

theorem c_cursorUp (n : Nat) : Commutes (fun t => t.cursorUp n) := by
  intro t
  simp only [cursorUp]
  exact c_doMoveCursorToRow _ t

theorem c_saveCursor : Commutes (fun t => t.saveCursor) := by
  intro t
  simp only [saveCursor]
  show Option.map _ (csub t.cols 1) = _
  cases csub t.cols 1 <;> rfl

theorem c_restoreCursor (t : Terminal) : (normT t).restoreCursor = normT t.restoreCursor := rfl
theorem c_setTab (t : Terminal) : (normT t).setTab = normT t.setTab := by
  simp only [setTab]
  show (if 0 < t.cursor.col ∧ t.cursor.col < t.cols then _ else _) = _
  split <;> rfl
theorem c_clearTab (t : Terminal) : (normT t).clearTab = normT t.clearTab := rfl
theorem c_clearAllTabs (t : Terminal) : (normT t).clearAllTabs = normT t.clearAllTabs := rfl

theorem c_bs : Commutes (fun t => t.bs) := by
  intro t
  simp only [bs]
  show (if t.pendingWrap = true then _ else _) = _
  split
  · exact c_moveCursorToRelCol _ t
  · exact c_moveCursorToRelCol _ t

theorem c_cub (n : Nat) : Commutes (fun t => t.cub n) := by
  intro t
  simp only [cub]
  exact c_moveCursorToRelCol _ t

theorem c_cup (r c : Nat) : Commutes (fun t => t.cup r c) := by
  intro t
  simp only [cup]
  have e : (normT t).moveCursorToCol (asUsize c 1 - 1) = (t.moveCursorToCol (asUsize c 1 - 1)).map normT :=
    c_moveCursorToCol _ t
  rw [e]
  cases t.moveCursorToCol (asUsize c 1 - 1) with
  | none => rfl
  | some t' => exact c_moveCursorToRow _ t'

theorem c_sm (ms : List AnsiMode) (t : Terminal) : (normT t).sm ms = normT (t.sm ms) := by
  induction ms generalizing t with
  | nil => rfl
  | cons m ms ih =>
    simp only [sm, List.foldl_cons] at ih ⊢
    cases m
    · exact ih { t with insertMode := true }
    · exact ih { t with newLineMode := true }

theorem c_rm (ms : List AnsiMode) (t : Terminal) : (normT t).rm ms = normT (t.rm ms) := by
  induction ms generalizing t with
  | nil => rfl
  | cons m ms ih =>
    simp only [rm, List.foldl_cons] at ih ⊢
    cases m
    · exact ih { t with insertMode := false }
    · exact ih { t with newLineMode := false }

theorem c_ctc (op : CtcOp) (t : Terminal) : (normT t).ctc op = normT (t.ctc op) := by
  cases op
  · exact c_setTab t
  · rfl
  · rfl

theorem c_tbc (sc : TbcScope) (t : Terminal) : (normT t).tbc sc = normT (t.tbc sc) := by
  cases sc <;> rfl

theorem c_decstbm (a b : Nat) : Commutes (fun t => t.decstbm a b) := by
  intro t
  simp only [decstbm]
  show (match csub (asUsize b t.rows) 1 with
    | none => none
    | some bottom =>
      moveCursorHome (if asUsize a 1 - 1 < bottom ∧ bottom < t.rows
        then { normT t with topMargin := asUsize a 1 - 1, bottomMargin := bottom } else normT t)) = _
  cases csub (asUsize b t.rows) 1 with
  | none => rfl
  | some bottom =>
    simp only
    split
    · exact c_moveCursorHome { t with topMargin := asUsize a 1 - 1, bottomMargin := bottom }
    · exact c_moveCursorHome t

theorem c_softReset : Commutes (fun t => t.softReset) := by
  intro t
  show (normT t).softReset = t.softReset.map normT
  rw [softReset_eq, softReset_eq]
  show (if 1 ≤ t.rows then _ else _) = _
  split <;> rfl

/-- DEC private modes that do not involve the alternate screen -/
def simpleDecMode : DecMode → Bool
  | .altScreenBuffer | .saveCursorAltScreenBuffer => false
  | _ => true

theorem simpleDecMode_eq (m : DecMode) : simpleDecMode m = !Spec.C16.isAltScreenMode m := by
  cases m <;> rfl

theorem c_decsetOne (m : DecMode) (h : simpleDecMode m = true) : Commutes (fun t => decsetOne t m) := by
  intro t
  cases m
  · rfl
  · exact c_moveCursorHome { t with originMode := true }
  · rfl
  · rfl
  · simp [simpleDecMode] at h
  · exact c_saveCursor t
  · simp [simpleDecMode] at h

theorem c_decrstOne (m : DecMode) (h : simpleDecMode m = true) : Commutes (fun t => decrstOne t m) := by
  intro t
  cases m
  · rfl
  · exact c_moveCursorHome { t with originMode := false }
  · rfl
  · rfl
  · simp [simpleDecMode] at h
  · rfl
  · simp [simpleDecMode] at h

theorem c_foldM' (g : Terminal → DecMode → Option Terminal) (ms : List DecMode)
    (h : ∀ m ∈ ms, Commutes (fun t => g t m)) : Commutes (fun t => foldM' g ms t) := fun t => by
  -- the run from `normT t` read through `id`, the run from `t` through `normT`, no invariant on either side
  -- (`True`, kept trivially): two states `u`, `v` correspond when `u = normT v`, and there `Commutes` is the step
  simpa using foldM'_cong (p := id) (q := normT) (fun _ => True) (fun _ => True) (fun _ _ => trivial)
    (fun _ _ => trivial) ms (fun m hm u v _ _ e => by rw [show u = normT v from e]; simpa using h m hm v)
    (normT t) t trivial trivial rfl

/-- the functions that neither read nor write a buffer (cursor movement and addressing, tab stops,
    modes, SGR, character sets, save/restore, margins, soft reset) -/
def simpleFn : Function → Bool
  | .bs | .cbt _ | .cha _ | .cht _ | .cnl _ | .cpl _ | .cr | .ctc _ | .cub _ | .cud _ | .cuf _ | .cup _ _
  | .cuu _ | .decrc | .decsc | .decstbm _ _ | .decstr | .g1d4 _ | .gzd4 _ | .ht | .hts | .rm _ | .scorc
  | .scosc | .sgr _ | .si | .sm _ | .so | .tbc _ | .vpa _ | .vpr _ => true
  | .decset ms | .decrst ms => ms.all simpleDecMode
  | _ => false

theorem c_map {g : Terminal → Option Terminal} (hg : Commutes g) (k : Terminal → Terminal)
    (hk : ∀ t, k (normT t) = normT (k t)) : Commutes (fun t => (g t).map k) := by
  simpa only [Option.map_eq_bind, Function.comp_def] using hg.bind (commutes_pure k hk)

theorem c_execute (f : Function) (h : simpleFn f = true) : Commutes (fun t => t.execute f) := by
  cases f <;> simp only [simpleFn] at h <;> try (exact absurd h (by decide))
  case bs => exact c_bs
  case cbt n => exact c_moveCursorToPrevTab _
  case cha n => exact c_moveCursorToCol _
  case cht n => exact c_moveCursorToNextTab _
  case cnl n => exact c_map (c_cursorDown _) _ (fun _ => rfl)
  case cpl n => exact c_map (c_cursorUp _) _ (fun _ => rfl)
  case cr => intro t; rfl
  case ctc op => intro t; exact congrArg some (c_ctc op t)
  case cub n => exact c_cub n
  case cud n => exact c_cursorDown _
  case cuf n => exact c_moveCursorToRelCol ((asUsize n 1 : Nat) : Int)
  case cup r c => exact c_cup r c
  case cuu n => exact c_cursorUp _
  case decrc => intro t; rfl
  case decrst ms =>
    exact c_foldM' _ ms (fun m hm => c_decrstOne m (by simpa using (List.all_eq_true.mp h) m hm))
  case decsc => exact c_saveCursor
  case decset ms =>
    exact c_foldM' _ ms (fun m hm => c_decsetOne m (by simpa using (List.all_eq_true.mp h) m hm))
  case decstbm a b => exact c_decstbm a b
  case decstr => exact c_softReset
  case g1d4 c => intro t; rfl
  case gzd4 c => intro t; rfl
  case ht => exact c_moveCursorToNextTab 1
  case hts => intro t; exact congrArg some (c_setTab t)
  case rm ms => intro t; exact congrArg some (c_rm ms t)
  case scorc => intro t; rfl
  case scosc => exact c_saveCursor
  case sgr ops => intro t; rfl
  case si => intro t; rfl
  case sm ms => intro t; exact congrArg some (c_sm ms t)
  case so => intro t; rfl
  case tbc sc => intro t; exact congrArg some (c_tbc sc t)
  case vpa n => exact c_moveCursorToRow _
  case vpr n => exact c_cursorDown _

/-- normal-form soundness for the simple functions (`C11_norm_sound_step_partial` in Props/C11) -/
theorem norm_sound_execute (f : Function) (h : simpleFn f = true) (s t : Terminal)
    (e : normT s = normT t) : (s.execute f).map normT = (t.execute f).map normT :=
  (c_execute f h).sound s t e

end Lemmas.C11
end Avt
