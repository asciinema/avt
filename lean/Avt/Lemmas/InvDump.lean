/-
  Avt.Lemmas.InvDump — the `dump` family never panics: `Pen.dump` and `Buffer.dump` unconditionally
  (resp. for `rows ≥ 1`), `Terminal.dump` under the terminal invariant, `Parser.dump` under the
  register invariant, `Vt.dump` under `Inv`.

  Colours need no condition: in the model colour components are unbounded `Nat`s that
  are only rendered in decimal; the only checked `u8` additions are `base + k` with `base ∈ {30, 40}`
  and `k ≤ 52 + 15` (`Gen.colorBrightAdd` plus an index below 16), which cannot overflow.  `Buffer.dump` needs `rows ≥ 1` (`rows - 1`);
  `Terminal.dump` needs `rows ≥ 1`, and for the wrap-pending re-print `cols ≥ 1`, `cursor.row < rows`
  and full-width rows; `Parser.dump` needs `cur_param < 32` and `cur_part < 6`.
-/
import Avt.Lemmas.InvTerminal
import Avt.Lemmas.DumpCut
import Avt.Lemmas.PenDump
import Avt.Lemmas.RegInv

namespace Avt
open Lemmas.C11 (penPred chunks_spec pendingText dump_eq_primary dump_eq_alternate sgrParams_eq pen_dump_eq)

theorem Color.sgrParams_ok (c : Color) {base : Nat} (hb : base ≤ 40) :
    ∃ s, c.sgrParams base = some s :=
  (Option.map_eq_some_iff.1 (sgrParams_eq base hb c)).imp fun _ h => h.1

theorem Pen.dump_ok (p : Pen) : ∃ s, p.dump = some s := ⟨_, pen_dump_eq p⟩

namespace Buffer

theorem dumpChunks_ok (chunks : List (List Cell)) (hne : ∀ ch ∈ chunks, ch ≠ []) :
    ∀ pen, ∃ r, dumpChunks chunks pen = some r := by
  induction chunks with
  | nil => intro pen; exact ⟨_, rfl⟩
  | cons cells rest ih =>
    intro pen
    cases cells with
    | nil => exact absurd rfl (hne [] (List.mem_cons_self ..))
    | cons c cs =>
      simp only [dumpChunks]
      obtain ⟨pre, hpre⟩ : ∃ pre : List Nat × Pen,
          (if c.pen ≠ pen then (c.pen.dump).map fun d => (d, c.pen) else some ([], pen)) = some pre := by
        split
        · obtain ⟨d, hd⟩ := c.pen.dump_ok
          exact ⟨_, by rw [hd]; rfl⟩
        · exact ⟨_, rfl⟩
      obtain ⟨d, pen'⟩ := pre
      rw [hpre]
      simp only [repEncode]
      obtain ⟨⟨more, pen''⟩, hm⟩ := ih (fun ch h => hne ch (List.mem_cons_of_mem _ h)) pen'
      rw [hm]
      exact ⟨_, rfl⟩

theorem dumpLines_ok (last : Nat) (ls : List Line) : ∀ i pen, ∃ s, dumpLines last ls i pen = some s := by
  induction ls with
  | nil => intro i pen; exact ⟨_, rfl⟩
  | cons l ls ih =>
    intro i pen
    simp only [dumpLines]
    obtain ⟨⟨s, pen'⟩, hs⟩ := dumpChunks_ok (l.chunks penPred)
      (fun ch hch => by obtain ⟨c, cs, rfl, -⟩ := (chunks_spec l).1 ch hch; exact List.cons_ne_nil _ _) pen
    rw [show (fun c1 c2 : Cell => decide (c1.pen ≠ c2.pen)) = penPred from rfl, hs]
    simp only []
    obtain ⟨more, hm⟩ := ih (i + 1) pen'
    rw [hm]
    exact ⟨_, rfl⟩

theorem dump_ok {b : Buffer} (hr : 1 ≤ b.rows) : ∃ s, b.dump = some s := by
  unfold dump
  simp only [csub_eq_some hr]
  exact dumpLines_ok _ _ _ _

end Buffer

namespace Terminal

theorem dumpCtx_ok (c : SavedCtx) : ∃ s, dumpCtx c = some s := by
  unfold dumpCtx
  split
  · exact ⟨_, rfl⟩
  · obtain ⟨pd, h⟩ := c.pen.dump_ok
    rw [h]
    exact ⟨_, rfl⟩

theorem pendingText_ok {t : Terminal} (h : TOK t) : ∃ s, pendingText t = some s := by
  unfold pendingText
  split
  · simp only [csub_eq_some h.c1]
    have p := PrintPre.of_TOK h
    have hlt := p.row_lt_view
    rw [List.getElem?_eq_getElem hlt]
    simp only []
    have hlt2 : t.cols - 1 < (t.buffer.view[t.cursor.row]).cells.length := by
      rw [p.cwidth]; exact Nat.sub_lt h.c1 Nat.one_pos
    rw [List.getElem?_eq_getElem hlt2]
    simp only []
    obtain ⟨pd, hpd⟩ := (t.buffer.view[t.cursor.row]).cells[t.cols - 1].pen.dump_ok
    rw [hpd]; exact ⟨_, rfl⟩
  · exact ⟨_, rfl⟩

theorem dump_ok {t : Terminal} (h : TOK t) : ∃ s, t.dump = some s := by
  obtain ⟨b1, h1⟩ := Buffer.dump_ok h.bok.hr
  obtain ⟨b2, h2⟩ := Buffer.dump_ok h.ook.hr
  obtain ⟨pend, h4⟩ := t.pen.dump_ok
  obtain ⟨sctx, h5⟩ := dumpCtx_ok t.savedCtx
  obtain ⟨actx, h6⟩ := dumpCtx_ok t.alternateSavedCtx
  obtain ⟨sp, h7⟩ := pendingText_ok h
  cases hab : t.activeBufferType with
  | primary => exact ⟨_, dump_eq_primary hab h.r1 h1 h5 h6 h4 h7⟩
  | alternate => exact ⟨_, dump_eq_alternate hab h.r1 h2 h6 h1 h5 h4 h7⟩

end Terminal

theorem List.mapM_option_ok {α β} (f : α → Option β) (l : List α) (h : ∀ x ∈ l, ∃ y, f x = some y) :
    ∃ ys, l.mapM f = some ys := by
  induction l with
  | nil => exact ⟨[], rfl⟩
  | cons a t ih =>
    obtain ⟨y, hy⟩ := h a (List.mem_cons_self ..)
    obtain ⟨ys, hys⟩ := ih fun x hx => h x (List.mem_cons_of_mem _ hx)
    exact ⟨y :: ys, by simp [List.mapM_cons, hy, hys]⟩

namespace Parser

theorem Param.render_ok {q : Param} (h : Param.ok q = true) : ∃ s, Parser.Param.render q = some s := by
  obtain ⟨r, hr⟩ := ParserSem.wparts_cons h
  unfold Parser.Param.render
  rw [ParserSem.partsSlice_ok h, hr]
  exact ⟨_, rfl⟩

theorem dump_ok {p : Parser} (h : PInv p = true) : ∃ s, p.dump = some s := by
  have hr : ∃ s, renderParams p = some s := by
    obtain ⟨rs, hrs⟩ := List.mapM_option_ok Parser.Param.render (p.params.take (p.curParam + 1))
      fun q hq => Param.render_ok (ParserSem.ok_of_mem_active h q hq)
    unfold renderParams
    rw [ParserSem.activeParams_eq h]
    simp only [hrs]; exact ⟨_, rfl⟩
  obtain ⟨rs, hrs⟩ := hr
  unfold dump
  cases p.state <;> simp only [hrs] <;> exact ⟨_, rfl⟩

end Parser

theorem Vt.dump_ok {v : Vt} (h : Inv v = true) : ∃ s, v.dump = some s := by
  simp only [Inv, Bool.and_eq_true] at h
  obtain ⟨s1, h1⟩ := Terminal.dump_ok (TOK.of_TInv h.2)
  obtain ⟨s2, h2⟩ := Parser.dump_ok h.1
  exact ⟨s1 ++ s2, by simp [Vt.dump, h1, h2]⟩

end Avt
