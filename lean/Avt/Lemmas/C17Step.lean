/-
  Avt.Lemmas.C17Step — the two saved contexts, one step at a time.  The frame: functions that neither
  save, switch screens nor reset leave both exactly as they are (`frame`, read off the table of
  Lemmas/Writes.lean).  The steps that touch them: what a save, a restore, `reflow` and showing a screen
  (`show_facts`: the switch with the screen to show as a variable, then `reflow`) do to them.
-/
import Avt.Spec.C17
import Avt.Lemmas.Writes
import Avt.Lemmas.InvDef

namespace Avt.Spec.C17
open Avt

def CtxSame (t t' : Terminal) : Prop :=
  t'.savedCtx = t.savedCtx ∧ t'.alternateSavedCtx = t.alternateSavedCtx

theorem CtxSame.refl (t : Terminal) : CtxSame t t := ⟨rfl, rfl⟩

theorem CtxSame.of_same {W : Field → Bool} {t t' : Terminal} (h : Same W t t')
    (w : W .savedCtx = false ∧ W .alternateSavedCtx = false) : CtxSame t t' :=
  ⟨h .savedCtx w.1, h .alternateSavedCtx w.2⟩

/-- apart from XTWINOPS (a resize clamps the saved position), the functions outside `touchesCtx`
    write neither saved context; of the DEC modes only those in `modeTouches` do (a restore reads
    the context and keeps it) -/
theorem writes_of_touchesCtx {f : Function} (hf : touchesCtx f = false) :
    (∃ c r, f = .xtwinops c r)
      ∨ f.writes .savedCtx = false ∧ f.writes .alternateSavedCtx = false := by
  cases hd : f.draws
  case true => exact .inr ⟨f.writes_of_draws hd rfl, f.writes_of_draws hd rfl⟩
  cases f <;> try contradiction
  case xtwinops c r => exact .inl ⟨c, r, rfl⟩
  case decset ms | decrst ms =>
    exact .inr ⟨any_writes_of hf (by intro m; cases m <;> decide),
      any_writes_of hf (by intro m; cases m <;> decide)⟩
  case sm ms | rm ms =>
    exact .inr ⟨any_writes_false ms (by intro m; cases m <;> rfl), any_writes_false ms (by intro m; cases m <;> rfl)⟩
  all_goals first | exact .inr ⟨rfl, rfl⟩ | cases hf

/-- C17, clause (3): every function that is not a save, a switch of screens, DECSTR or RIS leaves
    both saved contexts unchanged (all constructors of `Function`; `TInv` is only needed to know that
    the `xtwinops` flag is off) -/
theorem frame {t t' : Terminal} {f : Function} (hi : TInv t = true) (hf : touchesCtx f = false)
    (h : t.execute f = some t') : CtxSame t t' := by
  rcases writes_of_touchesCtx hf with ⟨c, r, rfl⟩ | w
  · cases Terminal.execute_xtwinops_off (TOK.of_TInv hi).xt h
    exact .refl t
  · exact .of_same (Terminal.execute_same h) w

/-- `Terminal.saveCursor_eq` with C16's `entryCtx` spelled `ctxOf` (the same body) -/
theorem saveCursor_eq {t t' : Terminal} (h : t.saveCursor = some t') :
    t' = { t with savedCtx := ctxOf t } := Terminal.saveCursor_eq h

/-- the cursor only, but from success alone: `Frame.resize_same` gives the whole result and needs
    `view.length = rows`, which `reflow_facts` does not assume -/
theorem resize_same {b b' : Buffer} {cur cur' : Nat × Nat}
    (h : b.resize b.cols b.rows cur = some (b', cur')) : cur' = cur := by
  unfold Buffer.resize at h
  simp only [ne_eq, not_true_eq_false, if_false, Nat.lt_irrefl, gt_iff_lt] at h
  split at h
  · cases h
  · split at h
    · cases h
    · simp only [Option.some.injEq, Prod.mk.injEq] at h
      exact h.2.symm


/-- what `Terminal.reflow` does to everything C17 talks about -/
structure ReflowFacts (t t' : Terminal) : Prop where
  saved : t'.savedCtx = clampCtx t.cols t.rows t.savedCtx
  alt : t'.alternateSavedCtx = t.alternateSavedCtx
  pen : t'.pen = t.pen
  origin : t'.originMode = t.originMode
  autoWrap : t'.autoWrapMode = t.autoWrapMode
  cols : t'.cols = t.cols
  rows : t'.rows = t.rows
  abt : t'.activeBufferType = t.activeBufferType
  visible : t'.cursor.visible = t.cursor.visible
  pending : t.pendingWrap = false → t'.pendingWrap = false
  cursor : t.buffer.cols = t.cols → t.buffer.rows = t.rows →
    t'.cursor.col = t.cursor.col ∧ t'.cursor.row = t.cursor.row

theorem reflow_facts {t t' : Terminal} (h : t.reflow = some t') : ReflowFacts t t' := by
  obtain ⟨_, _, b, cur, hres, rfl⟩ := Terminal.reflow_eq_some.1 h
  refine ⟨rfl, rfl, rfl, rfl, rfl, rfl, rfl, rfl, rfl, fun hp => ?_, fun h1 h2 => ?_⟩
  · show (if t.cols ≠ t.buffer.cols then false else t.pendingWrap) = false
    split
    · rfl
    · exact hp
  · rw [← h1, ← h2] at hres
    exact Prod.mk.inj (resize_same hres)


theorem ctxKept_of {t t' : Terminal} (h : CtxSame t t') : ctxKept t t' = true := by
  simp [ctxKept, h.1, h.2]


structure RstFacts (t t' : Terminal) (sc : Screens) : Prop where
  cols : t'.cols = t.cols
  rows : t'.rows = t.rows
  scr : Screens.of t' = sc

/-- show screen `to`: the switch, possibly a step that keeps screens and size
    (`restore_cursor`), then `reflow` -/
theorem show_facts {to : BufferType} {t t1 t2 t' : Terminal} (h1 : t.switchTo to = some t1)
    (h2 : t2.reflow = some t') (h12 : Screens.of t2 = Screens.of t1) (hc : t2.cols = t1.cols)
    (hr : t2.rows = t1.rows) : RstFacts t t' ((Screens.of t).show t.cols t.rows to) := by
  have F := reflow_facts h2
  have e : Screens.of t'
      = ⟨t1.activeBufferType, clampCtx t1.cols t1.rows t1.savedCtx, t1.alternateSavedCtx⟩ := by
    simp only [Screens.of, Screens.mk.injEq] at h12
    simp only [Screens.of, F.abt, F.saved, F.alt, h12.1, h12.2.1, h12.2.2, hc, hr]
  rcases Terminal.switchTo_cases h1 with ⟨hp, rfl⟩ | ⟨hp, d, rfl⟩
  · exact ⟨F.cols.trans hc, F.rows.trans hr, e.trans (if_pos (c := (Screens.of t1).active = to) hp).symm⟩
  · exact ⟨F.cols.trans hc, F.rows.trans hr, e.trans (if_neg (c := (Screens.of t).active = to) hp).symm⟩

/-- an excursion to screen `to` with a save there: this screen's context is what it was, the
    other screen's is the one saved there -/
theorem separate {to : BufferType} {t t1 t2 t3 : Terminal} (hp : t.activeBufferType ≠ to)
    (h1 : t.switchTo to = some t1) (h2 : t1.saveCursor = some t2)
    (h3 : t2.switchTo t.activeBufferType = some t3) :
    t3.savedCtx = t.savedCtx ∧ t3.alternateSavedCtx = ctxOf t1 := by
  obtain ⟨d, rfl⟩ := Terminal.switchTo_other hp h1
  cases saveCursor_eq h2
  obtain ⟨d', rfl⟩ := Terminal.switchTo_other hp.symm h3
  exact ⟨rfl, rfl⟩

theorem restoredFrom_restore (t : Terminal) : restoredFrom t.savedCtx t.restoreCursor = true := by
  simp [restoredFrom, Terminal.restoreCursor]

theorem defaultCtx_eq : ({} : SavedCtx) = defaultCtx := rfl

/-- a resize clamps the active context into the new screen and leaves the other one alone -/
theorem resize_ok {t t' : Terminal} {cols rows : Nat} (h : t.resize cols rows = some t') :
    t'.savedCtx = clampCtx cols rows t.savedCtx ∧ t'.alternateSavedCtx = t.alternateSavedCtx := by
  obtain ⟨_, _, _, _, _, rfl⟩ := Terminal.resize_eq_some.1 h
  exact ⟨rfl, rfl⟩

end Avt.Spec.C17
