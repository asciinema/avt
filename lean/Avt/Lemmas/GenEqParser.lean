/-
  Avt.Lemmas.GenEqParser — the generated translation of the hand-modelled parts of src/parser.rs
  (Avt/Gen/ParserGen.lean, regenerated from /repo/src by translate/rs2lean_p5.py on every run) EQUALS the
  hand-written model (`Avt.Param.*`, `Avt.Parser.{new,clear,collect,param}`, `Avt.Parser.sgrOps`; also `Color::rgb`
  of src/color.rs), for all inputs.  One theorem per generated function; `coverage_complete` compares the
  translator's list of function names with the hand-kept `provedFunctions`.  A change in the Rust body of a
  translated function changes the generated definition and the corresponding theorem stops checking.
  `Parser::feed` itself is the model's interpreter `Parser.runActs` over the table `Gen.feedArms`: `runActs_gen`
  says that it gives the same result run with the generated helpers, `feedCalls_as_expected` pins the methods
  `feed` calls.
-/
import Avt.Gen.ParserGen
import Avt.Lemmas.Prim
import Avt.Lemmas.SgrColour


namespace Avt.GenEqParser
open Avt

theorem ckAdd_eq (w a b : Nat) : GenP.ckAdd w a b = if a + b < w then some (a + b) else none := rfl
theorem ckMul_eq (w a b : Nat) : GenP.ckMul w a b = if a * b < w then some (a * b) else none := rfl

theorem slice_zero {α} (l : List α) (b : Nat) :
    GenP.slice l 0 b = if b ≤ l.length then some (l.take b) else none := by
  simp [GenP.slice]

theorem sliceFrom_eq {α} (l : List α) (a : Nat) :
    GenP.sliceFrom l a = if a ≤ l.length then some (l.drop a) else none := rfl

theorem Param.new_eq (n : Nat) : GenP.Param.new n = { curPart := 0, parts := [n, 0, 0, 0, 0, 0] } := rfl

theorem Param.default_eq : GenP.Param.default = ({} : Param) := rfl

theorem Param.clear_eq (p : Param) : GenP.Param.clear p = p.clear := by
  simp only [GenP.Param.clear, Avt.Param.clear]
  cases fillRange p.parts 0 (p.curPart + 1) 0 <;> rfl

theorem Param.addPart_eq (p : Param) : GenP.Param.addPart p = p.addPart := rfl

theorem Param.addDigit_eq (p : Param) (d : Nat) : GenP.Param.addDigit p d = p.addDigit d := by
  simp only [GenP.Param.addDigit, Avt.Param.addDigit, ckAdd_eq, ckMul_eq]
  cases p.parts[p.curPart]? with
  | none => rfl
  | some n =>
    simp only []
    -- 4294967296 = 2^32 (`u32`).  The generated code checks the product `10 * n` and then the sum, the model the sum
    -- only: a sum below 2^32 puts the product below it, and with the sum at or above it both sides are `none`.
    by_cases h : 10 * n + d < 4294967296
    · have h1 : 10 * n < 4294967296 := by omega
      simp [h, h1]
    · by_cases h1 : 10 * n < 4294967296 <;> simp [h, h1]

theorem Param.asU16_eq (p : Param) : GenP.Param.asU16 p = p.asU16 := rfl

theorem Param.parts_eq (p : Param) : GenP.Param.parts p = p.partsSlice := by
  simp only [GenP.Param.parts, Avt.Param.partsSlice, slice_zero]

theorem new_eq : GenP.new = Parser.new := rfl

theorem collect_eq (p : Parser) (c : Nat) : GenP.collect p c = p.collect c := rfl

theorem put_eq (p : Parser) (c : Nat) : GenP.put p c = p := rfl

theorem oscPut_eq (p : Parser) (c : Nat) : GenP.oscPut p c = p := rfl

theorem clear_eq (p : Parser) : GenP.clear p = p.clear := by
  simp only [GenP.clear, Avt.Parser.clear, slice_zero, Param.clear_eq]
  by_cases h : p.curParam + 1 ≤ p.params.length
  · simp only [h, if_true]
    cases (p.params.take (p.curParam + 1)).mapM Param.clear <;> simp
  · simp [h]

theorem param_eq (p : Parser) (c : Nat) : GenP.param p c = p.param c := by
  simp only [GenP.param, Avt.Parser.param, modAt, modAtM, Param.addPart_eq, Param.addDigit_eq]
  by_cases h1 : c = 0x3b
  · simp only [h1, if_true]
    by_cases h2 : p.curParam + 1 = 32 <;> simp [h2, Gen.paramsLen]
  · simp only [h1, if_false]
    by_cases h2 : c = 0x3a
    · simp only [h2, if_true]
      cases p.params[p.curParam]? <;> rfl
    · simp only [h2, if_false]
      cases hq : p.params[p.curParam]? with
      | none => cases csub (c % 256) 0x30 <;> simp
      | some q =>
        cases csub (c % 256) 0x30 with
        | none => rfl
        | some d => simp only []; cases q.addDigit d <;> rfl

/-- the glue of `Parser::feed`: the statements of an arm body, run with the GENERATED helper functions -/
def runActsGen : List Act → Parser → Nat → Option (Parser × Option Function)
  | [], p, _ => some (p, none)
  | a :: as, p, input =>
    match a with
    | .setState s => runActsGen as { p with state := s } input
    | .clear => match GenP.clear p with | some p' => runActsGen as p' input | none => none
    | .collect => runActsGen as (GenP.collect p input) input
    | .param => match GenP.param p input with | some p' => runActsGen as p' input | none => none
    | .put => runActsGen as (GenP.put p input) input
    | .oscPut => runActsGen as (GenP.oscPut p input) input
    | .retExecute => some (p, Parser.execute input)
    | .retCsiDispatch => (p.csiDispatch input).map fun f => (p, f)
    | .retEscDispatch => p.escDispatch input
    | .retPrint => some (p, some (.print input))

/-- every action name of the regenerated `feedArms` table runs the generated function of the same name (the five
    helper equalities put under the interpreter; no theorem uses it) -/
theorem runActs_gen (as : List Act) (p : Parser) (c : Nat) : Parser.runActs as p c = runActsGen as p c := by
  induction as generalizing p with
  | nil => rfl
  | cons a as ih =>
    cases a <;> simp only [Parser.runActs, runActsGen, clear_eq, param_eq, collect_eq, put_eq, oscPut_eq, ih] <;> rfl

/-- the methods `Parser::feed` calls: the five helpers proved above plus the three table-translated dispatchers.
    A tripwire: a method that `feed` starts or stops calling changes the generated list and fails here. -/
theorem feedCalls_as_expected :
    GenP.feedCalls = ["param", "clear", "csi_dispatch", "execute", "osc_put", "collect", "esc_dispatch", "put"] := rfl

/-- the model's `sgrStep` result, in the shape of the generated loop body: the new `self.ps` and the value the
    body `return`ed (`none`: no `return`, the loop goes on) -/
def conv (rest : List Param) (x : Option (Option SgrOp × Nat)) : Option (GenP.SgrOps × Option (Option SgrOp)) :=
  x.bind fun r => some (⟨rest.drop r.2⟩, r.1.map some)

theorem sliceFrom_succ {α} (x : α) (l : List α) (k : Nat) : GenP.sliceFrom (x :: l) (k + 1) = GenP.sliceFrom l k := by
  simp [GenP.sliceFrom]

theorem sliceFrom_zero {α} (l : List α) : GenP.sliceFrom l 0 = some l := by
  simp [GenP.sliceFrom]

theorem arms3_single (p : Param) (rest : List Param) (n : Nat) :
    GenP.SgrOps.next.arms3 ⟨p :: rest⟩ p [n] =
      if 100 ≤ n ∧ n ≤ 107 then some (⟨rest⟩, some (some (.setBg (.indexed ((n - 100 + 8) % 256)))))
      else some (⟨rest⟩, none) := by
  simp only [GenP.SgrOps.next.arms3, GenP.SgrOps.next.arms4, ckAdd_eq, sliceFrom_succ, sliceFrom_zero]
  by_cases g : 100 ≤ n ∧ n ≤ 107
  · rw [if_pos (by omega), if_pos g, csub_eq_some (by omega)]
    simp only []
    rw [if_pos (by omega)]
  · rw [if_neg (by omega), if_neg g]

theorem arms2_single (p : Param) (rest : List Param) (n : Nat) (h48 : n ≠ 48) (h49 : n ≠ 49) :
    GenP.SgrOps.next.arms2 ⟨p :: rest⟩ p [n] =
      if 90 ≤ n ∧ n ≤ 97 then some (⟨rest⟩, some (some (.setFg (.indexed ((n - 90 + 8) % 256)))))
      else GenP.SgrOps.next.arms3 ⟨p :: rest⟩ p [n] := by
  simp only [GenP.SgrOps.next.arms2, ckAdd_eq, sliceFrom_succ, sliceFrom_zero]
  · by_cases g : 90 ≤ n ∧ n ≤ 97
    · rw [if_pos (by omega), if_pos g, csub_eq_some (by omega)]
      simp only []
      rw [if_pos (by omega)]
    · rw [if_neg (by omega), if_neg g]

theorem arms1_single (p : Param) (rest : List Param) (n : Nat) (h38 : n ≠ 38) (h39 : n ≠ 39) :
    GenP.SgrOps.next.arms1 ⟨p :: rest⟩ p [n] =
      if 40 ≤ n ∧ n ≤ 47 then some (⟨rest⟩, some (some (.setBg (.indexed ((n - 40) % 256)))))
      else GenP.SgrOps.next.arms2 ⟨p :: rest⟩ p [n] := by
  simp only [GenP.SgrOps.next.arms1, sliceFrom_succ, sliceFrom_zero]
  · by_cases g : 40 ≤ n ∧ n ≤ 47
    · rw [if_pos (by omega), if_pos g, csub_eq_some (by omega)]
    · rw [if_neg (by omega), if_neg g]

/-- the `[38]` / `[48]` arm of the generated `match` (the two differ in the constructor `mk` only): a copy of the text
    of ParserGen (in `arms1` and `arms2`), tied to it only by the two `exact colour_eq …` in `body_eq`, where the
    generated `match` on the literal, the failed guards of the arms before it included, has to reduce to this term -/
def colourG (mk : Color → SgrOp) (s : GenP.SgrOps) : Option (GenP.SgrOps × Option (Option SgrOp)) :=
  let r3 :=
    match s.ps[1]? with
    | some p =>
      match Avt.GenP.Param.parts p with
      | none => none
      | some x11 =>
        some (some x11)
    | none => some none
  match r3 with
  | none => none
  | some x12 =>
    match x12 with
    | none =>
      match Avt.GenP.sliceFrom s.ps 1 with
      | none => none
      | some x13 =>
        let s := { s with ps := x13 }
        some (s, none)
    | some [2] =>
      match s.ps[4]? with
      | some b =>
        match s.ps[2]? with
        | none => none
        | some x14 =>
          match Avt.GenP.Param.asU16 x14 with
          | none => none
          | some x15 =>
            let r := x15
            match s.ps[3]? with
            | none => none
            | some x16 =>
              match Avt.GenP.Param.asU16 x16 with
              | none => none
              | some x17 =>
                let g := x17
                match Avt.GenP.Param.asU16 b with
                | none => none
                | some x18 =>
                  let b' := x18
                  let color := Avt.GenP.Color.rgb (r % 256) (g % 256) (b' % 256)
                  match Avt.GenP.sliceFrom s.ps 5 with
                  | none => none
                  | some x20 =>
                    let s := { s with ps := x20 }
                    some (s, some (some (mk color)))
      | _ =>
        match Avt.GenP.sliceFrom s.ps 2 with
        | none => none
        | some x21 =>
          let s := { s with ps := x21 }
          some (s, none)
    | some [5] =>
      match s.ps[2]? with
      | some idx =>
        match Avt.GenP.Param.asU16 idx with
        | none => none
        | some x22 =>
          let idx' := x22
          let color := Avt.Color.indexed (idx' % 256)
          match Avt.GenP.sliceFrom s.ps 3 with
          | none => none
          | some x23 =>
            let s := { s with ps := x23 }
            some (s, some (some (mk color)))
      | _ =>
        match Avt.GenP.sliceFrom s.ps 2 with
        | none => none
        | some x24 =>
          let s := { s with ps := x24 }
          some (s, none)
    | some _ =>
      match Avt.GenP.sliceFrom s.ps 1 with
      | none => none
      | some x25 =>
        let s := { s with ps := x25 }
        some (s, none)

theorem colour_eq (mk : Color → SgrOp) (p : Param) (rest : List Param) :
    colourG mk ⟨p :: rest⟩ = conv rest (Parser.sgrColour mk rest) := by
  cases rest with
  | nil => rfl
  | cons q rest' =>
    simp only [colourG, Parser.sgrColour, Param.parts_eq, List.getElem?_cons_succ, List.getElem?_cons_zero, sliceFrom_succ,
      sliceFrom_zero]
    cases hq : q.partsSlice with
    | none => rfl
    | some qp =>
      dsimp only
      by_cases h2 : qp = [2]
      · subst h2
        rcases rest' with _ | ⟨a, _ | ⟨b, _ | ⟨c, t⟩⟩⟩
        · rfl
        · rfl
        · rfl
        · simp only [List.getElem?_cons_succ, List.getElem?_cons_zero, Param.asU16_eq]
          cases a.asU16 <;> cases b.asU16 <;> cases c.asU16 <;> rfl
      · by_cases h5 : qp = [5]
        · subst h5
          rcases rest' with _ | ⟨a, t⟩
          · rfl
          · simp only [List.getElem?_cons_zero, Param.asU16_eq]
            cases a.asU16 <;> rfl
        · split
          · next h => cases h
          · next h => exact absurd (Option.some.inj h) h2
          · next h => exact absurd (Option.some.inj h) h5
          · split
            · next h => cases h
            · next h => exact absurd (Option.some.inj h) h2
            · next h => exact absurd (Option.some.inj h) h5
            · rfl

/-- the `[38]` / `[48]` arms: the colour is taken from the following parameters -/
macro "colour_arm" hp:ident rest:ident : tactic => `(tactic|
  (cases $rest:ident with
   | nil => simp [GenP.SgrOps.next.loop1.body, GenP.SgrOps.next.arms1, GenP.SgrOps.next.arms2, Param.parts_eq, $hp:ident,
              conv, sliceFrom_succ, sliceFrom_zero]
   | cons q rest' =>
     simp only [GenP.SgrOps.next.loop1.body, GenP.SgrOps.next.arms1, GenP.SgrOps.next.arms2, Param.parts_eq, $hp:ident,
       List.getElem?_cons_succ, List.getElem?_cons_zero, sliceFrom_succ, sliceFrom_zero]
     cases hq : q.partsSlice with
     | none => simp [conv]
     | some qp =>
       simp only []
       repeat rw [if_neg (by omega)]
       by_cases h2 : qp = [2]
       · subst h2
         rcases rest' with _ | ⟨a, _ | ⟨b, _ | ⟨c, t⟩⟩⟩ <;>
           simp [conv, Param.asU16_eq, sliceFrom_succ, sliceFrom_zero, GenP.Color.rgb, Parser.u8]
         cases a.asU16 <;> cases b.asU16 <;> cases c.asU16 <;> simp
       · by_cases h5 : qp = [5]
         · subst h5
           rcases rest' with _ | ⟨a, t⟩ <;>
             simp [conv, Param.asU16_eq, sliceFrom_succ, sliceFrom_zero, Parser.u8]
           cases a.asU16 <;> simp
         · split <;> first | (simp_all [conv]; done) | (split <;> simp_all [conv])))

/-- one iteration of the generated `while let` loop is the model's `sgrStep` -/
theorem body_eq (p : Param) (rest : List Param) :
    GenP.SgrOps.next.loop1.body ⟨p :: rest⟩ p = conv rest (Parser.sgrStep p rest) := by
  cases hp : p.partsSlice with
  | none => rw [GenP.SgrOps.next.loop1.body, Param.parts_eq, Parser.sgrStep, hp]; rfl
  | some parts =>
    rw [Parser.sgrStep, hp]
    dsimp only
    -- `split` numbers its goals after the 27 arms of `match parts` in `Parser.sgrStep`, from 1: `h_19` is `[38]`,
    -- `h_24` is `[48]`, `h_26` is `[n]` (its hypotheses: `n` is none of the 19 one-element literals above it, in
    -- order, the last four being 38, 39, 48, 49), `h_27` is `_`; the other 23 arms are `rfl`
    split
    case h_19 => rw [GenP.SgrOps.next.loop1.body, Param.parts_eq, hp]; exact colour_eq .setFg p rest
    case h_24 => rw [GenP.SgrOps.next.loop1.body, Param.parts_eq, hp]; exact colour_eq .setBg p rest
    case h_26 n _ _ _ _ _ _ _ _ _ _ _ _ _ _ _ h38 h39 h48 h49 =>
      have hb : GenP.SgrOps.next.loop1.body ⟨p :: rest⟩ p =
          if 30 ≤ n ∧ n ≤ 37 then some (⟨rest⟩, some (some (.setFg (.indexed ((n - 30) % 256)))))
          else GenP.SgrOps.next.arms1 ⟨p :: rest⟩ p [n] := by
        simp only [GenP.SgrOps.next.loop1.body, Param.parts_eq, sliceFrom_succ, sliceFrom_zero, *]
        · by_cases g : 30 ≤ n ∧ n ≤ 37
          · rw [if_pos (by omega), if_pos g, csub_eq_some (by omega)]
          · rw [if_neg (by omega), if_neg g]
      rw [hb, arms1_single p rest n h38 h39, arms2_single p rest n h48 h49, arms3_single]
      simp only [Parser.u8, conv]
      by_cases g1 : 30 ≤ n ∧ n ≤ 37
      · simp [g1]
      · by_cases g2 : 40 ≤ n ∧ n ≤ 47
        · simp [g1, g2]
        · by_cases g3 : 90 ≤ n ∧ n ≤ 97
          · simp [g1, g2, g3]
          · by_cases g4 : 100 ≤ n ∧ n ≤ 107 <;> simp [g1, g2, g3, g4]
    case h_27 =>
      simp [GenP.SgrOps.next.loop1.body, Param.parts_eq, hp, conv, sliceFrom_succ, sliceFrom_zero,
        GenP.SgrOps.next.arms1, GenP.SgrOps.next.arms2, GenP.SgrOps.next.arms3, GenP.SgrOps.next.arms4]
    all_goals rw [GenP.SgrOps.next.loop1.body, Param.parts_eq, hp]; rfl

/-- `SgrOps::next` in the style of the model's `sgrGo` (structural, with a skip counter): the remaining
    parameters and the op returned -/
def nextGo : Nat → List Param → Option (List Param × Option SgrOp)
  | _, [] => some ([], none)
  | k + 1, _ :: rest => nextGo k rest
  | 0, p :: rest =>
    match Parser.sgrStep p rest with
    | none => none
    | some (some op, k) => some (rest.drop k, some op)
    | some (none, k) => nextGo k rest

theorem nextGo_drop (k : Nat) (l : List Param) : nextGo k l = nextGo 0 (l.drop k) := by
  induction l generalizing k with
  | nil => simp [nextGo]
  | cons x r ih => cases k with
    | zero => rfl
    | succ k => simp only [nextGo, List.drop_succ_cons]; exact ih k

theorem sgrGo_drop (k : Nat) (l : List Param) : Parser.sgrGo k l = Parser.sgrGo 0 (l.drop k) := by
  induction l generalizing k with
  | nil => simp [Parser.sgrGo]
  | cons x r ih => cases k with
    | zero => rfl
    | succ k => simp only [Parser.sgrGo, List.drop_succ_cons]; exact ih k

theorem nextGo_length {k : Nat} {ps l : List Param} {op : SgrOp} (h : nextGo k ps = some (l, some op)) :
    l.length < ps.length := by
  induction ps generalizing k with
  | nil => simp [nextGo] at h
  | cons p rest ih =>
    cases k with
    | succ k => simp only [nextGo] at h; have := ih h; simp only [List.length_cons]; omega
    | zero =>
      simp only [nextGo] at h
      cases hs : Parser.sgrStep p rest with
      | none => simp [hs] at h
      | some r =>
        obtain ⟨o, j⟩ := r
        cases o with
        | none => simp only [hs] at h; have := ih h; simp only [List.length_cons]; omega
        | some o =>
          simp only [hs, Option.some.injEq, Prod.mk.injEq] at h
          obtain ⟨h1, _⟩ := h
          subst h1
          simp only [List.length_drop, List.length_cons]; omega

theorem loop1_eq (fuel : Nat) (ps : List Param) (h : ps.length < fuel) :
    GenP.SgrOps.next.loop1 fuel ⟨ps⟩ = (nextGo 0 ps).map fun r => (⟨r.1⟩, r.2.map some) := by
  induction fuel generalizing ps with
  | zero => omega
  | succ fuel ih =>
    cases ps with
    | nil => simp [GenP.SgrOps.next.loop1, nextGo]
    | cons p rest =>
      simp only [GenP.SgrOps.next.loop1, List.head?_cons, body_eq, conv, nextGo]
      cases hs : Parser.sgrStep p rest with
      | none => simp
      | some r =>
        obtain ⟨o, j⟩ := r
        cases o with
        | some o => simp
        | none =>
          simp only [Option.bind_some, Option.map_none]
          rw [ih (rest.drop j) (by simp only [List.length_drop, List.length_cons] at h ⊢; omega), nextGo_drop j rest]

/-- one call of the generated `SgrOps::next`: the op it returns and what is left, in terms of the model's `sgrStep` -/
theorem SgrOps.next_eq (ps : List Param) :
    GenP.SgrOps.next ⟨ps⟩ = (nextGo 0 ps).map fun r => (⟨r.1⟩, r.2) := by
  simp only [GenP.SgrOps.next, loop1_eq (ps.length + 1) ps (by omega)]
  cases nextGo 0 ps with
  | none => rfl
  | some r => obtain ⟨l, o⟩ := r; cases o <;> rfl

theorem sgrGo_nextGo (k : Nat) (ps : List Param) :
    Parser.sgrGo k ps =
      match nextGo k ps with
      | none => none
      | some (_, none) => some []
      | some (l, some op) => (Parser.sgrGo 0 l).map (op :: ·) := by
  induction ps generalizing k with
  | nil => simp [Parser.sgrGo, nextGo]
  | cons p rest ih =>
    cases k with
    | succ k => simp only [Parser.sgrGo, nextGo]; exact ih k
    | zero =>
      simp only [Parser.sgrGo, nextGo]
      cases hs : Parser.sgrStep p rest with
      | none => rfl
      | some r =>
        obtain ⟨o, j⟩ := r
        cases o with
        | some o =>
          simp only []
          rw [sgrGo_drop j rest]
          cases Parser.sgrGo 0 (rest.drop j) <;> rfl
        | none =>
          simp only []
          rw [ih j]
          cases nextGo j rest with
          | none => rfl
          | some r => obtain ⟨l, o⟩ := r; cases o with
            | none => rfl
            | some o => simp only []; cases Parser.sgrGo 0 l <;> rfl

theorem collect_fuel (fuel : Nat) (ps : List Param) (h : ps.length < fuel) :
    GenP.SgrOps.collect fuel ⟨ps⟩ = Parser.sgrGo 0 ps := by
  induction fuel generalizing ps with
  | zero => omega
  | succ fuel ih =>
    rw [GenP.SgrOps.collect, SgrOps.next_eq, sgrGo_nextGo]
    cases hn : nextGo 0 ps with
    | none => rfl
    | some r =>
      obtain ⟨l, o⟩ := r
      cases o with
      | none => rfl
      | some o =>
        simp only [Option.map_some]
        rw [ih l (by have := nextGo_length hn; omega)]
        cases Parser.sgrGo 0 l <;> rfl

/-- `SgrOps { ps }.collect()` (generated from `SgrOps::next`) is the model's `sgrOps`, for every parameter list.
    The fuel `ps.length + 1` is the entry for `SgrOps::collect` in `FUEL` of translate/rs2lean_p5.py, written out here
    because no generated function calls this `collect`; the `while let` inside `next` carries the same bound
    (`SgrOps.next_eq`). -/
theorem SgrOps.collect_eq (ps : List Param) :
    GenP.SgrOps.collect (ps.length + 1) ⟨ps⟩ = Parser.sgrOps ps :=
  collect_fuel _ ps (by omega)

theorem Color.rgb_eq (r g b : Nat) : GenP.Color.rgb r g b = Avt.Color.rgb r g b := rfl

/-- hand-kept list of the functions of this module with an equality theorem above -/
def provedFunctions : List String := [
  "Parser::new", "Parser::clear", "Parser::collect", "Parser::param", "Parser::put", "Parser::osc_put",
  "SgrOps::next", "Param::new", "Param::clear", "Param::add_part", "Param::add_digit", "Param::as_u16",
  "Param::parts", "Param::default", "Color::rgb"]

/-- the translator's list against the hand-kept one: a function entering or leaving the translated set fails
    here.  That every listed name has its theorem is by inspection. -/
theorem coverage_complete : GenP.translated = provedFunctions := rfl

theorem untranslated_as_expected : GenP.untranslated = [] := by decide

end Avt.GenEqParser
