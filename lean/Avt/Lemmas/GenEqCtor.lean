/-
  Avt.Lemmas.GenEqCtor — the generated translation of the constructors of src/vt.rs / src/util.rs and of
  `Charset::translate` (Avt/Gen/CtorGen.lean, regenerated from /repo/src by translate/rs2lean_p5.py on every run)
  EQUALS the hand-written model (`Vt.new`, `TextCollector`, `Charset.translate`), for all inputs.
-/
import Avt.Gen.CtorGen
import Avt.Lemmas.GenEqParser
import Avt.Lemmas.GenEqVt


namespace Avt.GenEqCtor
open Avt

theorem Builder.default_eq : GenC.Builder.default = { size := (80, 24), scrollbackLimit := none } := rfl

theorem Vt.builder_eq : GenC.Vt.builder = { size := (80, 24), scrollbackLimit := none } := rfl

theorem Builder.size_eq (b : GenC.Builder) (cols rows : Nat) :
    GenC.Builder.sizeFn b cols rows = { b with size := (cols, rows) } := rfl

theorem Builder.scrollbackLimit_eq (b : GenC.Builder) (limit : Nat) :
    GenC.Builder.scrollbackLimitFn b limit = { b with scrollbackLimit := some limit } := rfl

theorem Builder.build_eq (b : GenC.Builder) :
    GenC.Builder.build b = Avt.Vt.new b.size.1 b.size.2 b.scrollbackLimit := by
  simp only [GenC.Builder.build, Avt.Vt.new, GenEq.new_eq, GenEqParser.new_eq]
  cases Terminal.new b.size.1 b.size.2 b.scrollbackLimit <;> rfl

/-- `Vt::new(cols, rows)` = `Vt::builder().size(cols, rows).build()` is the model's `Vt.new cols rows none` -/
theorem Vt.new_eq (cols rows : Nat) : GenC.Vt.new cols rows = Avt.Vt.new cols rows none := by
  simp only [GenC.Vt.new, Builder.build_eq]; rfl

/-- the full builder chain `Vt::builder().size(c, r).scrollback_limit(l).build()` -/
theorem builder_chain (cols rows limit : Nat) :
    GenC.Builder.build (GenC.Builder.scrollbackLimitFn (GenC.Builder.sizeFn GenC.Vt.builder cols rows) limit)
      = Avt.Vt.new cols rows (some limit) := by
  rw [Builder.build_eq]; rfl

theorem TextUnwrapper.new_eq : GenC.TextUnwrapper.new = { wrappedLine := [] } := rfl

theorem TextCollector.new_eq (vt : Avt.Vt) :
    GenEqVt.absTC (GenC.TextCollector.new vt) = { vt := vt, acc := [] } := rfl

/-- two translators against each other: rs2lean_p5.py copies the array and the range `0x60..0x7f` of
    `Charset::translate` as literals; the model's `Charset.translate` reads them from the `Gen.gfx*` constants
    that avt2lean.py extracts from the same source -/
theorem Charset.translate_eq (cs : Charset) (c : Nat) : GenC.Charset.translate cs c = Avt.Charset.translate cs c := by
  cases cs with
  | ascii => rfl
  | drawing =>
    simp only [GenC.Charset.translate, Avt.Charset.translate, Gen.gfxLo, Gen.gfxHi, Gen.gfxBase, Gen.gfxChars]
    by_cases h : 0x60 ≤ c ∧ c < 0x7f
    · have h' : 96 ≤ c ∧ c ≤ 126 := by omega
      simp only [h, h', and_self, if_true]; cases csub c 96 <;> rfl
    · have h' : ¬ (96 ≤ c ∧ c ≤ 126) := by omega
      simp only [h, h', if_false]

def provedFunctions : List String := [
  "Vt::builder", "Vt::new", "Builder::size", "Builder::scrollback_limit", "Builder::build", "Builder::default",
  "TextUnwrapper::new", "TextCollector::new", "Charset::translate"]

theorem coverage_complete : GenC.translated = provedFunctions := rfl

theorem untranslated_as_expected : GenC.untranslated = [] := by decide

end Avt.GenEqCtor
