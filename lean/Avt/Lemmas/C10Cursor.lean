/-
  Avt.Lemmas.C10Cursor — the cursor's logical place as a function of the row it stands in (`logPos`,
  over `runLen`, the cells of the open run of wrapped rows above it): `cursorLogical` (Spec/C10.lean) is
  `logPos` at the cursor's row, and agrees with the model of `Buffer::logical_position`.
-/
import Avt.Spec.C10
import Avt.Lemmas.Prim
import Avt.Lemmas.C09Text
import Avt.Lemmas.BufferGc

namespace Avt.Lemmas
open Avt Avt.Spec.C10

/-- number of cells in the run of wrapped rows at the end of `ls` -/
def runLen (ls : List Line) : Nat := ((ls.reverse.takeWhile (fun l => l.wrapped)).map Line.len).sum

/-- the cursor's place in the logical text when it stands in row `n`, counted from the top of all
    rows, at column `col` -/
def logPos (ls : List Line) (n col : Nat) : Nat × Nat :=
  ((ls.take n).countP (fun l => !l.wrapped), runLen (ls.take n) + col)

theorem cursorLogical_eq (b : Buffer) (cur : Nat × Nat) :
    cursorLogical b cur = logPos b.lines (b.sb.length + cur.2) cur.1 := rfl

theorem takeWhile_eq_self_iff {α} (p : α → Bool) (l : List α) :
    (l.takeWhile p).length = l.length ↔ l.all p = true := by
  induction l with
  | nil => simp
  | cons x t ih =>
    rw [List.takeWhile_cons]
    cases hx : p x with
    | true => simp [hx, ih]
    | false => simp [hx]

theorem takeWhile_eq_self_of_all {α} (p : α → Bool) (l : List α) (h : l.all p = true) :
    l.takeWhile p = l := by
  have := List.takeWhile_append_of_pos (l₂ := []) (List.all_eq_true.1 h)
  rwa [List.append_nil, List.takeWhile_nil, List.append_nil] at this

theorem runLen_cons (l : Line) (t : List Line) :
    runLen (l :: t) = if t.all (fun l => l.wrapped) = true
      then runLen t + (if l.wrapped then l.len else 0) else runLen t := by
  unfold runLen
  rw [List.reverse_cons, List.takeWhile_append]
  have hall : (t.reverse.all fun l => l.wrapped) = t.all fun l => l.wrapped := by simp
  by_cases h : t.all (fun l => l.wrapped) = true
  · have hself := takeWhile_eq_self_of_all (fun l : Line => l.wrapped) t.reverse (by rw [hall]; exact h)
    rw [hself]
    simp only [if_true, h]
    cases hw : l.wrapped with
    | true => simp [hw, List.sum_append]
    | false => simp [hw]
  · have : ¬ (List.takeWhile (fun l => l.wrapped) t.reverse).length = t.reverse.length := by
      intro hc; exact h (by rw [← hall]; exact (takeWhile_eq_self_iff _ _).1 hc)
    rw [if_neg this, if_neg h]

theorem takeWhile_reverse_of_lastUnwrapped {X : List Line} (h : lastUnwrapped X = true) :
    X.reverse.takeWhile (fun l => l.wrapped) = [] := by
  by_cases hx : X = []
  · subst hx; rfl
  · obtain ⟨ini, l, rfl⟩ := exists_snoc hx
    rw [lastUnwrapped_snoc] at h
    have hl : l.wrapped = false := by simpa using h
    simp [hl]

theorem runLen_append_run {X W : List Line} (hX : lastUnwrapped X = true)
    (hW : ∀ l ∈ W, l.wrapped = true) : runLen (X ++ W) = (W.map Line.len).sum := by
  unfold runLen
  rw [List.reverse_append, List.takeWhile_append_of_pos fun a ha => hW a (List.mem_reverse.1 ha),
    takeWhile_reverse_of_lastUnwrapped hX, List.append_nil, List.map_reverse, List.sum_reverse_nat]

theorem sum_len_const {W : List Line} {c : Nat} (h : ∀ l ∈ W, l.len = c) :
    (W.map Line.len).sum = W.length * c := by
  induction W with
  | nil => simp
  | cons l t ih =>
    simp only [List.map_cons, List.sum_cons, List.length_cons, Nat.add_mul, Nat.one_mul]
    rw [ih (fun x hx => h x (by simp [hx])), h l (by simp)]; omega

/-- the offset carried in survives only while no unwrapped row has been crossed (an unwrapped row
    resets it to 0): hence the `if` -/
theorem logLoop_spec (cols : Nat) : ∀ (ls : List Line) (off row : Nat), (∀ l ∈ ls, l.len = cols) →
    Buffer.logLoop cols ls off row
      = ((if ls.all (fun l => l.wrapped) = true then off else 0) + runLen ls,
         row + ls.countP (fun l => !l.wrapped))
  | [], off, row, _ => by simp [Buffer.logLoop, runLen]
  | l :: t, off, row, h => by
    have hl : l.len = cols := h l (by simp)
    have ht : ∀ x ∈ t, x.len = cols := fun x hx => h x (by simp [hx])
    unfold Buffer.logLoop
    cases hw : l.wrapped with
    | true =>
      rw [if_pos rfl, logLoop_spec cols t _ _ ht, runLen_cons]
      by_cases hall : t.all (fun l => l.wrapped) = true
      · simp [hall, hw, hl]; omega
      · simp [hall, hw]
    | false =>
      rw [if_neg (by simp), logLoop_spec cols t _ _ ht, runLen_cons]
      by_cases hall : t.all (fun l => l.wrapped) = true
      · simp [hall, hw]; omega
      · simp [hall, hw]; omega

/-- On a well-formed buffer (`view.length = rows`, every row `cols` wide) and a
    cursor row inside the screen, the structural `cursorLogical` is exactly what
    `Buffer::logical_position` computes (as `(offset, line)`) -/
theorem cursorLogical_eq_logicalPosition {b : Buffer} {cur : Nat × Nat}
    (hview : b.view.length = b.rows) (hlens : ∀ l ∈ b.lines, l.len = b.cols) (hcur : cur.2 < b.rows) :
    Buffer.logicalPosition b.lines cur b.cols b.rows
      = some ((cursorLogical b cur).2, (cursorLogical b cur).1) := by
  have hlen := Buffer.lines_length hview
  unfold Buffer.logicalPosition
  have hcs : csub b.lines.length b.rows = some b.sb.length := by
    unfold csub; rw [hlen]; simp
  simp only [hcs]
  have hmin : min (cur.2 + b.sb.length) b.lines.length = cur.2 + b.sb.length := by omega
  rw [hmin, Nat.sub_self]
  have htake : ∀ l ∈ b.lines.take (cur.2 + b.sb.length), l.len = b.cols :=
    fun l hl => hlens l (List.mem_of_mem_take hl)
  rw [logLoop_spec b.cols _ 0 0 htake]
  simp only [cursorLogical, Nat.zero_add, ite_self, runLen, Nat.add_comm b.sb.length cur.2,
    Nat.add_comm cur.1]

end Avt.Lemmas
