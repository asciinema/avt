/-
  Avt.Lemmas.C09Text — characterisation of `Buffer.text` (`textGo`) and of `TextUnwrapper`
  (`unwrapPush` / `unwrapMany`), and the `trimEnd` lemmas they need.
-/
import Avt.Spec.C09
import Avt.Lemmas.C09Rstrip
import Avt.Lemmas.Reflow

namespace Avt.Lemmas
open Avt

theorem trimEnd_eq (s : List Nat) : trimEnd s = rstrip isWhitespace s := rfl

theorem trimEnd_nil : trimEnd [] = [] := rfl

theorem trimEnd_append_ws {xs ws : List Nat} (h : ∀ c ∈ ws, isWhitespace c = true) :
    trimEnd (xs ++ ws) = trimEnd xs := rstrip_append_of_all _ h

theorem trimEnd_append_spaces (xs : List Nat) (k : Nat) :
    trimEnd (xs ++ List.replicate k 0x20) = trimEnd xs :=
  trimEnd_append_ws (by intro c hc; rw [(List.mem_replicate.1 hc).2]; decide)

theorem trimEnd_append_trimEnd (a b : List Nat) : trimEnd (a ++ trimEnd b) = trimEnd (a ++ b) :=
  rstrip_append_rstrip _ a b

theorem trimEnd_prefix (s : List Nat) : trimEnd s <+: s := rstrip_prefix _ s

theorem trimEnd_append_of_ne {a b : List Nat} (h : trimEnd b ≠ []) :
    trimEnd (a ++ b) = a ++ trimEnd b := rstrip_append_of_ne _ h

theorem trimEnd_eq_nil_iff {b : List Nat} : trimEnd b = [] ↔ ∀ c ∈ b, isWhitespace c = true :=
  rstrip_eq_nil_iff _

theorem trimEnd_decomp (s : List Nat) : ∃ ws, s = trimEnd s ++ ws ∧ ∀ c ∈ ws, isWhitespace c = true :=
  rstrip_decomp _ s

/-- the texts of the rows joined along wrap marks, starting from an open text `cur` (the shape of
    `textGo` without the trimming: a trailing open text is emitted only when it is non-empty, as the
    Rust code does) -/
def joinText : List Line → List Nat → List (List Nat)
  | [], cur => if cur.isEmpty then [] else [cur]
  | l :: ls, cur => if l.wrapped then joinText ls (cur ++ l.text) else (cur ++ l.text) :: joinText ls []

/-- `Buffer::text` of a list of rows = for each maximal group of rows joined along wrap marks,
    `trimEnd` of the concatenated characters -/
theorem textGo_spec (ls : List Line) (cur : List Nat) :
    Buffer.textGo ls cur = (joinText ls cur).map trimEnd := by
  induction ls generalizing cur with
  | nil =>
    simp only [Buffer.textGo, joinText]
    split <;> simp
  | cons l t ih =>
    simp only [Buffer.textGo, joinText]
    cases hw : l.wrapped with
    | true => simp [ih]
    | false => simp [ih]

theorem text_spec (b : Buffer) : b.text = (joinText b.lines []).map trimEnd := textGo_spec _ _

theorem _root_.Avt.Terminal.text_alt {t : Terminal} (ha : t.activeBufferType = .alternate) :
    t.text = t.otherBuffer.text := by
  simp [Terminal.text, Terminal.primaryBuffer, ha]

theorem _root_.Avt.Terminal.text_prim {t : Terminal} (hp : t.activeBufferType = .primary) :
    t.text = t.buffer.text := by
  simp [Terminal.text, Terminal.primaryBuffer, hp]

theorem joinText_cons_unwrapped {l : Line} (h : l.wrapped = false) (t : List Line) (cur : List Nat) :
    joinText (l :: t) cur = (cur ++ l.text) :: joinText t [] := by
  simp [joinText, h]

theorem joinText_cons_wrapped {l : Line} (h : l.wrapped = true) (t : List Line) (cur : List Nat) :
    joinText (l :: t) cur = joinText t (cur ++ l.text) := by
  simp [joinText, h]

/-- rows up to and including an unwrapped row close their logical lines: the text of what follows
    starts afresh -/
theorem joinText_append {xs : List Line} (h : lastUnwrapped xs = true) (hne : xs ≠ []) (ys : List Line)
    (cur : List Nat) : joinText (xs ++ ys) cur = joinText xs cur ++ joinText ys [] := by
  induction xs generalizing cur with
  | nil => exact absurd rfl hne
  | cons l t ih =>
    cases t with
    | nil =>
      have hl : l.wrapped = false := lastUnwrapped_singleton h
      simp [joinText, hl]
    | cons l2 t2 =>
      have h' : lastUnwrapped (l2 :: t2) = true := lastUnwrapped_tail h
      cases hw : l.wrapped with
      | false =>
        rw [List.cons_append, joinText_cons_unwrapped hw, joinText_cons_unwrapped hw,
          ih h' (by simp)]
        rfl
      | true =>
        rw [List.cons_append, joinText_cons_wrapped hw, joinText_cons_wrapped hw, ih h' (by simp)]

theorem textGo_append {xs : List Line} (h : lastUnwrapped xs = true) (hne : xs ≠ []) (ys : List Line)
    (cur : List Nat) : Buffer.textGo (xs ++ ys) cur = Buffer.textGo xs cur ++ Buffer.textGo ys [] := by
  rw [textGo_spec, textGo_spec, textGo_spec, joinText_append h hne, List.map_append]

/-- with nothing carried over the split may also be empty -/
theorem textGo_append_nil {xs : List Line} (h : lastUnwrapped xs = true) (ys : List Line) :
    Buffer.textGo (xs ++ ys) [] = Buffer.textGo xs [] ++ Buffer.textGo ys [] := by
  cases xs with
  | nil => rfl
  | cons x xs => exact textGo_append h (List.cons_ne_nil _ _) ys []

/-- what `TextUnwrapper` emits for a list of rows, starting from accumulator `acc`: the wrapped rows
    are accumulated untrimmed, the closing row is trimmed on its own -/
def unwrapOut : List Line → List Nat → List (List Nat)
  | [], _ => []
  | l :: ls, acc =>
    if l.wrapped then unwrapOut ls (acc ++ l.text) else (acc ++ trimEnd l.text) :: unwrapOut ls []

/-- the accumulator `TextUnwrapper` is left with -/
def unwrapAcc : List Line → List Nat → List Nat
  | [], acc => acc
  | l :: ls, acc => if l.wrapped then unwrapAcc ls (acc ++ l.text) else unwrapAcc ls []

theorem unwrapMany_spec (ls : List Line) (acc : List Nat) :
    unwrapMany acc ls = (unwrapAcc ls acc, unwrapOut ls acc) := by
  induction ls generalizing acc with
  | nil => rfl
  | cons l t ih =>
    simp only [unwrapMany, unwrapPush, unwrapAcc, unwrapOut]
    cases hw : l.wrapped with
    | true => simp [ih]
    | false => simp [ih]

/-- `TextUnwrapper` is a fold that commutes with list append -/
theorem unwrapMany_append (xs ys : List Line) (acc : List Nat) :
    unwrapMany acc (xs ++ ys) =
      ((unwrapMany (unwrapMany acc xs).1 ys).1,
       (unwrapMany acc xs).2 ++ (unwrapMany (unwrapMany acc xs).1 ys).2) := by
  induction xs generalizing acc with
  | nil => simp [unwrapMany]
  | cons l t ih =>
    simp only [List.cons_append, unwrapMany, unwrapPush]
    cases hw : l.wrapped with
    | true => simp [ih]
    | false => simp [ih]

theorem unwrapOut_cons_wrapped {l : Line} (h : l.wrapped = true) (t : List Line) (acc : List Nat) :
    unwrapOut (l :: t) acc = unwrapOut t (acc ++ l.text) := by
  simp [unwrapOut, h]

theorem unwrapOut_cons_unwrapped {l : Line} (h : l.wrapped = false) (t : List Line) (acc : List Nat) :
    unwrapOut (l :: t) acc = (acc ++ trimEnd l.text) :: unwrapOut t [] := by
  simp [unwrapOut, h]

theorem textGo_cons_wrapped {l : Line} (h : l.wrapped = true) (t : List Line) (cur : List Nat) :
    Buffer.textGo (l :: t) cur = Buffer.textGo t (cur ++ l.text) := by
  simp [Buffer.textGo, h]

theorem textGo_cons_unwrapped {l : Line} (h : l.wrapped = false) (t : List Line) (cur : List Nat) :
    Buffer.textGo (l :: t) cur = trimEnd (cur ++ l.text) :: Buffer.textGo t [] := by
  simp [Buffer.textGo, h]

/-- each emitted unwrapped line is the text of the joined rows with the *final row* trimmed: it
    agrees with `Buffer::text` up to trailing white space.  `∨ ls = []`: on no rows `textGo` still
    emits a non-empty open text `acc`, `unwrapOut` emits nothing. -/
theorem unwrapOut_trimEnd (ls : List Line) (acc : List Nat) (h : lastUnwrapped ls = true) :
    (unwrapOut ls acc).map trimEnd = Buffer.textGo ls acc ∨ ls = [] := by
  induction ls generalizing acc with
  | nil => exact Or.inr rfl
  | cons l t ih =>
    left
    cases t with
    | nil =>
      have hl : l.wrapped = false := lastUnwrapped_singleton h
      rw [unwrapOut_cons_unwrapped hl, textGo_cons_unwrapped hl]
      simp [unwrapOut, Buffer.textGo, trimEnd_append_trimEnd]
    | cons l2 t2 =>
      have h' : lastUnwrapped (l2 :: t2) = true := lastUnwrapped_tail h
      cases hw : l.wrapped with
      | true =>
        rcases ih (acc ++ l.text) h' with h1 | h1
        · rw [unwrapOut_cons_wrapped hw, textGo_cons_wrapped hw, h1]
        · simp at h1
      | false =>
        rcases ih [] h' with h1 | h1
        · rw [unwrapOut_cons_unwrapped hw, textGo_cons_unwrapped hw, List.map_cons, h1,
            trimEnd_append_trimEnd]
        · simp at h1

theorem unwrapOut_append {xs : List Line} (h : lastUnwrapped xs = true) (hne : xs ≠ []) (ys : List Line)
    (acc : List Nat) : unwrapOut (xs ++ ys) acc = unwrapOut xs acc ++ unwrapOut ys [] := by
  induction xs generalizing acc with
  | nil => exact absurd rfl hne
  | cons l t ih =>
    cases t with
    | nil =>
      have hl : l.wrapped = false := lastUnwrapped_singleton h
      rw [List.cons_append, unwrapOut_cons_unwrapped hl, unwrapOut_cons_unwrapped hl]
      simp [unwrapOut]
    | cons l2 t2 =>
      have h' : lastUnwrapped (l2 :: t2) = true := lastUnwrapped_tail h
      cases hw : l.wrapped with
      | false =>
        rw [List.cons_append, unwrapOut_cons_unwrapped hw, unwrapOut_cons_unwrapped hw, ih h' (by simp)]
        rfl
      | true =>
        rw [List.cons_append, unwrapOut_cons_wrapped hw, unwrapOut_cons_wrapped hw, ih h' (by simp)]

theorem unwrapOut_append_nil {xs : List Line} (h : lastUnwrapped xs = true) (ys : List Line) :
    unwrapOut (xs ++ ys) [] = unwrapOut xs [] ++ unwrapOut ys [] := by
  cases xs with
  | nil => rfl
  | cons x xs => exact unwrapOut_append h (List.cons_ne_nil _ _) ys []

open Avt.Spec.C09 in
theorem prefixwise_append {A B : List (List Nat)} (hlen : A.length = B.length)
    (h : prefixwise A B = true) {A' B' : List (List Nat)} (h' : prefixwise A' B' = true) :
    prefixwise (A ++ A') (B ++ B') = true := by
  induction A generalizing B with
  | nil =>
    cases B with
    | nil => exact h'
    | cons _ _ => simp at hlen
  | cons a as ih =>
    cases B with
    | nil => simp at hlen
    | cons b bs =>
      simp only [prefixwise, Bool.and_eq_true] at h
      simp only [List.cons_append, prefixwise, Bool.and_eq_true]
      exact ⟨h.1, ih (by simpa using hlen) h.2⟩

/-- `TextUnwrapper` over all rows of a buffer whose last row is unwrapped gives `text()` up to
    trailing white space (C09, second clause, as a statement about any buffer) -/
theorem unwrap_text (ls : List Line) (h : lastUnwrapped ls = true) :
    (unwrapMany [] ls).2.map trimEnd = Buffer.textGo ls [] := by
  rw [unwrapMany_spec]
  rcases unwrapOut_trimEnd ls [] h with h1 | h1
  · exact h1
  · subst h1; rfl

end Avt.Lemmas
