/-
  Avt.Lemmas.ParserSeq — the reference parser on whole sequences: control strings, CSI and ESC
  sequences, single controls; what the resting parser does with a printable character and with a
  control (`feed_ground_print`, `feed_ground_ctl`).
-/
import Avt.Lemmas.ParserSem
import Avt.Spec.C20

namespace Avt.ParserSeq
open Avt Avt.Lookup Avt.Spec.C03 Avt.Spec.C20 Avt.ParserTable Avt.ParserSem

theorem refRun_append (a : AState) (s t : List Nat) :
    refRun a (s ++ t) = ((refRun (refRun a s).1 t).1, (refRun a s).2 ++ (refRun (refRun a s).1 t).2) := by
  induction s generalizing a with
  | nil => simp [refRun]
  | cons c cs ih =>
    simp only [List.cons_append, refRun, ih, List.append_assoc]

theorem refStep_state (a : AState) (c : Nat) : (refStep a c).1.state = (williams a.state c).2 := by
  unfold refStep
  generalize williams a.state c = w
  obtain ⟨k, s⟩ := w
  cases k <;> rfl

/-- kinds of transition that emit no function -/
def silent : Kind → Bool
  | .ignore | .put | .oscPut | .collect | .param | .clear => true
  | _ => false

theorem refStep_silent (a : AState) (c : Nat) (h : silent (williams a.state c).1 = true) :
    (refStep a c).2 = none := by
  unfold refStep
  generalize williams a.state c = w at h
  obtain ⟨k, s⟩ := w
  cases k <;> first | rfl | cases h

theorem refStep_ignore {a : AState} {c : Nat} {s : PState} (h : williams a.state c = (.ignore, s)) :
    refStep a c = ({ a with state := s }, none) := by unfold refStep; rw [h]

theorem refStep_collect {a : AState} {c : Nat} {s : PState} (h : williams a.state c = (.collect, s)) :
    refStep a c = ({ a with state := s, interm := some c }, none) := by unfold refStep; rw [h]

theorem refStep_param {a : AState} {c : Nat} {s : PState} (h : williams a.state c = (.param, s)) :
    refStep a c = ({ a with state := s, ps := stepW a.ps c }, none) := by unfold refStep; rw [h]

theorem refStep_clear {a : AState} {c : Nat} {s : PState} (h : williams a.state c = (.clear, s)) :
    refStep a c = ({ state := s, interm := none, ps := [[0]] }, none) := by unfold refStep; rw [h]

theorem refStep_execute {a : AState} {c : Nat} {s : PState} (h : williams a.state c = (.execute, s)) :
    refStep a c = ({ a with state := s }, refExecute c) := by unfold refStep; rw [h]

theorem refStep_dispatchCsi {a : AState} {c : Nat} {s : PState} (h : williams a.state c = (.dispatchCsi, s)) :
    refStep a c = ({ a with state := s }, refDispatchCsi a.interm c a.ps) := by unfold refStep; rw [h]

theorem refStep_dispatchEsc {a : AState} {c : Nat} {s : PState} (h : williams a.state c = (.dispatchEsc, s)) :
    refStep a c = ({ a with state := s }, refDispatchEsc a.interm c) := by unfold refStep; rw [h]

theorem forall_range {P : Nat → Prop} (lo n : Nat) (h : ∀ c ∈ List.range' lo n, P c) :
    ∀ c, lo ≤ c → c < lo + n → P c :=
  fun c h1 h2 => h c (List.mem_range'_1.2 ⟨h1, h2⟩)

theorem williams_st (st : PState) : williams st 0x9C = (.ignore, .Ground) := williams_anywhere rfl st

theorem refStep_esc (a : AState) : refStep a 0x1B = ({ state := .Escape, interm := none, ps := [[0]] }, none) :=
  refStep_clear (introducers_anywhere a.state).1

/-- what a payload character may do in a state of a control string of kind `k`: emit nothing, clear
    nothing, stay inside the string -/
def strOK (k : StrKind) (w : Kind × PState) (payloadChar : Bool) : Bool :=
  !payloadChar || (silent w.1 && w.1 != .clear && (strStates k).contains w.2)

/-- the endpoints of the ranges of `payloadCharOK` -/
def strExtra : List Nat := [0x20, 0x80, 0xA0, 0x110000, 0x00, 0x18, 0x19, 0x1A, 0x1C, 0x07, 0x08]

theorem stable_payloadCharOK (k : StrKind) : Stable strExtra (fun c => payloadCharOK k c) := by
  intro c d a
  have h1 := stable_inR (B := strExtra) (lo := 0x20) (hi := 0x7F) (by decide) (by decide) c d a
  have h2 := stable_inR (B := strExtra) (lo := 0xA0) (hi := 0x10FFFF) (by decide) (by decide) c d a
  have h3 := stable_inR (B := strExtra) (lo := 0x00) (hi := 0x17) (by decide) (by decide) c d a
  have h4 := stable_inR (B := strExtra) (lo := 0x19) (hi := 0x19) (by decide) (by decide) c d a
  have h5 := stable_inR (B := strExtra) (lo := 0x1C) (hi := 0x1F) (by decide) (by decide) c d a
  have h6 := stable_inR (B := strExtra) (lo := 0x07) (hi := 0x07) (by decide) (by decide) c d a
  simp only at h1 h2 h3 h4 h5 h6
  simp only [payloadCharOK, h1, h2, h3, h4, h5, h6]

theorem strOK_all (k : StrKind) :
    ∀ st ∈ strStates k, ∀ c, strOK k (williams st c) (payloadCharOK k c) = true :=
  williams_forall (strStates k) strExtra (stable_payloadCharOK k) (strOK k) (by cases k <;> decide +kernel)

theorem str_payload (k : StrKind) (payload : List Nat) (a : AState)
    (ha : (strStates k).contains a.state = true) (hp : payloadOK k payload = true) :
    (refRun a payload).2 = [] ∧ (strStates k).contains (refRun a payload).1.state = true := by
  induction payload generalizing a with
  | nil => exact ⟨rfl, ha⟩
  | cons c cs ih =>
    simp only [payloadOK, List.all_cons, Bool.and_eq_true] at hp
    have hf := strOK_all k a.state (List.contains_iff_mem.1 ha) c
    simp only [strOK, hp.1, Bool.not_true, Bool.false_or, Bool.and_eq_true] at hf
    have hs := refStep_silent a c hf.1.1
    have hst := refStep_state a c
    have := ih (refStep a c).1 (by rw [hst]; exact hf.2) hp.2
    simp only [refRun, hs, Option.toList_none, List.nil_append]
    exact this

theorem williams_intro8 (k : StrKind) : silent (williams .Ground k.intro8).1 = true
    ∧ (strStates k).contains (williams .Ground k.intro8).2 = true := by cases k <;> decide

theorem str_intro (k : StrKind) (intro : List Nat) (hi : intro ∈ k.intros) (a : AState) (ha : a.state = .Ground) :
    (refRun a intro).2 = [] ∧ (strStates k).contains (refRun a intro).1.state = true := by
  obtain ⟨st, im, ps⟩ := a
  simp only at ha
  subst ha
  simp only [StrKind.intros, List.mem_cons, List.not_mem_nil, or_false] at hi
  rcases hi with rfl | rfl
  · simp only [refRun, refStep_esc]
    cases k <;> decide
  · simp only [refRun]
    have h1 := refStep_silent ⟨.Ground, im, ps⟩ k.intro8 (williams_intro8 k).1
    have h2 := refStep_state ⟨.Ground, im, ps⟩ k.intro8
    rw [h1, h2]
    exact ⟨rfl, (williams_intro8 k).2⟩

theorem str_term (k : StrKind) (term : List Nat) (ht : term ∈ k.terms) (a : AState)
    (ha : (strStates k).contains a.state = true) :
    (refRun a term).2 = [] ∧ (refRun a term).1.state = .Ground := by
  simp only [StrKind.terms, List.mem_append, List.mem_cons, List.not_mem_nil, or_false] at ht
  rcases ht with (rfl | rfl) | ht
  · simp only [refRun, refStep_esc]
    decide
  · simp [refRun, refStep_ignore (williams_st a.state)]
  · split at ht
    · rename_i hk
      subst hk
      simp only [List.mem_cons, List.not_mem_nil, or_false] at ht
      subst ht
      have hs : a.state = .OscString := by simpa [strStates] using ha
      have hw : williams a.state 0x07 = (.ignore, .Ground) := by rw [hs]; decide
      simp [refRun, refStep_ignore hw]
    · cases ht

theorem str_inert (k : StrKind) (intro payload term : List Nat) (hi : intro ∈ k.intros)
    (hp : payloadOK k payload = true) (ht : term ∈ k.terms) (a : AState) (ha : a.state = .Ground) :
    (refRun a (intro ++ payload ++ term)).2 = [] ∧ (refRun a (intro ++ payload ++ term)).1.state = .Ground := by
  have h1 := str_intro k intro hi a ha
  have h2 := str_payload k payload _ h1.2 hp
  have h3 := str_term k term ht _ h2.2
  rw [refRun_append, refRun_append]
  simp only [h1.1, h2.1, h3.1, List.append_nil]
  exact ⟨trivial, h3.2⟩

/-- intermediates, from any of the states `S` that collect them on the way to `T`: nothing is emitted
    and only the last one is kept -/
theorem ints_run {S : List PState} {T : PState} (hT : T ∈ S)
    (hw : ∀ st ∈ S, ∀ c, 0x20 ≤ c → c ≤ 0x2F → williams st c = (.collect, T))
    (ints : List Nat) (a : AState) (ha : a.state ∈ S) (hi : ints.all (inR 0x20 0x2F) = true) :
    (refRun a ints).2 = [] ∧ (refRun a ints).1.ps = a.ps
      ∧ (refRun a ints).1.state = (if ints.isEmpty then a.state else T)
      ∧ (refRun a ints).1.interm = (match ints.getLast? with | some i => some i | none => a.interm) := by
  induction ints generalizing a with
  | nil => exact ⟨rfl, rfl, rfl, rfl⟩
  | cons c cs ih =>
    simp only [List.all_cons, Bool.and_eq_true, inR_iff] at hi
    simp only [refRun, refStep_collect (hw a.state ha c hi.1.1 hi.1.2), Option.toList_none, List.nil_append]
    have := ih { a with state := T, interm := some c } hT hi.2
    refine ⟨this.1, this.2.1, ?_, ?_⟩
    · rw [this.2.2.1]; cases cs <;> rfl
    · rw [this.2.2.2]
      cases cs with
      | nil => rfl
      | cons d ds =>
        rw [List.getLast?_cons_cons]
        cases h : (d :: ds).getLast? with
        | none => simp at h
        | some x => rfl

/-- the CSI states other than `CsiIgnore`: where an intermediate is collected and a final dispatches
    (`csi_int_w`, `csi_final_w`); a well-formed body stays in them up to its final (`csi_run`) -/
def csiLive : List PState := [.CsiEntry, .CsiParam, .CsiIntermediate]

theorem csi_final_w : ∀ st ∈ csiLive, ∀ c, 0x40 ≤ c → c ≤ 0x7E → williams st c = (.dispatchCsi, .Ground) :=
  williams_span _ _ _ _ (by decide)

theorem csi_int_w : ∀ st ∈ csiLive, ∀ c, 0x20 ≤ c → c ≤ 0x2F → williams st c = (.collect, .CsiIntermediate) :=
  williams_span _ _ _ _ (by decide)

theorem csi_param_w : ∀ c, 0x30 ≤ c → c ≤ 0x3B → williams .CsiParam c = (.param, .CsiParam) :=
  williams_span [.CsiParam] _ _ _ (by decide) _ List.mem_cons_self

theorem csi_entry_param_w : ∀ c, 0x30 ≤ c → c ≤ 0x3B → c ≠ 0x3A → williams .CsiEntry c = (.param, .CsiParam) := by
  intro c h1 h2 h3
  by_cases h : c ≤ 0x39
  · exact williams_span [.CsiEntry] 0x30 0x39 _ (by decide) _ List.mem_cons_self c h1 h
  · obtain rfl : c = 0x3B := by omega
    decide

theorem csi_marker_w : ∀ c, 0x3C ≤ c → c ≤ 0x3F → williams .CsiEntry c = (.collect, .CsiParam) :=
  williams_span [.CsiEntry] _ _ _ (by decide) _ List.mem_cons_self

theorem csi_intro_run (intro : List Nat) (hi : intro = [0x1B, 0x5B] ∨ intro = [0x9B]) (a : AState) :
    refRun a intro = ({ state := .CsiEntry, interm := none, ps := [[0]] }, []) := by
  rcases hi with rfl | rfl
  · simp only [refRun, refStep_esc]
    rw [refStep_clear (a := { state := .Escape, interm := none, ps := [[0]] }) (s := .CsiEntry) (by decide)]
    rfl
  · simp only [refRun, refStep_clear (introducers_anywhere a.state).2.1]
    rfl

/-- in state `st` the characters satisfying `okc` are handed to `Parser::param` and nothing else
    happens (`CsiParam`: `0`–`9`, `:`, `;`;  `DcsParam`: `0`–`9`, `;`) -/
def ParamState (st : PState) (okc : Nat → Prop) : Prop := ∀ c, okc c → williams st c = (.param, st)

theorem paramState_csi : ParamState .CsiParam (fun c => 0x30 ≤ c ∧ c ≤ 0x3b) :=
  fun c hc => csi_param_w c hc.1 hc.2

theorem params_run {st : PState} {okc : Nat → Prop} (H : ParamState st okc) (params : List Nat) (a : AState)
    (ha : a.state = st) (hp : ∀ c ∈ params, okc c) :
    refRun a params = ({ a with ps := params.foldl stepW a.ps }, []) := by
  induction params generalizing a with
  | nil => rfl
  | cons c cs ih =>
    have hw : williams a.state c = (.param, st) := by rw [ha]; exact H c (hp c List.mem_cons_self)
    simp only [refRun, refStep_param hw, List.foldl_cons]
    rw [ih _ rfl fun x hx => hp x (List.mem_cons_of_mem _ hx)]
    simp only [Option.toList_none, List.nil_append, ← ha]

theorem csi_params_run (params : List Nat) (a : AState) (ha : a.state = .CsiParam)
    (hp : params.all (inR 0x30 0x3B) = true) :
    refRun a params = ({ a with ps := params.foldl stepW a.ps }, []) :=
  params_run paramState_csi params a ha fun c hc => (inR_iff _ _ _).1 (List.all_eq_true.1 hp c hc)

/-- optional private marker, then a parameter string not starting with `:`, from an entry state (CSI or DCS) -/
theorem entry_run {stE stP : PState} {okc : Nat → Prop} (H : ParamState stP okc)
    (hfirst : ∀ c, okc c → c ≠ 0x3A → williams stE c = (.param, stP))
    (hmarker : ∀ c, 0x3C ≤ c → c ≤ 0x3F → williams stE c = (.collect, stP))
    (marker : Option Nat) (hm : ∀ m, marker = some m → 0x3C ≤ m ∧ m ≤ 0x3F)
    (params : List Nat) (hp : ∀ c ∈ params, okc c) (hh : marker.isSome = true ∨ params.head? ≠ some 0x3A) :
    ∃ st, (st = stP ∨ (st = stE ∧ marker = none ∧ params = [])) ∧
      refRun { state := stE, interm := none, ps := [[0]] } (marker.toList ++ params)
        = ({ state := st, interm := marker, ps := parseParams params }, []) := by
  cases marker with
  | some m =>
    refine ⟨stP, .inl rfl, ?_⟩
    obtain ⟨m1, m2⟩ := hm m rfl
    simp only [Option.toList_some, List.cons_append, List.nil_append, refRun]
    rw [refStep_collect (a := { state := stE, interm := none, ps := [[0]] }) (hmarker m m1 m2),
      params_run H params _ rfl hp]
    rfl
  | none =>
    cases params with
    | nil => exact ⟨stE, .inr ⟨rfl, rfl, rfl⟩, rfl⟩
    | cons d ds =>
      have hd : d ≠ 0x3A := by
        rcases hh with h | h
        · cases h
        · simpa using h
      refine ⟨stP, .inl rfl, ?_⟩
      simp only [Option.toList_none, List.nil_append, refRun]
      rw [refStep_param (a := { state := stE, interm := none, ps := [[0]] }) (hfirst d (hp d List.mem_cons_self) hd),
        params_run H ds _ rfl fun x hx => hp x (List.mem_cons_of_mem _ hx)]
      rfl

theorem csi_run (t : CsiText) (ht : t.wf = true) :
    refRun { state := .CsiEntry, interm := none, ps := [[0]] } t.body
      = ({ state := .Ground, interm := t.eff, ps := parseParams t.params }, t.fn.toList) := by
  obtain ⟨marker, params, ints, final⟩ := t
  simp only [CsiText.wf, Bool.and_eq_true, Bool.or_eq_true, bne_iff_ne, ne_eq] at ht
  obtain ⟨⟨⟨⟨hm, hp⟩, hcolon⟩, hi⟩, hf⟩ := ht
  rw [inR_iff] at hf
  have hAB : ∃ st, st ∈ csiLive ∧ refRun { state := .CsiEntry, interm := none, ps := [[0]] } (marker.toList ++ params)
      = ({ state := st, interm := marker, ps := parseParams params }, []) := by
    obtain ⟨st, hst, h⟩ := entry_run paramState_csi (fun c hc h => csi_entry_param_w c hc.1 hc.2 h) csi_marker_w marker
      (fun m e => by subst e; exact (inR_iff _ _ _).1 hm) params
      (fun c hc => (inR_iff _ _ _).1 (List.all_eq_true.1 hp c hc)) (hcolon.imp_right fun h => by simpa using h)
    refine ⟨st, ?_, h⟩
    rcases hst with rfl | ⟨rfl, -⟩ <;> decide
  obtain ⟨st, hst, hAB⟩ := hAB
  have hC := ints_run (T := .CsiIntermediate) (by decide) csi_int_w ints
    { state := st, interm := marker, ps := parseParams params } hst hi
  have hS : (refRun { state := st, interm := marker, ps := parseParams params } ints).1.state ∈ csiLive := by
    rw [hC.2.2.1]
    split
    · exact hst
    · decide
  have hw := csi_final_w _ hS final hf.1 hf.2
  unfold CsiText.body
  simp only
  rw [refRun_append, refRun_append, hAB]
  simp only [refRun, refStep_dispatchCsi hw, hC.1, hC.2.1, hC.2.2.2, List.nil_append, List.append_nil]
  rfl

theorem esc_int_w : ∀ st ∈ [PState.Escape, PState.EscapeIntermediate], ∀ c, 0x20 ≤ c → c ≤ 0x2F →
    williams st c = (.collect, .EscapeIntermediate) :=
  williams_span _ _ _ _ (by decide)

theorem escint_final_w : ∀ c, 0x30 ≤ c → c ≤ 0x7E → williams .EscapeIntermediate c = (.dispatchEsc, .Ground) :=
  williams_span [.EscapeIntermediate] _ _ _ (by decide) _ List.mem_cons_self

-- `0x30 + 79` is `0x7E + 1`: the finals `0x30 ..= 0x7E`, in the shape `forall_range` gives, so that the
-- check is a `decide` over `List.range' 0x30 79`
theorem esc_final_w : ∀ c, 0x30 ≤ c → c < 0x30 + 79 → escIntroducers.contains c = false →
    williams .Escape c = (.dispatchEsc, .Ground) := by
  apply forall_range
  decide +kernel

theorem esc_run (t : EscText) (ht : t.wf = true) :
    refRun { state := .Escape, interm := none, ps := [[0]] } t.body
      = ({ state := .Ground, interm := t.ints.getLast?, ps := [[0]] }, t.fn.toList) := by
  obtain ⟨ints, final⟩ := t
  simp only [EscText.wf, Bool.and_eq_true, Bool.or_eq_true, Bool.not_eq_true'] at ht
  obtain ⟨⟨hi, hf⟩, hintro⟩ := ht
  rw [inR_iff] at hf
  have hC := ints_run (T := .EscapeIntermediate) (by decide) esc_int_w ints
    { state := .Escape, interm := none, ps := [[0]] } (by decide) hi
  have hw : williams (refRun { state := .Escape, interm := none, ps := [[0]] } ints).1.state final
      = (.dispatchEsc, .Ground) := by
    rw [hC.2.2.1]
    cases ints with
    | nil =>
      have : escIntroducers.contains final = false := by
        rcases hintro with h | h
        · cases h
        · exact h
      exact esc_final_w final hf.1 (by omega) this
    | cons d ds => exact escint_final_w final hf.1 hf.2
  unfold EscText.body EscText.fn
  simp only
  rw [refRun_append]
  simp only [refRun, refStep_dispatchEsc hw, hC.1, hC.2.1, hC.2.2.2, List.nil_append, List.append_nil]
  cases h : ints.getLast? <;> rfl

theorem control_w {c : Nat} (hc : unassignedControl c = true) :
    williams .Ground c = (.ignore, .Ground) ∨ (williams .Ground c = (.execute, .Ground) ∧ refExecute c = none) := by
  have hm : c ∈ List.range' 0 0x20 ++ List.range' 0x80 0x20 := by
    have := hc
    simp only [unassignedControl, Bool.and_eq_true, Bool.or_eq_true, inR_iff] at this
    rw [List.mem_append, List.mem_range'_1, List.mem_range'_1]
    omega
  -- a finite check over the C0 and C1 controls: `∀ c ∈ …, unassignedControl c = true → …`
  revert hc
  revert c
  decide +kernel

theorem control_run (c : Nat) (hc : unassignedControl c = true) (a : AState) (ha : a.state = .Ground) :
    refStep a c = (a, none) := by
  obtain ⟨st, im, ps⟩ := a
  simp only at ha
  subst ha
  rcases control_w hc with h | ⟨h, he⟩
  · rw [refStep_ignore (a := ⟨.Ground, im, ps⟩) h]
  · rw [refStep_execute (a := ⟨.Ground, im, ps⟩) h, he]

/-- the value of a decimal digit string -/
def decVal (ds : List Nat) : Nat := ds.foldl (fun v c => 10 * v + (c - 0x30)) 0

/-- a single number is read in decimal, modulo 65536 (so every value up to 65535 is exact) -/
theorem parseParams_digits (ds : List Nat) (hd : ds.all (inR 0x30 0x39) = true) :
    parseParams ds = [[decVal ds % 65536]] :=
  foldl_stepW_digits [] [] ds (fun d h => (inR_iff _ _ _).1 (List.all_eq_true.1 hd d h)) 0

theorem modLast_length {α : Type} (l : List α) (f : α → α) : (modLast l f).length = l.length := by
  induction l with
  | nil => rfl
  | cons a as ih =>
    cases as with
    | nil => rfl
    | cons b bs => simp only [modLast, List.length_cons] at ih ⊢; rw [ih]

theorem mem_modLast {α : Type} {l : List α} {f : α → α} {x : α} (h : x ∈ modLast l f) :
    x ∈ l ∨ ∃ y ∈ l, x = f y := by
  induction l with
  | nil => cases h
  | cons a as ih =>
    cases as with
    | nil =>
      simp only [modLast, List.mem_cons, List.not_mem_nil, or_false] at h
      exact Or.inr ⟨a, List.mem_cons_self, h⟩
    | cons b bs =>
      simp only [modLast, List.mem_cons] at h
      rcases h with h | h
      · exact Or.inl (h ▸ List.mem_cons_self)
      · rcases ih (by simpa [modLast] using h) with h' | ⟨y, hy, e⟩
        · exact Or.inl (List.mem_cons_of_mem _ h')
        · exact Or.inr ⟨y, List.mem_cons_of_mem _ hy, e⟩

theorem williams_ground_print {c : Nat} (h : (0x20 ≤ c ∧ c ≤ 0x7F) ∨ 0xA0 ≤ c) :
    williams .Ground c = (.print, .Ground) := by
  rcases h with h | h
  · exact williams_span [.Ground] 0x20 0x7F _ (by decide) _ List.mem_cons_self c h.1 h.2
  · unfold williams classChar
    rw [if_pos h]
    rfl

theorem feed_ground_print (p : Parser) (hp : p.state = .Ground) {c : Nat}
    (h : (0x20 ≤ c ∧ c ≤ 0x7F) ∨ 0xA0 ≤ c) : p.feed c = some (p, some (.print c)) := by
  obtain ⟨st, ps, cp, im⟩ := p
  cases hp
  exact feed_print (williams_ground_print h)

/-- a C0 / C1 control with a function, in Ground -/
theorem feed_ground_ctl (p : Parser) (hp : p.state = .Ground) {c : Nat} {f : Function}
    (hc : (c, f) ∈ refExecTable) : p.feed c = some (p, some f) := by
  have h : ∀ x ∈ refExecTable, williams .Ground x.1 = (.execute, .Ground) ∧ refExecute x.1 = some x.2 := by
    decide
  obtain ⟨st, ps, cp, im⟩ := p
  cases hp
  rw [← (h _ hc).2]
  exact feed_execute (h _ hc).1

/-- only printable characters are printed -/
theorem print_char {st s : PState} {c : Nat} (h : williams st c = (.print, s)) :
    (0x20 ≤ c ∧ c ≤ 0x7F) ∨ 0xA0 ≤ c := by
  have hw := kind_within (lo := 0x20) (hi := 0x7F) (by decide) (by decide +kernel) h
  simp only [inR_iff, classChar] at hw
  split at hw <;> omega

end Avt.ParserSeq
