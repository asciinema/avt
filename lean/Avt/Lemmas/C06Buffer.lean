/-
  Avt.Lemmas.C06Buffer — `Buffer.scrollUp` / `Buffer.scrollDown` meet their specification.
-/
import Avt.Lemmas.RowModify

namespace Avt.C06L
open Avt.Spec.C06

theorem length_upMarks (s e rows : Nat) (v : List Line) : (upMarks s e rows v).length = v.length := by
  unfold upMarks
  split <;> split <;> simp only [unmarkAt_eq_modify, List.length_modify]

theorem unwrapRow_eq (b : Buffer) (i : Nat) (h : i < b.view.length) :
    b.unwrapRow i = some { b with view := unmarkAt b.view i } :=
  (Buffer.updRow_eq_modify unmark h rfl).trans (by rw [unmarkAt_eq_modify])

/-- the three code paths of `Buffer::scroll_up` (extend at the end, insert below the range, rotate and
    clear) are one formula; of the invariant only `view.length = rows` is needed -/
theorem scrollUp_eq (b : Buffer) (s e n : Nat) (pen : Pen) (hv : b.view.length = b.rows) (hse : s < e)
    (he : e ≤ b.rows) : b.scrollUp s e n pen = some (scrollUpSpec s e n pen b) := by
  unfold Buffer.scrollUp
  simp only [csub_eq_some (show s ≤ e by omega), csub_eq_some (show 1 ≤ e by omega),
    csub_eq_some (show 1 ≤ b.rows by omega)]
  have h1 : (if e - 1 < b.rows - 1 then b.unwrapRow (e - 1) else some b)
      = some { b with view := if e < b.rows then unmarkAt b.view (e - 1) else b.view } := by
    by_cases hlt : e < b.rows
    · rw [if_pos (by omega), if_pos hlt]
      exact unwrapRow_eq _ _ (by omega)
    · rw [if_neg (by omega), if_neg hlt]
  rw [h1]
  unfold scrollUpSpec upMarks
  have hw : (if e < b.rows then unmarkAt b.view (e - 1) else b.view).length = b.rows := by
    split <;> simp only [unmarkAt_eq_modify, List.length_modify, hv]
  generalize (if e < b.rows then unmarkAt b.view (e - 1) else b.view) = w at hw ⊢
  have hk : min n (e - s) ≤ e - s := Nat.min_le_right _ _
  generalize min n (e - s) = k at hk ⊢
  simp only [blankRows]
  by_cases hs : s = 0
  · subst hs
    obtain ⟨ht, hd⟩ := take_drop_insert w (List.replicate k (Line.blank b.cols pen)) (k := k) (e := e)
      (by omega) (by omega)
    simp only [if_true, Nat.lt_irrefl, if_false, List.take_zero, List.nil_append, Nat.zero_add]
    by_cases hee : e = b.rows
    · have hall : w ++ List.replicate k (Line.blank b.cols pen)
          = w.take e ++ List.replicate k (Line.blank b.cols pen) ++ w.drop e := by
        rw [List.take_of_length_le (by omega), List.drop_eq_nil_of_le (by omega), List.append_nil]
      rw [if_pos hee, hall, ht, hd]
    · rw [if_neg hee, if_pos ⟨he, hw ▸ he⟩, ht, hd]
  · have hs0 : s > 0 := by omega
    simp only [hs, hs0, if_false, if_true, csub_eq_some (show 1 ≤ s from hs0)]
    rw [unwrapRow_eq _ _ (by simp only; omega)]
    have hw2 : (unmarkAt w (s - 1)).length = b.rows := by rw [unmarkAt_eq_modify, List.length_modify, hw]
    generalize unmarkAt w (s - 1) = w2 at hw2 ⊢
    obtain ⟨v, hr, hf⟩ := rotL_fill (l := w2) (Line.blank b.cols pen) (Nat.le_of_lt hse) (hw2 ▸ he) hk
    simp only [hr, Buffer.clear, hf, Option.map_some]

theorem scrollDown_eq (b : Buffer) (s e n : Nat) (pen : Pen) (hv : b.view.length = b.rows) (hse : s < e)
    (he : e ≤ b.rows) : b.scrollDown s e n pen = some (scrollDownSpec s e n pen b) := by
  unfold Buffer.scrollDown scrollDownSpec
  simp only [csub_eq_some (show s ≤ e by omega), csub_eq_some (show 1 ≤ e by omega)]
  have hk : min n (e - s) ≤ e - s := Nat.min_le_right _ _
  generalize min n (e - s) = k at hk ⊢
  obtain ⟨v, hr, hf⟩ := rotR_fill (l := b.view) (Line.blank b.cols pen) (Nat.le_of_lt hse) (hv ▸ he) hk
  have hw := (fillRange_length hf).trans ((rotRRange_length hr).trans hv)
  simp only [hr, Buffer.clear, hf, Option.map_some, blankRows]
  generalize List.take s b.view ++ List.replicate k (Line.blank b.cols pen) ++ List.drop s (List.take (e - k) b.view)
    ++ List.drop e b.view = w at hw ⊢
  by_cases hs : s > 0
  · simp only [hs, if_true]
    rw [unwrapRow_eq _ _ (by simp only; omega)]
    simp only
    rw [unwrapRow_eq _ _ (by simp only [unmarkAt_eq_modify, List.length_modify]; omega)]
  · simp only [hs, if_false]
    rw [unwrapRow_eq _ _ (by simp only; omega)]

end Avt.C06L
