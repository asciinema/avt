/-
  Avt.Lemmas.C10Resize — `Buffer.resize` read phase by phase (`rsStep1_inv`, `rsStep2_spec`, over
  `Buffer.resize_phases`), what every resize does to the logical lines (`resize_lines`), the height-only
  resize on the rows (`rowsOnlyOK`), and `Terminal.resize` / `Vt.resize` reaching the buffer only
  through `Buffer.resize` (from `Terminal.reflow_eq_some`, Lemmas/TermResize.lean).
-/
import Avt.Lemmas.C10Reflow
import Avt.Lemmas.C10Lines
import Avt.Lemmas.Resize
import Avt.Lemmas.Prim
import Avt.Lemmas.TermResize
import Avt.Lemmas.BufferGc

namespace Avt.Lemmas
open Avt Avt.Spec.C10

/-- phase 1 read backwards: nothing happens when the width stays; otherwise the rows are reflowed,
    padded with blank rows up to the old height, and the cursor is what `relative_position` says — a
    row above the view (`rr < 0`) becomes row 0 of a correspondingly higher view -/
theorem rsStep1_inv {lines ls1 : List Line} {oc orows c oR : Nat} {cur lp cur1 : Nat × Nat}
    (h : Buffer.rsStep1 lines oc orows c cur lp = some (ls1, cur1, oR)) :
    (c = oc ∧ ls1 = lines ∧ cur1 = cur ∧ oR = orows) ∨
    (c ≠ oc ∧ ∃ out rr, Buffer.reflow lines c = some out
      ∧ ls1 = out ++ List.replicate (orows - out.length) (Line.blank c Pen.default)
      ∧ Buffer.relativePosition ls1 lp c orows = some (cur1.1, rr)
      ∧ (cur1.2 : Int) - oR = rr - orows) := by
  rw [Buffer.rsStep1_eq] at h
  split at h
  · next hc => cases h; exact .inl ⟨hc, rfl, rfl, rfl⟩
  · next hc =>
    obtain ⟨out, hr, h⟩ := Option.bind_eq_some_iff.1 h
    obtain ⟨⟨rc, rr⟩, hp, h⟩ := Option.map_eq_some_iff.1 h
    cases h
    exact .inr ⟨hc, out, rr, hr, rfl, hp, by simp only; omega⟩

/-- phase 2 is `rowsOnlyLines` on the rows; the cursor keeps its column and, counted from the top of
    all rows, its row (`length - height + row` before and after, written without subtraction) -/
theorem rsStep2_spec {c r oR : Nat} {lines ls2 : List Line} {cur cur2 : Nat × Nat}
    (h : Buffer.rsStep2 c r lines cur oR = some (ls2, cur2)) :
    ls2 = rowsOnlyLines lines c oR r cur.2 ∧ cur2.1 = cur.1
      ∧ (oR ≤ lines.length → cur.2 < oR →
          r ≤ ls2.length ∧ ls2.length + cur2.2 + oR = lines.length + cur.2 + r) := by
  rw [Buffer.rsStep2_eq] at h
  split at h
  · next hok =>
    cases h
    refine ⟨rfl, Buffer.rowsOnlyCur_fst _ _ _ _, fun hle hc => ?_⟩
    have habs := Buffer.rowsOnly_abs (c := c) (cur := cur) (fun hr => (hok hr).1) hle
    exact ⟨habs.1, (habs.2 hc).2⟩
  · cases h

theorem rsStep1_logical {lines ls1 : List Line} {oc orows c oR : Nat} {cur lp cur1 : Nat × Nat}
    (h : Buffer.rsStep1 lines oc orows c cur lp = some (ls1, cur1, oR)) :
    ∃ e, logicalLines ls1 = logicalLines lines ++ List.replicate e [] := by
  rcases rsStep1_inv h with ⟨-, rfl, -, -⟩ | ⟨-, out, rr, hre, rfl, -, -⟩
  · exact ⟨0, (List.append_nil _).symm⟩
  · rw [← reflow_logical hre]; exact logicalLines_pad out _ c

/-- C10, line content for every resize (width and/or height): the logical lines after
    `Buffer.resize` are the old ones, possibly with the last ones dropped and one cut short at the
    bottom, possibly followed by blank filler — none altered, reordered or invented. -/
theorem resize_lines {b b' : Buffer} {c r : Nat} {cur cur' : Nat × Nat}
    (h : b.resize c r cur = some (b', cur')) :
    keptOrCut (logicalLines b.lines) (logicalLines b'.lines) = true := by
  obtain ⟨lp, ls1, cur1, oR, ls2, p⟩ := Buffer.resize_phases h
  obtain ⟨e, he⟩ := rsStep1_logical p.step1
  rw [p.lines, (rsStep2_spec p.step2).1]
  exact keptOrCut_unpad _ _ e (he ▸ keptOrCut_rowsOnlyLines ls1 c oR r cur1.2)

/-- C10 building block: with the width unchanged `Buffer.resize` only drops rows below the cursor
    (clearing the wrap mark of the new last row) or appends blank rows; the cursor keeps its column
    and its absolute row.  No reflow is involved. -/
theorem resize_rows_only {b b' : Buffer} {r' : Nat} {cur cur' : Nat × Nat}
    (hview : b.view.length = b.rows) (hcur : cur.2 < b.rows)
    (h : b.resize b.cols r' cur = some (b', cur')) :
    rowsOnlyOK b b' cur cur' = true := by
  have hlen := Buffer.lines_length hview
  obtain ⟨lp, ls1, cur1, oR, ls2, p⟩ := Buffer.resize_phases h
  rcases rsStep1_inv p.step1 with ⟨-, rfl, hc1, rfl⟩ | ⟨hne, -⟩
  · obtain ⟨rfl, hcol, hrow⟩ := rsStep2_spec (hc1 ▸ p.step2)
    obtain ⟨hle, hrow⟩ := hrow (by omega) hcur
    simp only [rowsOnlyOK, Bool.and_eq_true, beq_iff_eq]
    exact ⟨⟨by rw [p.lines, p.rows], hcol⟩, by have := p.sbLength; omega⟩
  · exact absurd rfl hne

/-- `Vt.resize` (= `Terminal.resize`, then `changes()` and `gc()`) on an unlimited buffer -/
theorem vt_resize_buffer {v v' : Vt} {c r : Nat} {ch : Changes}
    (hlim : v.terminal.buffer.limit = none) (h : v.resize c r = some (v', ch)) :
    ∃ b' cur', v.terminal.buffer.resize c r (v.terminal.cursor.col, v.terminal.cursor.row) = some (b', cur')
      ∧ v'.terminal.buffer.lines = b'.lines
      ∧ v'.terminal.buffer.sb.length = b'.sb.length
      ∧ v'.terminal.buffer.cols = b'.cols ∧ v'.terminal.buffer.rows = b'.rows
      ∧ v'.terminal.cursor.col = cur'.1 ∧ v'.terminal.cursor.row = cur'.2 := by
  obtain ⟨t', ht, rfl, -⟩ := Vt.resize_terminal h
  obtain ⟨-, -, b', cur', h1, rfl⟩ := Terminal.resize_eq_some.1 ht
  have hlim' : b'.limit = none := (Buffer.resize_limit h1).trans hlim
  have hv := Frame.gc_view b'
  exact ⟨b', cur', h1, Frame.gc_lines_unlimited hlim',
    congrArg List.length (Frame.gc_unlimited _ hlim').2, hv.2.1, hv.2.2.1, rfl, rfl⟩

theorem vt_resize_cols {v v' : Vt} {c r : Nat} {ch : Changes} (h : v.resize c r = some (v', ch)) :
    v'.terminal.buffer.cols = c := by
  obtain ⟨t', ht, rfl, -⟩ := Vt.resize_terminal h
  obtain ⟨-, -, b', _, h1, rfl⟩ := Terminal.resize_eq_some.1 ht
  exact (Frame.gc_view b').2.1.trans (Buffer.resize_cols h1)

/-- what `Vt.resize` keeps of the hypotheses of C10 (`Terminal.resize` touches neither) -/
theorem resize_keeps_mode {v v' : Vt} {c r : Nat} {ch : Changes} (h : v.resize c r = some (v', ch)) :
    v'.terminal.activeBufferType = v.terminal.activeBufferType
      ∧ v'.terminal.scrollbackLimit = v.terminal.scrollbackLimit := by
  obtain ⟨t', ht, rfl, -⟩ := Vt.resize_terminal h
  obtain ⟨-, -, _, _, -, rfl⟩ := Terminal.resize_eq_some.1 ht
  exact ⟨rfl, rfl⟩

end Avt.Lemmas
