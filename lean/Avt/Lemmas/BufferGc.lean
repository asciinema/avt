/-
  Avt.Lemmas.BufferGc — `Buffer.gc` in closed form: it drops `gcCount b` lines from the front of the
  scrollback, hands them out, clears `trimNeeded`, and touches nothing else.  Before that, how
  `Buffer.lines` splits at the scrollback.
-/
import Avt.Model.Buffer

namespace Avt.Buffer

theorem lines_length {b : Buffer} (hv : b.view.length = b.rows) : b.lines.length = b.sb.length + b.rows := by
  rw [Buffer.lines, List.length_append, hv]

theorem lines_take_sb (b : Buffer) : b.lines.take b.sb.length = b.sb := List.take_left

theorem lines_drop_sb (b : Buffer) : b.lines.drop b.sb.length = b.view := List.drop_left

end Avt.Buffer

namespace Avt.Frame
open Avt

/-- number of lines the next `gc` removes -/
def gcCount (b : Buffer) : Nat :=
  if b.trimNeeded then
    match b.limit with
    | some lim => if b.sb.length > lim.hard then b.sb.length - lim.soft else 0
    | none => 0
  else 0

theorem gc_spec (b : Buffer) :
    b.gc = ({ b with sb := b.sb.drop (gcCount b), trimNeeded := false }, b.sb.take (gcCount b)) := by
  unfold Buffer.gc gcCount
  cases b with
  | mk sb view cols rows limit tn =>
    cases tn <;> cases limit <;> simp
    split <;> simp

theorem gcCount_unlimited {b : Buffer} (h : b.limit = none) : gcCount b = 0 := by
  unfold gcCount; rw [h]; split <;> rfl

theorem gcCount_of_not_trim {b : Buffer} (ht : b.trimNeeded = false) : gcCount b = 0 := by
  unfold gcCount; rw [ht]; rfl

/-- what is left is within the hard limit, provided `soft ≤ hard` -/
theorem gcCount_bound {b : Buffer} {lim : Limit} (hl : b.limit = some lim) (ht : b.trimNeeded = true)
    (hs : lim.soft ≤ lim.hard) : b.sb.length - gcCount b ≤ lim.hard := by
  unfold gcCount; rw [hl, if_pos ht]; dsimp only
  split
  · rename_i h
    rw [Nat.sub_sub_self (Nat.le_of_lt (Nat.lt_of_le_of_lt hs h))]; exact hs
  · exact Nat.le_of_not_lt ‹_›

theorem gc_sb (b : Buffer) : (b.gc).1.sb = b.sb.drop (gcCount b) ∧ (b.gc).2 = b.sb.take (gcCount b) := by
  rw [gc_spec]; exact ⟨rfl, rfl⟩

theorem gc_view (b : Buffer) : (b.gc).1.view = b.view ∧ (b.gc).1.cols = b.cols ∧ (b.gc).1.rows = b.rows
    ∧ (b.gc).1.limit = b.limit ∧ (b.gc).1.trimNeeded = false := by
  rw [gc_spec]; exact ⟨rfl, rfl, rfl, rfl, rfl⟩

/-- nothing is lost: what `gc` hands out followed by what it keeps is what was there -/
theorem gc_partition (b : Buffer) : (b.gc).2 ++ (b.gc).1.sb = b.sb := by
  rw [gc_spec]; exact List.take_append_drop _ _

theorem gc_lines (b : Buffer) : (b.gc).2 ++ (b.gc).1.lines = b.lines := by
  unfold Buffer.lines
  rw [← List.append_assoc, gc_partition, (gc_view b).1]

theorem gc_unlimited (b : Buffer) (h : b.limit = none) : (b.gc).2 = [] ∧ (b.gc).1.sb = b.sb := by
  rw [gc_spec, gcCount_unlimited h]; exact ⟨rfl, rfl⟩

theorem gc_lines_unlimited {b : Buffer} (h : b.limit = none) : b.gc.1.lines = b.lines := by
  have e := gc_lines b
  rwa [(gc_unlimited b h).1] at e

end Avt.Frame
