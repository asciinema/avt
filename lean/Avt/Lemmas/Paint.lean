/-
  Avt.Lemmas.Paint — what a drawing function does to the buffer.
  `Paint K t t'`: `t'` arises from `t` by cursor movements and by calls `op` into `Buffer` with
  `K op`, the rows whose cells a call may change being flagged dirty when it is made.  One lemma per
  drawing helper of Model/Terminal.lean, then `Paint.execute : Paint (f.ops t) t t'`, where
  `Function.ops` lists the calls each function may make.  A property of drawing functions then takes
  one lemma per call (`BufOp`) and an induction over `Paint`, not another walk through the helpers.
-/
import Avt.Lemmas.Footprint
import Avt.Lemmas.Prim

namespace Avt

/-- a call into `Buffer` made by a drawing function -/
inductive BufOp where
  | print (col row : Nat) (cell : Cell)
  | insert (col row n : Nat) (cell : Cell)
  | delete (col row n : Nat) (pen : Pen)
  | erase (col row : Nat) (mode : Buffer.EraseMode) (pen : Pen)
  | scrollUp (s e n : Nat) (pen : Pen)
  | scrollDown (s e n : Nat) (pen : Pen)
  | wrap (row : Nat)

namespace BufOp

def run : BufOp → Buffer → Option Buffer
  | .print c r x, b => b.print c r x
  | .insert c r n x, b => b.insert c r n x
  | .delete c r n p, b => b.delete c r n p
  | .erase c r m p, b => b.erase c r m p
  | .scrollUp s e n p, b => b.scrollUp s e n p
  | .scrollDown s e n p, b => b.scrollDown s e n p
  | .wrap r, b => b.wrap r

/-- the rows an erase mode may change -/
def eraseRows (mode : Buffer.EraseMode) (row i : Nat) : Prop :=
  match mode with
  | .fromCursorToEndOfView => row ≤ i
  | .fromStartOfViewToCursor => i ≤ row
  | .wholeView => True
  | _ => i = row

/-- the rows whose cells the call may change (`wrap` sets a mark, no cell) -/
def rows : BufOp → Nat → Prop
  | .print _ r _ | .insert _ r _ _ | .delete _ r _ _ => (· = r)
  | .erase _ r m _ => eraseRows m r
  | .scrollUp s e _ _ | .scrollDown s e _ _ => fun i => s ≤ i ∧ i < e
  | .wrap _ => fun _ => False

/-- the cell the call fills with -/
def ink : BufOp → Option Cell
  | .print _ _ x | .insert _ _ _ x => some x
  | .delete _ _ _ p | .erase _ _ _ p | .scrollUp _ _ _ p | .scrollDown _ _ _ p => some (Cell.blank p)
  | .wrap _ => none

end BufOp

def Flagged (d : List Bool) (i : Nat) : Prop := d[i]? = some true

/-- `d'` is `d` with more rows flagged, among them the rows below `n` that are in `S` -/
structure Marked (S : Nat → Prop) (n : Nat) (d d' : List Bool) : Prop where
  len : d'.length = d.length
  keep : ∀ i, Flagged d i → Flagged d' i
  flag : ∀ i, S i → i < n → Flagged d' i

namespace Marked
variable {S : Nat → Prop} {n : Nat} {d d' : List Bool}

theorem add {r : Nat} (h : Dirty.add d r = some d') (hS : ∀ i, S i → i = r) : Marked S n d d' := by
  unfold Dirty.add at h
  refine ⟨setAt_length h, fun i hi => ?_, fun i hi _ => ?_⟩
  · unfold Flagged at *; rw [setAt_getElem? h]; split <;> simp [hi]
  · unfold Flagged; rw [setAt_getElem? h, if_pos (hS i hi).symm]

theorem extend {a b : Nat} (h : Dirty.extend d a b = some d') (hS : ∀ i, S i → i < n → a ≤ i ∧ i < b) :
    Marked S n d d' := by
  unfold Dirty.extend at h
  refine ⟨fillRange_length h, fun i hi => ?_, fun i hi hn => ?_⟩
  · unfold Flagged at *; rw [fillRange_getElem? h]; split <;> simp [hi]
  · unfold Flagged; rw [fillRange_getElem? h, if_pos (hS i hi hn)]

end Marked

/-- `t'` arises from `t` by cursor movements and calls `op` into the buffer with `K op`, each with the
    rows it may change flagged -/
inductive Paint (K : BufOp → Prop) : Terminal → Terminal → Prop
  | refl (t) : Paint K t t
  | trans {a b c} : Paint K a b → Paint K b c → Paint K a c
  | move {t t'} : Moves t t' → Paint K t t'
  | edit {t b d} (op : BufOp) : K op → op.run t.buffer = some b → Marked op.rows t.rows t.dirtyLines d →
      Paint K t { t with buffer := b, dirtyLines := d }
  -- flags without a call, for DECALN: the model flags a row after printing into it, `edit` wants the flag
  -- with the print, so `decalnRows` flags the row first (the prints leave `dirtyLines` alone)
  | flag {t d} : Marked (fun _ => False) t.rows t.dirtyLines d → Paint K t { t with dirtyLines := d }

namespace Paint
variable {K : BufOp → Prop} {t t' : Terminal}

theorem draws (h : Paint K t t') : Draws t t' := by
  induction h with
  | refl t => exact .refl t
  | trans _ _ ih1 ih2 => exact ih1.trans ih2
  | move m => exact m.toDraws
  | edit => field_by_field
  | flag => field_by_field

/-- a call, then flagging one row -/
theorem mark {b : Buffer} {r : Nat} (op : BufOp) (hk : K op) (hb : op.run t.buffer = some b)
    (hr : ∀ i, op.rows i → i = r) (h : ({ t with buffer := b } : Terminal).markDirty r = some t') :
    Paint K t t' := by
  obtain ⟨d, hd, rfl⟩ := Option.map_eq_some_iff.mp h
  exact .edit op hk hb (.add hd hr)

/-- a call, then flagging a range of rows -/
theorem markRange {b : Buffer} {a c : Nat} (op : BufOp) (hk : K op) (hb : op.run t.buffer = some b)
    (hr : ∀ i, op.rows i → i < t.rows → a ≤ i ∧ i < c)
    (h : ({ t with buffer := b } : Terminal).markDirtyRange a c = some t') : Paint K t t' := by
  obtain ⟨d, hd, rfl⟩ := Option.map_eq_some_iff.mp h
  exact .edit op hk hb (.extend hd hr)

/-- marking a row as wrapped changes no cell -/
theorem wrap {b : Buffer} {r : Nat} (hk : K (.wrap r)) (hb : t.buffer.wrap r = some b) :
    Paint K t { t with buffer := b } :=
  .edit (.wrap r) hk hb ⟨rfl, fun _ h => h, fun _ h => h.elim⟩

theorem scrollUpInRegion {n : Nat} (hk : K (.scrollUp t.topMargin (t.bottomMargin + 1) n t.pen))
    (h : t.scrollUpInRegion n = some t') : Paint K t t' := by
  unfold Terminal.scrollUpInRegion at h
  split at h
  · cases h
  · rename_i b hb
    exact markRange _ hk hb (fun _ hi _ => hi) h

theorem scrollDownInRegion {n : Nat} (hk : K (.scrollDown t.topMargin (t.bottomMargin + 1) n t.pen))
    (h : t.scrollDownInRegion n = some t') : Paint K t t' := by
  unfold Terminal.scrollDownInRegion at h
  split at h
  · cases h
  · rename_i b hb
    exact markRange _ hk hb (fun _ hi _ => hi) h

theorem moveCursorDownWithScroll (hk : K (.scrollUp t.topMargin (t.bottomMargin + 1) 1 t.pen))
    (h : t.moveCursorDownWithScroll = some t') : Paint K t t' := by
  unfold Terminal.moveCursorDownWithScroll at h
  split at h
  · exact scrollUpInRegion hk h
  · split at h
    · cases h
    · split at h
      · exact .move (.doMoveCursorToRow h)
      · cases h; exact .refl _

theorem lf (hk : K (.scrollUp t.topMargin (t.bottomMargin + 1) 1 t.pen)) (h : t.lf = some t') :
    Paint K t t' := by
  obtain ⟨t1, h1, rfl⟩ := Option.map_eq_some_iff.mp h
  refine (moveCursorDownWithScroll hk h1).trans ?_
  split
  · exact .move .upd
  · exact .refl _

theorem nel (hk : K (.scrollUp t.topMargin (t.bottomMargin + 1) 1 t.pen)) (h : t.nel = some t') :
    Paint K t t' := by
  obtain ⟨t1, h1, rfl⟩ := Option.map_eq_some_iff.mp h
  exact (moveCursorDownWithScroll hk h1).trans (.move .upd)

theorem ri (hk : K (.scrollDown t.topMargin (t.bottomMargin + 1) 1 t.pen)) (h : t.ri = some t') :
    Paint K t t' := by
  unfold Terminal.ri at h
  split at h
  · exact scrollDownInRegion hk h
  · split at h
    · exact .move (.doMoveCursorToRow h)
    · cases h; exact .refl _

theorem ich {n : Nat}
    (hk : K (.insert t.cursor.col t.cursor.row (asUsize n 1) (Cell.blank t.pen)))
    (h : t.ich n = some t') : Paint K t t' := by
  unfold Terminal.ich at h
  split at h
  · cases h
  · rename_i b hb
    exact mark _ hk hb (fun _ e => e) h

theorem ech {n : Nat} (hk : K (.erase t.cursor.col t.cursor.row (.nextChars (asUsize n 1)) t.pen))
    (h : t.ech n = some t') : Paint K t t' := by
  unfold Terminal.ech at h
  split at h
  · cases h
  · rename_i h1
    obtain ⟨b, hb, rfl⟩ := Option.map_eq_some_iff.mp h1
    exact mark _ hk hb (fun _ e => e) h

theorem el {s : ElScope} (hk : ∀ m, K (.erase t.cursor.col t.cursor.row m t.pen))
    (h : t.el s = some t') : Paint K t t' := by
  unfold Terminal.el at h
  simp only at h
  split at h
  · cases h
  · rename_i h1
    obtain ⟨b, hb, rfl⟩ := Option.map_eq_some_iff.mp h1
    cases s
    · exact mark (.erase _ _ .fromCursorToEndOfLine _) (hk _) hb (fun _ e => e) h
    · exact mark (.erase _ _ .fromStartOfLineToCursor _) (hk _) hb (fun _ e => e) h
    · exact mark (.erase _ _ .wholeLine _) (hk _) hb (fun _ e => e) h

/-- the range flagged after the erase covers the rows it may change -/
theorem ed {s : EdScope} (hk : ∀ m, K (.erase t.cursor.col t.cursor.row m t.pen))
    (h : t.ed s = some t') : Paint K t t' := by
  unfold Terminal.ed at h
  cases s with
  | savedLines => cases h; exact .refl _
  | below =>
    simp only at h
    split at h
    · cases h
    · rename_i h1
      obtain ⟨b, hb, rfl⟩ := Option.map_eq_some_iff.mp h1
      exact markRange (.erase _ _ .fromCursorToEndOfView _) (hk _) hb (fun i hi hn => ⟨hi, hn⟩) h
  | above =>
    simp only at h
    split at h
    · cases h
    · rename_i h1
      obtain ⟨b, hb, rfl⟩ := Option.map_eq_some_iff.mp h1
      exact markRange (.erase _ _ .fromStartOfViewToCursor _) (hk _) hb
        (fun i hi _ => ⟨i.zero_le, Nat.lt_succ_of_le hi⟩) h
  | all =>
    simp only at h
    split at h
    · cases h
    · rename_i h1
      obtain ⟨b, hb, rfl⟩ := Option.map_eq_some_iff.mp h1
      exact markRange (.erase _ _ .wholeView _) (hk _) hb (fun i _ hn => ⟨i.zero_le, hn⟩) h

theorem il {n : Nat} (hk : K (.scrollDown t.ilRange.1 t.ilRange.2 (asUsize n 1) t.pen))
    (h : t.il n = some t') : Paint K t t' := by
  unfold Terminal.il at h
  simp only at h
  split at h
  · cases h
  · rename_i b hb
    exact markRange _ hk hb (fun _ hi _ => hi) h

theorem dl {n : Nat} (hk : K (.scrollUp t.ilRange.1 t.ilRange.2 (asUsize n 1) t.pen))
    (h : t.dl n = some t') : Paint K t t' := by
  unfold Terminal.dl at h
  simp only at h
  split at h
  · cases h
  · rename_i b hb
    exact markRange _ hk hb (fun _ hi _ => hi) h

theorem dch {n : Nat} (hk : ∀ c, K (.delete c t.cursor.row (asUsize n 1) t.pen))
    (h : t.dch n = some t') : Paint K t t' := by
  unfold Terminal.dch at h
  simp only at h
  split at h
  · cases h
  · rename_i t1 ht1
    have h1 : ∃ c p, t1 = { t with cursor := { t.cursor with col := c }, pendingWrap := p } := by
      split at ht1
      · split at ht1
        · cases ht1
        · obtain ⟨c, rfl⟩ := Terminal.moveCursorToCol_eq ht1
          exact ⟨c, false, rfl⟩
      · cases ht1; exact ⟨t.cursor.col, t.pendingWrap, rfl⟩
    obtain ⟨c, p, rfl⟩ := h1
    split at h
    · cases h
    · rename_i b hb
      exact (Paint.move .upd).trans (mark _ (hk _) hb (fun _ e => e) h)

/-- the `E`s of one row, each a call of its own, from a state whose `dirtyLines` already flag the row -/
theorem decalnCols (hk : ∀ c r, K (.print c r ⟨0x45, Pen.default⟩)) {d : List Bool} {row : Nat}
    (hd : Marked (· = row) t.rows t.dirtyLines d) : ∀ (j col : Nat) {b b' : Buffer},
    Terminal.decalnCols b row col j = some b' →
    Paint K { t with buffer := b, dirtyLines := d } { t with buffer := b', dirtyLines := d }
  | 0, _, _, _, h => by cases h; exact .refl _
  | j + 1, col, b, b', h => by
    unfold Terminal.decalnCols at h
    split at h
    · cases h
    · rename_i b1 h1
      exact (Paint.edit (t := { t with buffer := b, dirtyLines := d }) (.print col row _) (hk _ _) h1
        ⟨rfl, fun _ h => h, fun i hi hn => hd.flag i hi hn⟩).trans (decalnCols hk hd j (col + 1) h)

theorem decalnRows (hk : ∀ c r, K (.print c r ⟨0x45, Pen.default⟩)) : ∀ (k row : Nat) {t t' : Terminal},
    Terminal.decalnRows t row k = some t' → Paint K t t'
  | 0, _, _, _, h => by cases h; exact .refl _
  | k + 1, row, t, t', h => by
    unfold Terminal.decalnRows at h
    split at h
    · cases h
    · rename_i b hb
      split at h
      · cases h
      · rename_i t1 h1
        obtain ⟨d, hd, rfl⟩ := Option.map_eq_some_iff.mp h1
        have hm : Marked (· = row) t.rows t.dirtyLines d := .add hd fun _ e => e
        exact ((Paint.flag ⟨hm.len, hm.keep, fun _ h => h.elim⟩).trans
          (decalnCols (t := t) hk hm t.cols 0 hb)).trans (decalnRows hk k (row + 1) h)

theorem decaln (hk : ∀ c r, K (.print c r ⟨0x45, Pen.default⟩)) (h : t.decaln = some t') : Paint K t t' :=
  decalnRows hk _ _ h

/-- the calls `print` may make with the cell `x`: the scroll and the wrap marks of a deferred wrap,
    then the cell itself, written or inserted -/
def printOps (top bottom : Nat) (pen : Pen) (x : Cell) (op : BufOp) : Prop :=
  op = .scrollUp top (bottom + 1) 1 pen ∨ (∃ r, op = .wrap r) ∨ (∃ c r, op = .print c r x)
    ∨ ∃ c r, op = .insert c r 1 x

section print
variable {x : Cell} (hk : ∀ op, printOps t.topMargin t.bottomMargin t.pen x op → K op)
include hk

theorem wrapAtBottom (h : t.wrapAtBottom = some t') : Paint K t t' := by
  unfold Terminal.wrapAtBottom at h
  split at h
  · cases h
  · rename_i b hb
    split at h
    · cases h
    · rename_i t3 h3
      have p3 := (wrap (hk _ (.inr (.inl ⟨_, rfl⟩))) hb).trans
        (scrollUpInRegion (t := { t with buffer := b }) (hk _ (.inl rfl)) h3)
      split at h
      · cases h
      · split at h
        · split at h
          · cases h
          · obtain ⟨b4, hb4, rfl⟩ := Option.map_eq_some_iff.mp h
            exact p3.trans (wrap (hk _ (.inr (.inl ⟨_, rfl⟩))) hb4)
        · cases h; exact p3

theorem wrapElsewhere (h : t.wrapElsewhere = some t') : Paint K t t' := by
  unfold Terminal.wrapElsewhere at h
  split at h
  · cases h
  · split at h
    · split at h
      · cases h
      · rename_i b hb
        exact (wrap (hk _ (.inr (.inl ⟨_, rfl⟩))) hb).trans (.move (.doMoveCursorToRow h))
    · cases h; exact .refl _

theorem printWrapPhase (h : t.printWrapPhase = some t') : Paint K t t' := by
  unfold Terminal.printWrapPhase at h
  split at h
  · simp only at h
    split at h
    · exact (Paint.move .upd).trans (wrapAtBottom (t := t.doMoveCursorToCol 0) hk h)
    · exact (Paint.move .upd).trans (wrapElsewhere (t := t.doMoveCursorToCol 0) hk h)
  · cases h; exact .refl _

/-- the cell is written, the cursor advances, the row is flagged -/
theorem printCellPhase {t2 : Terminal} (h : t.printCellPhase x = some t2)
    (hm : t2.markDirty t2.cursor.row = some t') : Paint K t t' := by
  unfold Terminal.printCellPhase at h
  simp only at h
  split at h
  · split at h
    · cases h
    · split at h
      · cases h
      · rename_i b hb
        split at h
        · cases h
          obtain ⟨d, hd, rfl⟩ := Option.map_eq_some_iff.mp hm
          exact (Paint.edit (.print _ _ x) (hk _ (.inr (.inr (.inl ⟨_, _, rfl⟩)))) hb
            (.add hd fun _ e => e)).trans (.move .upd)
        · cases h
          exact mark (.print _ _ x) (hk _ (.inr (.inr (.inl ⟨_, _, rfl⟩)))) hb (fun _ e => e) hm
  · split at h
    · cases h
    · rename_i b hb
      cases h
      obtain ⟨d, hd, rfl⟩ := Option.map_eq_some_iff.mp hm
      refine Paint.trans ?_ (.move (.upd (t := { t with buffer := b, dirtyLines := d })))
      split at hb
      · exact .edit (.insert _ _ 1 x) (hk _ (.inr (.inr (.inr ⟨_, _, rfl⟩)))) hb (.add hd fun _ e => e)
      · exact .edit (.print _ _ x) (hk _ (.inr (.inr (.inl ⟨_, _, rfl⟩)))) hb (.add hd fun _ e => e)

end print

/-- `print ch` makes the calls of `printOps` with the translated character under the current pen -/
theorem print {ch : Nat}
    (hk : ∀ (cs : Charset) ch', cs.translate ch = some ch' → ∀ op,
      printOps t.topMargin t.bottomMargin t.pen ⟨ch', t.pen⟩ op → K op)
    (h : t.print ch = some t') : Paint K t t' := by
  obtain ⟨_, _, t1, _, hch, h1, h2, h⟩ := Terminal.print_stages h
  have p1 := printWrapPhase (hk _ _ hch) h1
  have d1 := p1.draws
  refine p1.trans (printCellPhase ?_ h2 h)
  rw [d1 .topMargin rfl, d1 .bottomMargin rfl, d1 .pen rfl]
  exact hk _ _ hch

theorem printN {ch : Nat} : ∀ (k : Nat) {t t' : Terminal},
    (∀ (cs : Charset) ch', cs.translate ch = some ch' → ∀ op,
      printOps t.topMargin t.bottomMargin t.pen ⟨ch', t.pen⟩ op → K op) →
    t.printN ch k = some t' → Paint K t t'
  | 0, _, _, _, h => by cases h; exact .refl _
  | k + 1, t, t', hk, h => by
    unfold Terminal.printN at h
    split at h
    · cases h
    · rename_i t1 h1
      have p1 := print hk h1
      have d1 := p1.draws
      refine p1.trans (printN k ?_ h)
      rw [d1 .topMargin rfl, d1 .bottomMargin rfl, d1 .pen rfl]
      exact hk

/-- `rep` prints the character of some cell of the view -/
theorem rep {n : Nat}
    (hk : ∀ l ∈ t.buffer.view, ∀ cell ∈ l.cells, ∀ (cs : Charset) ch', cs.translate cell.ch = some ch' →
      ∀ op, printOps t.topMargin t.bottomMargin t.pen ⟨ch', t.pen⟩ op → K op)
    (h : t.rep n = some t') : Paint K t t' := by
  unfold Terminal.rep at h
  split at h
  · split at h
    · cases h
    · rename_i line hl
      split at h
      · cases h
      · rename_i cell hc
        exact printN _ (hk line (List.mem_of_getElem? hl) cell (List.mem_of_getElem? hc)) h
  · cases h; exact .refl _

end Paint

/-- the calls into `Buffer` that `execute f` may make from `t`: an upper bound.  DCH first pulls a
    wrap-pending cursor back to the last column, so its column is left open; a printed character is
    translated by the active charset, and the bound allows either. -/
def Function.ops (t : Terminal) : Function → BufOp → Prop
  | .su n => (· = .scrollUp t.topMargin (t.bottomMargin + 1) (asUsize n 1) t.pen)
  | .sd n => (· = .scrollDown t.topMargin (t.bottomMargin + 1) (asUsize n 1) t.pen)
  | .lf | .nel => (· = .scrollUp t.topMargin (t.bottomMargin + 1) 1 t.pen)
  | .ri => (· = .scrollDown t.topMargin (t.bottomMargin + 1) 1 t.pen)
  | .il n => (· = .scrollDown t.ilRange.1 t.ilRange.2 (asUsize n 1) t.pen)
  | .dl n => (· = .scrollUp t.ilRange.1 t.ilRange.2 (asUsize n 1) t.pen)
  | .ich n => (· = .insert t.cursor.col t.cursor.row (asUsize n 1) (Cell.blank t.pen))
  | .dch n => fun op => ∃ c, op = .delete c t.cursor.row (asUsize n 1) t.pen
  | .ech _ | .ed _ | .el _ => fun op => ∃ m, op = .erase t.cursor.col t.cursor.row m t.pen
  | .decaln => fun op => ∃ c r, op = .print c r ⟨0x45, Pen.default⟩
  | .print ch => fun op => ∃ (cs : Charset) (ch' : Nat), cs.translate ch = some ch' ∧
      Paint.printOps t.topMargin t.bottomMargin t.pen ⟨ch', t.pen⟩ op
  | .rep _ => fun op => ∃ l ∈ t.buffer.view, ∃ cell ∈ l.cells, ∃ (cs : Charset) (ch' : Nat),
      cs.translate cell.ch = some ch' ∧ Paint.printOps t.topMargin t.bottomMargin t.pen ⟨ch', t.pen⟩ op
  | _ => fun _ => False

/-- what a moving or drawing function does: cursor movements, and the calls of `f.ops t` -/
theorem Paint.execute {t t' : Terminal} {f : Function} (hf : f.draws = true)
    (h : t.execute f = some t') : Paint (f.ops t) t t' := by
  cases hm : f.moves
  case true => exact .move (Moves.execute hm h)
  have hp : f.paints = true := by simpa [Function.draws, hm] using hf
  cases f
  case dch => exact dch (fun _ => ⟨_, rfl⟩) h
  case decaln => exact decaln (fun _ _ => ⟨_, _, rfl⟩) h
  case dl => exact dl rfl h
  case ech => exact ech ⟨_, rfl⟩ h
  case ed => exact ed (fun _ => ⟨_, rfl⟩) h
  case el => exact el (fun _ => ⟨_, rfl⟩) h
  case ich => exact ich rfl h
  case il => exact il rfl h
  case lf => exact lf rfl h
  case nel => exact nel rfl h
  case print => exact print (fun cs ch' e _ ho => ⟨cs, ch', e, ho⟩) h
  case rep => exact rep (fun l hl c hc cs ch' e _ ho => ⟨l, hl, c, hc, cs, ch', e, ho⟩) h
  case ri => exact ri rfl h
  case sd => exact scrollDownInRegion rfl h
  case su => exact scrollUpInRegion rfl h
  all_goals cases hp

/-- a moving or drawing function writes the cursor's position, the pending wrap, the buffer showing
    and the dirty flags, nothing else -/
theorem Draws.execute {t t' : Terminal} {f : Function} (hf : f.draws = true)
    (h : t.execute f = some t') : Draws t t' := (Paint.execute hf h).draws

end Avt
