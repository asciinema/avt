/-
  Avt.Lemmas.C11SoundVt — the continuation half of C11 at `Vt` level: states with equal normal forms `normD`
  keep them under every character and every continuation, along which `Good` holds (`Inv`, kept by C02;
  `resizedOnAlt = false`, kept by `pre_execute`; the register shape `PRegOK` of the parser).
  That `Parser.feed` keeps `PRegOK` (`pregOK_stable`): which transitions exist is read off the rows of the reference
  diagram `williams` (`shapeRows`); a row fixes the kind and the next state, its ranges bound the class of the character.
  Last, applied to a state and its restore: they show the same after every continuation (`obs_feedAll_of_restore`).
-/
import Avt.Lemmas.C11Sound2
import Avt.Lemmas.C11Reach

namespace Avt
namespace Lemmas.C11

section
open Avt.Spec.C11 Avt.Terminal

/-- `normD` is sound for one character — every parser state, every emitted function -/
theorem norm_sound_feed_all (a b : Vt) (hp : Agree a.parser b.parser) (ha : Pre a.terminal) (hb : Pre b.terminal)
    (ht : normT a.terminal = normT b.terminal) (c : Nat) :
    (a.feed c).map normD = (b.feed c).map normD :=
  feed_normD a b c (nstep_eq hp c) ht fun _ f _ => norm_sound_execute_all f _ _ ha hb ht

/-- the statement of `pregOK_stable` (every character keeps the register shape `PRegOK`), which
    `Good.feedAll` takes as hypothesis `hst` -/
def PRegOKStable : Prop :=
  ∀ (p p' : Parser) (c : Nat) (f : Option Function), PInv p = true → PRegOK p = true →
    p.feed c = some (p', f) → PRegOK p' = true

end

section
open Avt.Spec.C11 Avt.Spec.C03 Avt.ParserSem

theorem classChar_idem (c : Nat) : classChar (classChar c) = classChar c := by
  unfold classChar; split
  · simp
  · simp

theorem williams_class (st : PState) (c : Nat) : williams st c = williams st (classChar c) := by
  unfold williams; rw [classChar_idem]

/-- the registers of state `st` already have the shape state `s'` asks for -/
def shapeImpl (st s' : PState) : Bool :=
  (match s' with
    | .Ground | .CsiIgnore | .DcsIgnore | .OscString | .SosPmApcString => true
    | _ => false)
  || s' == st
  || (s' == .DcsPassthrough && (st == .DcsEntry || st == .DcsParam || st == .DcsIntermediate))

/-- what the diagram guarantees about a transition `w` out of `st`; the flags say that the class of
    the character lies in `SP`–`/`, in `<`–`?`, in `0`–`;`, and is not `:` -/
def shapeOK (st : PState) (w : Kind × PState) (i20 i3c i30 n3a : Bool) : Bool :=
  match w.1 with
  | .ignore | .put | .oscPut | .print | .execute => shapeImpl st w.2
  | .collect =>
    ((w.2 == .EscapeIntermediate || w.2 == .CsiIntermediate || w.2 == .DcsIntermediate) && i20)
    || (((st == .CsiEntry && w.2 == .CsiParam) || (st == .DcsEntry && w.2 == .DcsParam)) && i3c)
  | .clear => entryClears w.2
  | .param =>
    ((st == .CsiEntry && w.2 == .CsiParam) || (st == .CsiParam && w.2 == .CsiParam)
      || (st == .DcsEntry && w.2 == .DcsParam) || (st == .DcsParam && w.2 == .DcsParam))
    && i30 && (w.2 != .DcsParam || n3a)
  | .dispatchCsi | .dispatchEsc => w.2 == .Ground

theorem shapeOK_mono {st : PState} {w : Kind × PState} {a b c e a' b' c' e' : Bool}
    (h : shapeOK st w a b c e = true) (ha : a = true → a' = true) (hb : b = true → b' = true)
    (hc : c = true → c' = true) (he : e = true → e' = true) : shapeOK st w a' b' c' e' = true := by
  obtain ⟨k, s⟩ := w
  cases k <;> simp only [shapeOK, Bool.or_eq_true, Bool.and_eq_true] at h ⊢
  case collect => exact h.imp (And.imp_right ha) (And.imp_right hb)
  case param => exact ⟨⟨h.1.1, hc h.1.2⟩, h.2.imp_right he⟩
  all_goals exact h

/-- the same in terms of the class `d` of the character -/
def shapeFact (st : PState) (d : Nat) : Bool :=
  shapeOK st (williams st d) (inR 0x20 0x2f d) (inR 0x3c 0x3f d) (inR 0x30 0x3b d) (d != 0x3a)

open ParserTable in
theorem shapeRows : ∀ st ∈ PState.all, ∀ r ∈ anywhere ++ rows st,
    shapeOK st (rowOut st r) (within r 0x20 0x2f) (within r 0x3c 0x3f) (within r 0x30 0x3b) (avoids r 0x3a)
      = true := by decide +kernel

open ParserTable in
theorem shapeFact_at (st : PState) (c : Nat) : shapeFact st (classChar c) = true := by
  unfold shapeFact
  rw [← williams_class]
  rcases williams_row st c with h | ⟨r, hr, hd, h⟩
  · rw [h]
    simp [shapeOK, shapeImpl]
  · rw [h]
    exact shapeOK_mono (shapeRows st (mem_all st) r hr) (has_within hd) (has_within hd) (has_within hd)
      (has_avoids hd)

theorem shapeImpl_ok {p : Parser} {s' : PState} (h : shapeImpl p.state s' = true) (hr : PRegOK p = true) :
    PRegOK { p with state := s' } = true := by
  simp only [shapeImpl, Bool.or_eq_true, Bool.and_eq_true, beq_iff_eq] at h
  rcases h with (h | rfl) | ⟨rfl, h⟩
  · -- `s'` asks for nothing
    cases s' <;> first | rfl | cases h
  · exact hr
  · -- `DcsPassthrough` accepts what the three DCS states before it leave
    obtain ⟨st, ps, cp, im⟩ := p
    rcases h with (rfl | rfl) | rfl
    · simp only [PRegOK, Bool.and_eq_true] at hr
      simp only [PRegOK, hr.1.1, Bool.true_or]
    · simp only [PRegOK, Bool.and_eq_true, Bool.or_eq_true] at hr
      simp only [PRegOK, Bool.or_eq_true]
      exact hr.1.elim (fun h => .inl (.inl h)) .inr
    · simp only [PRegOK] at hr
      simp only [PRegOK, hr, Bool.or_true, Bool.true_or]

/-- "no parameter has a sub-part", read on the parameters as written -/
theorem flat_iff {p : Parser} (hinv : PInv p = true) :
    (p.params.take (p.curParam + 1)).all (fun x => x.curPart == 0) = true ↔ ∀ w ∈ written p, w.length = 1 := by
  obtain ⟨-, -, hok, -⟩ := (pinv_iff p).1 hinv
  have key : ∀ x ∈ p.params.take (p.curParam + 1), (x.parts.take (x.curPart + 1)).length = 1 ↔ x.curPart = 0 := by
    intro x hx
    have := (ok_iff x).1 (hok x (List.mem_of_mem_take hx))
    rw [List.length_take]
    omega
  simp only [List.all_eq_true, beq_iff_eq, written, List.mem_map]
  constructor
  · rintro h w ⟨x, hx, rfl⟩
    exact (key x hx).2 (h x hx)
  · intro h x hx
    exact (key x hx).1 (h _ ⟨x, hx, rfl⟩)

theorem stepW_flat {ps : List (List Nat)} {c : Nat} (hc : c ≠ 0x3A) (h : ∀ w ∈ ps, w.length = 1) :
    ∀ w ∈ stepW ps c, w.length = 1 := by
  unfold stepW
  split
  · split
    · intro w hw
      rcases List.mem_append.1 hw with hw | hw
      · exact h w hw
      · rw [List.mem_singleton.1 hw]; rfl
    · exact h
  · intro w hw
    rcases ParserSeq.mem_modLast hw with hw | ⟨y, hy, rfl⟩
    · exact h w hw
    · rw [ParserSeq.modLast_length]; exact h y hy

/-- in a DCS parameter string (digits and `;` only) no parameter gets a sub-part -/
theorem param_dcs_parts {p q : Parser} {c : Nat} (hinv : PInv p = true) (h1 : 0x30 ≤ c) (h2 : c ≤ 0x3B)
    (hc : c ≠ 0x3a) (hp : (p.params.take (p.curParam + 1)).all (fun x => x.curPart == 0) = true)
    (h : p.param c = some q) : (q.params.take (q.curParam + 1)).all (fun x => x.curPart == 0) = true := by
  obtain ⟨q', hq', hinv', -, -, hw⟩ := param_spec hinv h1 h2
  rw [h] at hq'
  cases hq'
  rw [flat_iff hinv', hw]
  exact stepW_flat hc ((flat_iff hinv).1 hp)

theorem curPart_of_isZero {ps : List Param} (h : ∀ x ∈ ps, x.isZero = true) (n : Nat) :
    ∀ x ∈ ps.take n, x.curPart = 0 :=
  fun x hx => ((isZero_iff x).1 (h x (List.mem_of_mem_take hx))).1

theorem pregOK_stable : PRegOKStable := by
  intro p p' c f hinv hreg hfeed
  rw [feed_eq_sem, williams_class] at hfeed
  have hf := shapeFact_at p.state c
  simp only [shapeFact, shapeOK, inR] at hf
  generalize hwd : williams p.state (classChar c) = w at hfeed hf
  obtain ⟨k, s'⟩ := w
  cases k <;> simp only [sem] at hfeed hf
  case ignore | put | oscPut | print | execute => cases hfeed; exact shapeImpl_ok hf hreg
  case dispatchCsi =>
    simp only [Option.map_eq_some_iff] at hfeed
    obtain ⟨g, _, hg⟩ := hfeed
    cases hg
    simp only [beq_iff_eq] at hf
    subst hf
    rfl
  case dispatchEsc =>
    simp only [beq_iff_eq] at hf
    subst hf
    rw [escDispatch_total { p with state := .Ground } c rfl] at hfeed
    cases hfeed
    rfl
  case clear =>
    rw [clear_eq hinv] at hfeed
    simp only [Option.map_some, Option.some.injEq, Prod.mk.injEq] at hfeed
    obtain ⟨rfl, _⟩ := hfeed
    cases s' <;> simp only [entryClears, Bool.false_eq_true] at hf <;> decide
  case collect =>
    cases hfeed
    simp only [Bool.or_eq_true, Bool.and_eq_true, beq_iff_eq, decide_eq_true_eq] at hf
    rcases hf with ⟨hs, h1, h2⟩ | ⟨hs, h1, h2⟩
    · have e := ParserTable.classChar_eq h2 (by decide)
      rw [e] at h1 h2
      rcases hs with (rfl | rfl) | rfl <;> simp [PRegOK, imIn, h1, h2]
    · have e := ParserTable.classChar_eq h2 (by decide)
      rw [e] at h1 h2
      rcases hs with ⟨hst, rfl⟩ | ⟨hst, rfl⟩
      · simp [PRegOK, imIn, h1, h2]
      · obtain ⟨st, ps, cp, im⟩ := p
        simp only at hst
        subst hst
        simp only [PRegOK, Bool.and_eq_true, beq_iff_eq, List.all_eq_true, Option.isNone_iff_eq_none] at hreg
        simp only [PRegOK, imIn, h1, h2, decide_true, Bool.and_self, Bool.or_true, Bool.true_and, List.all_eq_true,
          beq_iff_eq]
        exact curPart_of_isZero hreg.2 _
  case param =>
    simp only [Option.map_eq_some_iff, Prod.mk.injEq] at hfeed
    obtain ⟨q, hq, rfl, _⟩ := hfeed
    simp only [Bool.or_eq_true, Bool.and_eq_true, beq_iff_eq, decide_eq_true_eq, bne_iff_ne, ne_eq] at hf
    obtain ⟨⟨hs, h1, h2⟩, h3⟩ := hf
    have e := ParserTable.classChar_eq h2 (by decide)
    rw [e] at h1 h2 h3
    obtain ⟨q', hq', -, -, him, -⟩ := param_spec hinv h1 h2
    rw [hq] at hq'
    cases hq'
    have hc3 : s' = .DcsParam → c ≠ 0x3a := fun hs' => h3.resolve_left fun h => h hs'
    obtain ⟨st, ps, cp, im⟩ := p
    rcases hs with ((⟨hst, rfl⟩ | ⟨hst, rfl⟩) | ⟨hst, rfl⟩) | ⟨hst, rfl⟩ <;> simp only at hst <;> subst hst
    · simp only [PRegOK, Bool.and_eq_true, Option.isNone_iff_eq_none] at hreg
      simp only at him
      simp [PRegOK, him, hreg.1.1]
    · simp only [PRegOK] at hreg ⊢
      simp only at him
      rw [him]; exact hreg
    · simp only [PRegOK, Bool.and_eq_true, beq_iff_eq, List.all_eq_true, Option.isNone_iff_eq_none] at hreg
      simp only at him
      have hparts := param_dcs_parts (p := ⟨.DcsEntry, ps, cp, im⟩) hinv h1 h2 (hc3 rfl) (by
        simp only [List.all_eq_true, beq_iff_eq]
        exact curPart_of_isZero hreg.2 _) hq
      simp only [PRegOK, him, hreg.1.1, Option.isNone_none, Bool.true_or, Bool.true_and]
      exact hparts
    · simp only [PRegOK, Bool.and_eq_true] at hreg
      simp only at him
      have hparts := param_dcs_parts (p := ⟨.DcsParam, ps, cp, im⟩) hinv h1 h2 (hc3 rfl) hreg.2 hq
      simp only [PRegOK, him, Bool.and_eq_true]
      exact ⟨hreg.1, hparts⟩

end

section
open Avt.Spec.C11 Avt.Terminal

/-- what holds of every state along a continuation -/
structure Good (v : Vt) : Prop where
  inv : Inv v = true
  reg : PRegOK v.parser = true
  geo : resizedOnAlt v.terminal = false

theorem Good.pre {v : Vt} (h : Good v) : Pre v.terminal := by
  have := h.inv
  simp only [Inv, Bool.and_eq_true] at this
  exact ⟨this.2, h.geo⟩

/-- register shape and "not resized on the alternate screen" are kept by input (`resize` keeps the first only) -/
theorem feedKeeps_good :
    Vt.FeedKeeps fun v => PRegOK v.parser = true ∧ resizedOnAlt v.terminal = false where
  feed := fun {v v' c} hi hp h => by
    obtain ⟨f, hf, ht⟩ := Vt.feed_cases h
    simp only [Inv, Bool.and_eq_true] at hi
    refine ⟨pregOK_stable _ _ c f hi.1 hp.1 hf, ?_⟩
    cases f with
    | none => exact ht ▸ hp.2
    | some f => exact (pre_execute ⟨hi.2, hp.2⟩ ht).2
  finish := fun _ hp => hp

theorem Good.feedAll (hst : PRegOKStable) : ∀ (xs : List Nat) {v v' : Vt}, Good v → v.feedAll xs = some v' → Good v' := by
  intro xs v v' h hf
  obtain ⟨w, e, hi, hp⟩ := feedKeeps_good.feedAll resizeOK parserOK xs h.inv ⟨h.reg, h.geo⟩
  cases e.symm.trans hf
  exact ⟨hi, hp.1, hp.2⟩

theorem agree_of {a b : Vt} (ha : Good a) (hb : Good b) (h : normD a = normD b) : Agree a.parser b.parser :=
  ⟨((Vt.inv_iff a).1 ha.inv).1, ((Vt.inv_iff b).1 hb.inv).1, ha.reg, hb.reg, congrArg Vt.parser h⟩

theorem norm_sound_feedAll (xs : List Nat) (a b : Vt) (ha : Good a) (hb : Good b)
    (h : normD a = normD b) : (a.feedAll xs).map normD = (b.feedAll xs).map normD :=
  Vt.feedAll_cong Good (Good.feedAll pregOK_stable) (fun c a b ha hb h =>
    norm_sound_feed_all a b (agree_of ha hb h) ha.pre hb.pre (congrArg Vt.terminal h) c) xs a b ha hb h

end

section
open Avt.Spec.C11

theorem keeps_pregOK : Vt.Keeps fun v => PRegOK v.parser = true where
  feed := fun {v v' c} hi hp h => by
    obtain ⟨f, hf, _⟩ := Vt.feed_cases h
    exact pregOK_stable _ _ c f ((Vt.inv_iff v).1 hi).1 hp hf
  finish := fun _ hp => hp
  resize := fun _ hp _ _ h => by
    obtain ⟨t', _, he⟩ := Option.map_eq_some_iff.1 h
    exact congrArg (fun x => x.1.parser) he ▸ hp

theorem reach_pregOK {s : Vt} (h : Reach s) : Inv s = true ∧ PRegOK s.parser = true :=
  Props.Closed.Reach_induct keeps_pregOK
    (fun e => (Vt.new_fields e).1 ▸ (by decide : PRegOK Parser.new = true)) h.pub

/-- the restored terminal is `Good` -/
theorem good_restore {s r : Vt} (hc : 1 ≤ s.terminal.cols) (hr : 1 ≤ s.terminal.rows)
    (h : restoreOf s = some r) : Good r := by
  obtain ⟨d, f, ch, -, hn, hf⟩ := restoreOf_eq_some h
  obtain ⟨f', hn', hi⟩ := Vt.new_ok none hc hr
  cases hn.symm.trans hn'
  obtain ⟨t, ht, rfl⟩ := Option.map_eq_some_iff.1 hn
  obtain ⟨r1, -, rfl⟩ := Option.map_eq_some_iff.1 ht
  obtain ⟨r', ch', e, hi', hp'⟩ := feedKeeps_good.feedStr resizeOK parserOK d hi
    ⟨(by decide : PRegOK Parser.new = true), rfl⟩
  cases e.symm.trans hf
  exact ⟨hi', hp'.1, hp'.2⟩

/-- equal normal forms show the same through the public API -/
theorem norm_obs {a b : Vt} (h : normD a = normD b) : obs a = obs b := by
  have ht : normT a.terminal = normT b.terminal := congrArg Vt.terminal h
  have h1 : a.terminal.buffer.view = b.terminal.buffer.view := congrArg (fun t => t.buffer.view) ht
  have h2 : a.terminal.cursor = b.terminal.cursor := (congrArg Terminal.cursor ht :)
  have h3 : a.terminal.cursorKeysMode = b.terminal.cursorKeysMode := (congrArg Terminal.cursorKeysMode ht :)
  simp only [obs, Vt.view, Terminal.view, Vt.cursor, Vt.cursorKeyAppMode, h1, h2, h3]

/-- the same for two runs that may have panicked -/
theorem map_obs_of_map_normD {x y : Option Vt} (h : x.map normD = y.map normD) : x.map obs = y.map obs := by
  cases x <;> cases y <;> simp only [Option.map_some, Option.map_none, Option.some.injEq, reduceCtorEq] at h ⊢
  exact norm_obs h

/-- a state and its exact restore show the same after every continuation, and panic together -/
theorem obs_feedAll_of_restore {s r : Vt} (hinv : Inv s = true) (hreg : PRegOK s.parser = true)
    (h2 : resizedOnAlt s.terminal = false) (hrs : restoreOf s = some r) (hn : normD r = normD s)
    (xs : List Nat) : (s.feedAll xs).map obs = (r.feedAll xs).map obs := by
  have ht := ((Vt.inv_iff s).1 hinv).2
  exact map_obs_of_map_normD
    (norm_sound_feedAll xs s r ⟨hinv, hreg, h2⟩ (good_restore ht.c1 ht.r1 hrs) hn.symm)

end

end Lemmas.C11
end Avt
