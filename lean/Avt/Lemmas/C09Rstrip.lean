/-
  Avt.Lemmas.C09Rstrip — "remove the trailing elements that satisfy `p`", the common shape of
  `trimEnd` (trailing white space, C09) and `stripDefault` (trailing default cells, C10).
-/
namespace Avt.Lemmas

def rstrip {α} (p : α → Bool) (xs : List α) : List α := (xs.reverse.dropWhile p).reverse

variable {α : Type} (p : α → Bool)

@[simp] theorem rstrip_nil : rstrip p ([] : List α) = [] := rfl

theorem rstrip_decomp (xs : List α) :
    ∃ d, xs = rstrip p xs ++ d ∧ ∀ x ∈ d, p x = true := by
  refine ⟨(xs.reverse.takeWhile p).reverse, ?_, ?_⟩
  · have h := (List.takeWhile_append_dropWhile (p := p) (l := xs.reverse))
    have h2 := congrArg List.reverse h
    rw [List.reverse_append, List.reverse_reverse] at h2
    exact h2.symm
  · intro x hx
    exact List.all_eq_true.1 List.all_takeWhile x (List.mem_reverse.1 hx)

theorem rstrip_append_of_all {a d : List α} (h : ∀ x ∈ d, p x = true) :
    rstrip p (a ++ d) = rstrip p a := by
  unfold rstrip
  rw [List.reverse_append, List.dropWhile_append_of_pos]
  intro x hx; exact h x (List.mem_reverse.1 hx)

theorem rstrip_append_singleton (xs : List α) (c : α) :
    rstrip p (xs ++ [c]) = if p c then rstrip p xs else xs ++ [c] := by
  unfold rstrip
  rw [List.reverse_append]
  simp only [List.reverse_cons, List.reverse_nil, List.nil_append, List.singleton_append,
    List.dropWhile_cons]
  split <;> simp

theorem rstrip_cons (x : α) (xs : List α) :
    rstrip p (x :: xs) = if (rstrip p xs).isEmpty && p x then [] else x :: rstrip p xs := by
  unfold rstrip
  rw [List.reverse_cons, List.dropWhile_append]
  cases hd : List.dropWhile p xs.reverse with
  | nil => cases hx : p x <;> simp [hx]
  | cons y ys => simp

theorem rstrip_append_singleton_neg {xs : List α} {c : α} (h : p c = false) :
    rstrip p (xs ++ [c]) = xs ++ [c] := by
  rw [rstrip_append_singleton]; simp [h]

theorem rstrip_append_of_ne {a b : List α} (h : rstrip p b ≠ []) :
    rstrip p (a ++ b) = a ++ rstrip p b := by
  unfold rstrip at *
  rw [List.reverse_append, List.dropWhile_append]
  have : (List.dropWhile p b.reverse).isEmpty = false := by
    cases hd : List.dropWhile p b.reverse with
    | nil => simp [hd] at h
    | cons _ _ => rfl
  simp [this]

theorem rstrip_eq_nil_iff {b : List α} : rstrip p b = [] ↔ ∀ x ∈ b, p x = true := by
  constructor
  · intro h x hx
    obtain ⟨d, hd, hall⟩ := rstrip_decomp p b
    rw [h, List.nil_append] at hd
    exact hall x (hd ▸ hx)
  · intro h
    have := rstrip_append_of_all p (a := []) h
    simpa using this

theorem rstrip_append_rstrip (a b : List α) :
    rstrip p (a ++ rstrip p b) = rstrip p (a ++ b) := by
  obtain ⟨d, hd, hall⟩ := rstrip_decomp p b
  conv => rhs; rw [hd, ← List.append_assoc, rstrip_append_of_all p hall]

theorem rstrip_idem (xs : List α) : rstrip p (rstrip p xs) = rstrip p xs := by
  simpa using rstrip_append_rstrip p [] xs

theorem rstrip_prefix (xs : List α) : rstrip p xs <+: xs := by
  obtain ⟨d, hd, _⟩ := rstrip_decomp p xs
  exact ⟨d, hd.symm⟩

theorem rstrip_prefix_append (a b : List α) : rstrip p a <+: rstrip p (a ++ b) := by
  by_cases h : rstrip p b = []
  · rw [rstrip_append_of_all p ((rstrip_eq_nil_iff p).1 h)]
    exact List.prefix_refl _
  · rw [rstrip_append_of_ne p h]
    exact (rstrip_prefix p a).trans (List.prefix_append _ _)

theorem rstrip_append_congr (a : List α) {x y : List α} (h : rstrip p x = rstrip p y) :
    rstrip p (a ++ x) = rstrip p (a ++ y) := by
  rw [← rstrip_append_rstrip p a x, ← rstrip_append_rstrip p a y, h]

theorem rstrip_length_le (xs : List α) : (rstrip p xs).length ≤ xs.length :=
  (rstrip_prefix p xs).length_le

theorem rstrip_eq_take (xs : List α) :
    rstrip p xs = xs.take (xs.length - (xs.reverse.takeWhile p).length) := by
  have h := (List.takeWhile_append_dropWhile (p := p) (l := xs.reverse))
  have h2 := congrArg List.reverse h
  rw [List.reverse_append, List.reverse_reverse] at h2
  have hl : xs.length = (rstrip p xs).length + (xs.reverse.takeWhile p).length := by
    have := congrArg List.length h2
    simp only [List.length_append, List.length_reverse] at this
    unfold rstrip; simp only [List.length_reverse]; omega
  have : xs.length - (xs.reverse.takeWhile p).length = (rstrip p xs).length := by omega
  rw [this]
  obtain ⟨d, hd, _⟩ := rstrip_decomp p xs
  have h3 : xs.take (rstrip p xs).length = (rstrip p xs ++ d).take (rstrip p xs).length := by
    rw [← hd]
  rw [h3, List.take_append_of_le_length (Nat.le_refl _), List.take_length]

theorem rstrip_take_of_le {xs : List α} {m : Nat} (h : (rstrip p xs).length ≤ m) :
    rstrip p (xs.take m) = rstrip p xs := by
  obtain ⟨d, hd, hall⟩ := rstrip_decomp p xs
  have : xs.take m = rstrip p xs ++ d.take (m - (rstrip p xs).length) := by
    conv => lhs; rw [hd, List.take_append]
    rw [List.take_of_length_le h]
  rw [this, rstrip_append_of_all]
  · exact rstrip_idem p xs
  · intro x hx; exact hall x (List.mem_of_mem_take hx)

end Avt.Lemmas
