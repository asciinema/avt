/-
  Avt.Lemmas.C16Text — the linear-time text function of the C16 oracle is `Buffer.text`
  (`fastTextGo_eq`); `gc()` of a buffer marked `trim_needed` leaves `trimmedSb` (`gc_trimmed`); the
  frame property in the form that lifts through the public calls (`fr_kept`); the two copies of
  `emitted` agree (`emitted_eq`).
-/
import Avt.Lemmas.C16Switch
import Avt.Lemmas.FrameLift
import Avt.Lemmas.Run

namespace Avt.C16
open Avt Avt.Spec.C16

theorem fastTextGo_eq (ls : List Line) (acc : List (List Nat)) :
    fastTextGo ls acc = Buffer.textGo ls acc.reverse.flatten := by
  induction ls generalizing acc with
  | nil => simp [fastTextGo, Buffer.textGo]
  | cons l ls ih =>
    simp only [fastTextGo, Buffer.textGo, List.reverse_cons, List.flatten_append, List.flatten_cons,
      List.flatten_nil, List.append_nil]
    split
    · rw [ih]; rfl
    · rw [ih]; simp

theorem fr_parts {t t' : Terminal} (h : fr t' = fr t) :
    t'.otherBuffer = t.otherBuffer ∧ t'.alternateSavedCtx = t.alternateSavedCtx
      ∧ t'.activeBufferType = t.activeBufferType := by
  simp only [fr, Prod.mk.injEq] at h; exact h

theorem gc_trimmed (b : Buffer) (h : b.trimNeeded = true) : b.gc.1.sb = trimmedSb b := by
  rw [Frame.gc_spec]
  unfold Frame.gcCount trimmedSb
  rw [if_pos h]
  cases b.limit with
  | none => rfl
  | some lim => dsimp only; split <;> rfl

/-- the two copies of `emitted` (Spec/C16.lean for the oracle, Lemmas/Run.lean) are the same function -/
theorem emitted_eq (s : List Nat) (p : Parser) : emitted p s = Frame.emitted p s := by
  induction s generalizing p with
  | nil => rfl
  | cons c cs ih => simp only [emitted, Frame.emitted, ih]; rfl

/-- the frame of the parked primary, from a state that shows the alternate screen, in the form the
    lifting to the public calls takes (`Frame.Kept`) -/
theorem fr_kept : Frame.Kept (fun t t' => t.activeBufferType = .alternate → fr t' = fr t)
    (endsExcursion · = false) where
  refl _ _ := rfl
  trans h1 h2 ha := (h2 ((fr_parts (h1 ha)).2.2.trans ha)).trans (h1 ha)
  draws d _ := fr_of_draws d
  step hf h ha := fr_execute ha hf h

end Avt.C16
