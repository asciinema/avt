/-
  Avt.Lemmas.ParserTable — the generated arm list of `Parser::feed` against Williams' diagram.  Both
  lookups are constant on the cells of the endpoint partition, so equality at every code point is a
  finite re-check at one representative per cell (`table_eq`).  Facts about the diagram alone come
  the same way from its own endpoints (`williams_span`, `williams_forall`); what does not depend on
  the character is read off the rows (`williams_outs`, `kind_within`, `williams_anywhere`).
-/
import Avt.Lemmas.ParserReps

namespace Avt.ParserTable
open Avt Avt.Lookup Avt.Spec.C03

theorem stable_rowFind (l : List Row) : Stable (rowBounds l) (fun c => l.find? (fun r => r.has c)) := by
  apply Stable.find
  intro r hr
  unfold Row.has
  apply Stable.any
  intro iv hiv
  have hlo : iv.1 ∈ rowBounds l := List.mem_flatMap.2 ⟨r, hr, List.mem_flatMap.2 ⟨iv, hiv, by simp⟩⟩
  have hhi : iv.2 + 1 ∈ rowBounds l := List.mem_flatMap.2 ⟨r, hr, List.mem_flatMap.2 ⟨iv, hiv, by simp⟩⟩
  exact Stable.range hlo hhi

-- over the diagram's own endpoints `wbounds`, which is all that facts about the diagram alone have
-- to visit (`williams_span`, `williams_forall`); `stable_williams` weakens it to the joint partition
-- `bounds`, on which `table_eq` compares the diagram with the generated arms
theorem stable_williams' (st : PState) : Stable (wbounds st) (fun c => williams st c) := by
  have h1 : Stable (wbounds st) (fun c => (anywhere ++ rows st).find? (fun r => r.has c)) :=
    (stable_rowFind _).mono (by intro b hb; simp [wbounds, hb])
  have h2 := Stable.premap (k := 0xA0) h1 (by simp [wbounds]) 0x41
  intro c d a
  have := h2 c d a
  simp only [williams, classChar]
  simp only at this
  rw [this]

theorem stable_williams (st : PState) : Stable (bounds st) (fun c => williams st c) :=
  (stable_williams' st).mono (by
    intro b hb
    simp only [wbounds, List.mem_cons] at hb
    rcases hb with rfl | hb
    · simp [bounds]
    · simp [bounds, hb])

theorem _root_.Avt.Spec.C03.inR_iff (lo hi c : Nat) : inR lo hi c = true ↔ lo ≤ c ∧ c ≤ hi := by
  simp [inR]

theorem stable_inR {B : List Nat} {lo hi : Nat} (hlo : lo ∈ B) (hhi : hi + 1 ∈ B) :
    Stable B (fun c => inR lo hi c) := Stable.range hlo hhi

theorem mem_all (st : PState) : st ∈ PState.all := by cases st <;> decide

/-- for the states in `S`: the diagram's answer `williams st c` and a test `q c` that is stable for
    some `extra` endpoints satisfy `g` at every code point when they do at the representatives -/
theorem williams_forall {β : Type} (S : List PState) (extra : List Nat) {q : Nat → β}
    (hq : Stable extra q) (g : Kind × PState → β → Bool)
    (h : ∀ st ∈ S, ((0 :: (extra ++ wbounds st)).eraseDups).all (fun c => g (williams st c) (q c)) = true) :
    ∀ st ∈ S, ∀ c, g (williams st c) (q c) = true := by
  intro st hst
  exact forall_of_reps_dedup (Stable.map2 ((stable_williams' st).mono fun b hb => List.mem_append_right _ hb)
    (hq.mono fun b hb => List.mem_append_left _ hb) g) (h st hst)

/-- what every state in `S` does at the left end of an interval and at the diagram's endpoints inside
    it, it does on the whole interval -/
theorem williams_span (S : List PState) (lo hi : Nat) (w : Kind × PState)
    (h : ∀ st ∈ S, williams st lo = w ∧ ∀ b ∈ wbounds st, lo < b → b ≤ hi → williams st b = w) :
    ∀ st ∈ S, ∀ c, lo ≤ c → c ≤ hi → williams st c = w :=
  fun st hst _ h1 h2 => (stable_williams' st).const_span (h st hst).1 (h st hst).2 h1 h2

/-- what row `r` of the diagram does in state `st` -/
def rowOut (st : PState) (r : Row) : Kind × PState :=
  match r.next with
  | none => (r.act, st)
  | some s => (if r.act == .ignore && entryClears s then .clear else r.act, s)

/-- the transitions of the diagram out of `st`, whatever the character -/
def outs (st : PState) : List (Kind × PState) := (.ignore, st) :: (anywhere ++ rows st).map (rowOut st)

theorem williams_row (st : PState) (c : Nat) : williams st c = (.ignore, st) ∨
    ∃ r ∈ anywhere ++ rows st, r.has (classChar c) = true ∧ williams st c = rowOut st r := by
  unfold williams
  cases hf : (anywhere ++ rows st).find? (fun r => r.has (classChar c)) with
  | none => exact .inl rfl
  | some r => exact .inr ⟨r, List.mem_of_find?_eq_some hf, List.find?_some (p := fun r : Row => r.has (classChar c)) hf, rfl⟩

theorem williams_mem_outs (st : PState) (c : Nat) : williams st c ∈ outs st := by
  rcases williams_row st c with h | ⟨r, hr, -, h⟩
  · rw [h]; exact List.mem_cons_self
  · rw [h]; exact List.mem_cons_of_mem _ (List.mem_map.2 ⟨r, hr, rfl⟩)

/-- a fact about the diagram that does not depend on the character is checked row by row -/
theorem williams_outs (S : List PState) (P : PState → Kind × PState → Bool)
    (h : ∀ st ∈ S, (outs st).all (P st) = true) : ∀ st ∈ S, ∀ c, P st (williams st c) = true :=
  fun st hst c => List.all_eq_true.1 (h st hst) _ (williams_mem_outs st c)

/-- all ranges of the row lie in `lo..hi` (for facts that hold of a row because of where its ranges lie) -/
def within (r : Row) (lo hi : Nat) : Bool := r.ranges.all fun iv => decide (lo ≤ iv.1) && decide (iv.2 ≤ hi)

/-- no range of the row contains `x` -/
def avoids (r : Row) (x : Nat) : Bool := r.ranges.all fun iv => decide (x < iv.1) || decide (iv.2 < x)

theorem has_within {r : Row} {d lo hi : Nat} (h : r.has d = true) (hw : within r lo hi = true) :
    inR lo hi d = true := by
  obtain ⟨iv, hiv, hd⟩ := List.any_eq_true.1 h
  have := List.all_eq_true.1 hw iv hiv
  simp only [inR, Bool.and_eq_true, decide_eq_true_eq] at hd this ⊢
  omega

/-- a kind that only rows with all ranges in `lo..hi` produce is produced only for a class in `lo..hi` -/
theorem kind_within {k : Kind} {lo hi : Nat} (hk : k ≠ .ignore)
    (hrow : ∀ st ∈ PState.all, ∀ r ∈ anywhere ++ rows st, ((rowOut st r).1 != k || within r lo hi) = true)
    {st s : PState} {c : Nat} (h : williams st c = (k, s)) : inR lo hi (classChar c) = true := by
  rcases williams_row st c with h' | ⟨r, hr, hd, h'⟩
  · rw [h'] at h
    exact absurd (congrArg Prod.fst h).symm hk
  · have := hrow st (mem_all st) r hr
    rw [← h', h] at this
    exact has_within hd (by simpa using this)

theorem has_avoids {r : Row} {d x : Nat} (h : r.has d = true) (hw : avoids r x = true) : (d != x) = true := by
  obtain ⟨iv, hiv, hd⟩ := List.any_eq_true.1 h
  have := List.all_eq_true.1 hw iv hiv
  simp only [Bool.and_eq_true, Bool.or_eq_true, decide_eq_true_eq, bne_iff_ne, ne_eq] at hd this ⊢
  omega

/-- below `A` a character is its own class -/
theorem classChar_eq {c hi : Nat} (h : classChar c ≤ hi) (hhi : hi < 0x41) : classChar c = c := by
  unfold classChar at h ⊢
  split
  · rename_i hge; rw [if_pos hge] at h; omega
  · rfl

/-- a transition listed under `anywhere` is taken whatever the state -/
theorem williams_anywhere {c : Nat} {w : Kind × PState}
    (h : ((anywhere.find? fun r => r.has (classChar c)).bind fun r => r.next.map fun s =>
      (if r.act == .ignore && entryClears s then .clear else r.act, s)) = some w) (st : PState) :
    williams st c = w := by
  unfold williams
  rw [List.find?_append]
  cases hr : anywhere.find? fun r => r.has (classChar c) with
  | none => rw [hr] at h; cases h
  | some r =>
    rw [hr, Option.bind_some] at h
    cases hn : r.next with
    | none => rw [hn] at h; cases h
    | some s =>
      rw [hn] at h
      simp only [Option.some_or]
      rw [hn]
      exact Option.some.inj h

theorem stable_kindAndNext (st : PState) : Stable (bounds st) (fun c => kindAndNext st c) := by
  have h1 : Stable (bounds st) (fun c => Parser.findArm Gen.feedArms st c) :=
    (stable_findArm Gen.feedArms st).mono (by intro b hb; simp [bounds, hb])
  have h2 := Stable.premap (k := Gen.premapFrom) h1 (by simp [bounds]) Gen.premapTo
  intro c d a
  have := h2 c d a
  simp only [kindAndNext, Parser.premap]
  simp only at this
  rw [this]

/-- `kindAndNext` over an arbitrary arm list -/
def kindIn (arms : List Arm) (st : PState) (c : Nat) : Option (Kind × PState) :=
  match (Parser.findArm arms st (Parser.premap c)).map (·.acts) with
  | none => some (.ignore, st)
  | some acts => classify acts st

theorem kindAndNext_armsIn (st : PState) (c : Nat) :
    kindAndNext st c = kindIn (armsIn st Gen.feedArms) st c := by
  unfold kindIn kindAndNext
  rw [findArm_armsIn]
  cases Parser.findArm Gen.feedArms st (Parser.premap c) <;> rfl

/-- the finite check; each state looks its representatives up in its own arms only (through the
    whole `match` the kernel is slow) -/
def tableCheck : Bool :=
  PState.all.all fun st => (reps st).all fun b =>
    decide (kindIn (armsIn st Gen.feedArms) st b = some (williams st b))

theorem tableCheck_ok : tableCheck = true := by decide +kernel

theorem table_eq (st : PState) (c : Nat) : kindAndNext st c = some (williams st c) := by
  have hst := List.all_eq_true.1 tableCheck_ok st (mem_all st)
  simp only [← kindAndNext_armsIn] at hst
  have hP : Stable (bounds st) (fun c => decide (kindAndNext st c = some (williams st c))) :=
    Stable.map2 (stable_kindAndNext st) (stable_williams st) (fun x y => decide (x = some y))
  have := forall_of_reps_dedup hP hst c
  simpa using this

end Avt.ParserTable
