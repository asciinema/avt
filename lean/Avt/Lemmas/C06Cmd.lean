/-
  Avt.Lemmas.C06Cmd — the scrolling commands of `Terminal.execute` meet `scrollCmdSpec`.
-/
import Avt.Lemmas.C06Buffer
import Avt.Lemmas.InvTerminal

namespace Avt.C06L
open Avt.Spec.C06

theorem _root_.Avt.WrapPre.scrollUpInRegion_eq {t : Terminal} (p : WrapPre t) (n : Nat) :
    t.scrollUpInRegion n = some (regionUp t n) := by
  obtain ⟨htb, hbr, _⟩ := p.marg
  have hr := p.brows
  have hd := p.dirty
  unfold Terminal.scrollUpInRegion regionUp
  rw [scrollUp_eq _ _ _ _ _ p.bhv (by omega) (by omega), Dirty.extend_eq (by omega) (by omega)]
  rfl

theorem _root_.Avt.WrapPre.scrollDownInRegion_eq {t : Terminal} (p : WrapPre t) (n : Nat) :
    t.scrollDownInRegion n = some (regionDown t n) := by
  obtain ⟨htb, hbr, _⟩ := p.marg
  have hr := p.brows
  have hd := p.dirty
  unfold Terminal.scrollDownInRegion regionDown
  rw [scrollDown_eq _ _ _ _ _ p.bhv (by omega) (by omega), Dirty.extend_eq (by omega) (by omega)]
  rfl

theorem _root_.Avt.WrapPre.moveCursorDownWithScroll_eq {t : Terminal} (p : WrapPre t) :
    t.moveCursorDownWithScroll = some (down1 t) := by
  have hrp := p.r1
  unfold Terminal.moveCursorDownWithScroll down1
  by_cases h1 : t.cursor.row = t.bottomMargin
  · simp only [h1, if_true]
    exact p.scrollUpInRegion_eq 1
  · simp only [h1, if_false, csub_eq_some hrp]
    by_cases h2 : t.cursor.row + 1 < t.rows
    · have : t.cursor.row < t.rows - 1 := by omega
      simp only [h2, this, if_true]
      exact Lemmas.C05.toRow_eq p.c1 _
    · have : ¬ t.cursor.row < t.rows - 1 := by omega
      simp only [h2, this, if_false]

theorem _root_.Avt.WrapPre.ri_eq {t : Terminal} (p : WrapPre t) : t.ri = some (up1 t) := by
  unfold Terminal.ri up1
  by_cases h1 : t.cursor.row = t.topMargin
  · simp only [h1, if_true]
    exact p.scrollDownInRegion_eq 1
  · simp only [h1, if_false]
    split
    · exact Lemmas.C05.toRow_eq p.c1 _
    · rfl

theorem ilRange_eq (t : Terminal) : t.ilRange = ((lineRange t).1, (lineRange t).2) := by
  unfold Terminal.ilRange lineRange
  split <;> rfl

theorem lineRange_ok {t : Terminal} (p : TOK t) :
    (lineRange t).1 < (lineRange t).2 ∧ (lineRange t).2 ≤ t.rows := by
  have := Terminal.ilRange_ok p
  rwa [ilRange_eq] at this

theorem il_eq (t : Terminal) (n : Nat) (p : TOK t) :
    t.il n = some (insertLines t (asUsize n 1)) := by
  have hr := p.brows
  have hd := p.dirty
  obtain ⟨h1, h2⟩ := lineRange_ok p
  unfold Terminal.il insertLines Terminal.markDirtyRange
  rw [ilRange_eq]
  simp only []
  rw [scrollDown_eq _ _ _ _ _ p.bok.hv h1 (by omega)]
  simp only
  rw [Dirty.extend_eq (by omega) (by omega)]
  rfl

theorem dl_eq (t : Terminal) (n : Nat) (p : TOK t) :
    t.dl n = some (deleteLines t (asUsize n 1)) := by
  have hr := p.brows
  have hd := p.dirty
  obtain ⟨h1, h2⟩ := lineRange_ok p
  unfold Terminal.dl deleteLines Terminal.markDirtyRange
  rw [ilRange_eq]
  simp only []
  rw [scrollUp_eq _ _ _ _ _ p.bok.hv h1 (by omega)]
  simp only
  rw [Dirty.extend_eq (by omega) (by omega)]
  rfl

theorem decstbm_eq (t : Terminal) (a b : Nat) (p : TOK t) :
    t.decstbm a b = some (setMargins t a b) := by
  have hcp := p.c1
  have hrp := p.r1
  have hA := asUsize_pos a (Nat.le_refl 1)
  have hB := asUsize_pos b hrp
  unfold Terminal.decstbm setMargins marginsAfter validMargins
  simp only [csub_eq_some hB]
  by_cases hv : asUsize a 1 - 1 < asUsize b t.rows - 1 ∧ asUsize b t.rows - 1 < t.rows
  · have hv' : (decide (1 ≤ asUsize a 1) && decide (asUsize a 1 < asUsize b t.rows)
        && decide (asUsize b t.rows ≤ t.rows)) = true := by
      simp only [Bool.and_eq_true, decide_eq_true_eq]; omega
    simp only [hv, hv', and_self, if_true]
    exact Lemmas.C05.home_eq (t := _) hcp
  · have hv' : (decide (1 ≤ asUsize a 1) && decide (asUsize a 1 < asUsize b t.rows)
        && decide (asUsize b t.rows ≤ t.rows)) = false := by
      rw [Bool.eq_false_iff]
      simp only [ne_eq, Bool.and_eq_true, decide_eq_true_eq]; omega
    simp only [hv, hv', if_false, Bool.false_eq_true]
    exact Lemmas.C05.home_eq (t := _) hcp

theorem _root_.Avt.WrapPre.lf_eq {t : Terminal} (p : WrapPre t) : t.lf = some (scrollCmdSpec t .lf) := by
  unfold Terminal.lf scrollCmdSpec
  rw [p.moveCursorDownWithScroll_eq]
  simp only [Option.map_some, Terminal.doMoveCursorToCol, toCol0]

theorem _root_.Avt.WrapPre.nel_eq {t : Terminal} (p : WrapPre t) : t.nel = some (scrollCmdSpec t .nel) := by
  unfold Terminal.nel scrollCmdSpec
  rw [p.moveCursorDownWithScroll_eq]
  rfl

theorem scrollCmd_eq (t : Terminal) (f : Function) (h : TInv t = true) (hf : coveredScroll f = true) :
    t.execute f = some (scrollCmdSpec t f) := by
  have k := TOK.of_TInv h
  have p := (PrintPre.of_TOK k).toWrapPre
  cases f <;> simp only [coveredScroll, Bool.false_eq_true] at hf
  case lf => exact p.lf_eq
  case nel => exact p.nel_eq
  case ri => exact p.ri_eq
  case su n => exact p.scrollUpInRegion_eq _
  case sd n => exact p.scrollDownInRegion_eq _
  case il n => exact il_eq t n k
  case dl n => exact dl_eq t n k
  case decstbm a b => exact decstbm_eq t a b k
  case cr => rfl

end Avt.C06L
