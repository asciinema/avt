/-
  Avt.Lemmas.FrameLift — from one function to the public calls.  A relation between terminals that
  is reflexive, transitive, holds across drawing, and is kept by every function of some class, is
  kept by the fold of `execute` over functions of that class, hence by `Vt.feed` / `Vt.feedAll` /
  `Vt.feedStr` whenever the parser emits only such functions, and by any public call (`Kept.call`) if
  `Terminal.resize` keeps it too; `run_keeps` (Lemmas/InvVt.lean) then takes it along a history.  A
  predicate `P` kept by a class of functions is the relation `fun t t' => P t → P t'`.
-/
import Avt.Lemmas.Footprint
import Avt.Lemmas.InvVt
import Avt.Lemmas.Run

namespace Avt.Frame
open Avt

/-- `R` is reflexive, transitive, holds across any step related by `Draws` (field `draws`: the relation
    of Lemmas/Footprint.lean, not the class `Function.draws`), and is kept by every function in `p` -/
structure Kept (R : Terminal → Terminal → Prop) (p : Function → Prop) : Prop where
  refl : ∀ t, R t t
  trans : ∀ {a b c}, R a b → R b c → R a c
  draws : ∀ {t t'}, Draws t t' → R t t'
  step : ∀ {t t' f}, p f → t.execute f = some t' → R t t'

/-- `changes()` + `gc()` clear the dirty flags and trim the buffer -/
theorem finish_draws (v : Vt) : Draws v.terminal v.finish.1.terminal := by
  field_by_field

namespace Kept
variable {R : Terminal → Terminal → Prop} {p : Function → Prop}

theorem many (K : Kept R p) {fs : List Function} (hf : ∀ f ∈ fs, p f) {t t' : Terminal}
    (h : Terminal.foldM' Terminal.execute fs t = some t') : R t t' :=
  Terminal.foldM'_inv (R t) (fun _ f _ hm hb hs => K.trans hb (K.step (hf f hm) hs)) (K.refl t) h

theorem feedAll (K : Kept R p) (xs : List Nat) {v v' : Vt} (hf : ∀ f ∈ emitted v.parser xs, p f)
    (h : v.feedAll xs = some v') : R v.terminal v'.terminal :=
  K.many hf (Run.feedAll_emitted h).2

theorem feed (K : Kept R p) {v v' : Vt} {c : Nat} (hf : ∀ f ∈ emitted v.parser [c], p f)
    (h : v.feed c = some v') : R v.terminal v'.terminal :=
  K.feedAll [c] hf (by simp only [Vt.feedAll, h])

theorem feedStr (K : Kept R p) {xs : List Nat} {v v' : Vt} {ch : Changes}
    (hf : ∀ f ∈ emitted v.parser xs, p f) (h : v.feedStr xs = some (v', ch)) :
    R v.terminal v'.terminal := by
  obtain ⟨v1, h1, h2⟩ := Vt.feedStr_eq_some.1 h
  cases h2
  exact K.trans (K.feedAll xs hf h1) (K.draws (finish_draws v1))

/-- `Vt::resize`, for a relation that `Terminal.resize` keeps -/
theorem vtResize (K : Kept R p) (hr : ∀ {t t' c r}, t.resize c r = some t' → R t t')
    {v v' : Vt} {ch : Changes} {cols rows : Nat} (h : v.resize cols rows = some (v', ch)) :
    R v.terminal v'.terminal := by
  obtain ⟨t1, h1, rfl, -⟩ := Vt.resize_terminal h
  exact K.trans (hr h1) (K.draws (finish_draws { v with terminal := t1 }))

/-- one public call, of any state: what the liftings along histories (`run_keeps`) take -/
theorem call (K : Kept R p) (hz : ∀ {t t' c r}, t.resize c r = some t' → R t t') {v v' : Vt} {op : PubOp}
    (hq : ∀ f ∈ emitted v.parser (Props.Closed2.PubOp.input op), p f) (h : Avt.step v op = some v') :
    R v.terminal v'.terminal := by
  cases op with
  | feedStr s | feedDrop s =>
    obtain ⟨⟨w, ch⟩, hr, rfl⟩ := Option.map_eq_some_iff.1 h
    exact K.feedStr hq hr
  | feedChars s => exact K.feedAll s hq h
  | resize c r =>
    obtain ⟨⟨w, ch⟩, hr, rfl⟩ := Option.map_eq_some_iff.1 h
    exact K.vtResize hz hr

end Kept
end Avt.Frame
