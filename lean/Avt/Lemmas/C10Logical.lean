/-
  Avt.Lemmas.C10Logical — lemmas about `stripDefault`, `joinRows`, `logicalLines` (Spec/C10.lean).
  From `rowsCells` on, for Lemmas/C10Rel.lean: a run of wrapped rows joins the first line of what
  follows (`joinRows_run_append`), and when the new line, untrimmed, is a prefix of the old one, the
  `beforeOK` and `onCharOK` clauses of `resizeRel` hold at the offsets inside it (`before_of_prefix`,
  `char_of_prefix`).
-/
import Avt.Spec.C10
import Avt.Lemmas.C09Text

namespace Avt.Lemmas
open Avt Avt.Spec.C10

theorem stripDefault_eq (cs : List Cell) : stripDefault cs = rstrip Cell.isDefault cs := rfl

theorem all_default_replicate (k : Nat) :
    ∀ x ∈ List.replicate k (Cell.blank Pen.default), x.isDefault = true := by
  intro x hx
  rw [(List.mem_replicate.1 hx).2]; exact Cell.blank_default_isDefault

theorem stripDefault_append_blanks (a : List Cell) (k : Nat) :
    stripDefault (a ++ List.replicate k (Cell.blank Pen.default)) = stripDefault a :=
  rstrip_append_of_all _ (all_default_replicate k)

theorem stripDefault_blanks (k : Nat) :
    stripDefault (List.replicate k (Cell.blank Pen.default)) = [] := by
  have := stripDefault_append_blanks [] k
  rw [List.nil_append] at this
  rw [this]; rfl

theorem trim_eq (l : Line) : l.trim = { l with cells := stripDefault l.cells } := by
  unfold Line.trim Line.trailers
  rw [stripDefault_eq, rstrip_eq_take]

theorem stripDefault_length_eq (l : Line) : (stripDefault l.cells).length = l.len - l.trailers := by
  unfold Line.trailers Line.len
  rw [stripDefault_eq, rstrip_eq_take, List.length_take]
  omega

theorem joinRows_eq_nil {ls : List Line} : joinRows ls = [] ↔ ls = [] := by
  cases ls with
  | nil => simp [joinRows]
  | cons l t =>
    simp only [joinRows, reduceCtorEq, iff_false]
    split
    · split <;> simp
    · simp

theorem joinRows_cons_unwrapped {l : Line} (h : l.wrapped = false) (t : List Line) :
    joinRows (l :: t) = l.cells :: joinRows t := by
  simp [joinRows, h]

theorem joinRows_cons_wrapped_nil {l : Line} (h : l.wrapped = true) :
    joinRows [l] = [l.cells] := by
  simp [joinRows, h]

theorem joinRows_cons_wrapped {l : Line} (h : l.wrapped = true) {t : List Line} {x : List Cell}
    {xs : List (List Cell)} (ht : joinRows t = x :: xs) :
    joinRows (l :: t) = (l.cells ++ x) :: xs := by
  simp [joinRows, h, ht]

theorem joinRows_glue (a b : List Cell) (w : Bool) (t : List Line) :
    joinRows (⟨a, true⟩ :: ⟨b, w⟩ :: t) = joinRows (⟨a ++ b, w⟩ :: t) := by
  cases w with
  | false => simp [joinRows]
  | true =>
    cases ht : joinRows t with
    | nil => simp [joinRows, ht]
    | cons x xs => simp [joinRows, ht]

theorem joinRows_append {xs : List Line} (h : lastUnwrapped xs = true) (ys : List Line) :
    joinRows (xs ++ ys) = joinRows xs ++ joinRows ys := by
  induction xs with
  | nil => rfl
  | cons l t ih =>
    cases t with
    | nil =>
      have hl : l.wrapped = false := lastUnwrapped_singleton h
      simp [joinRows, hl]
    | cons l2 t2 =>
      have h' : lastUnwrapped (l2 :: t2) = true := lastUnwrapped_tail h
      have ih' := ih h'
      cases hw : l.wrapped with
      | false =>
        rw [List.cons_append, joinRows_cons_unwrapped hw, joinRows_cons_unwrapped hw, ih']
        rfl
      | true =>
        cases hj : joinRows (l2 :: t2) with
        | nil => exact absurd (joinRows_eq_nil.1 hj) (by simp)
        | cons x xs =>
          rw [List.cons_append, joinRows_cons_wrapped hw hj,
            joinRows_cons_wrapped hw (x := x) (xs := xs ++ joinRows ys) (by rw [ih', hj]; rfl)]
          rfl

theorem logicalLines_nil : logicalLines [] = [] := rfl

theorem logicalLines_cons_unwrapped {l : Line} (h : l.wrapped = false) (t : List Line) :
    logicalLines (l :: t) = stripDefault l.cells :: logicalLines t := by
  simp [logicalLines, joinRows_cons_unwrapped h]

theorem logicalLines_append {xs : List Line} (h : lastUnwrapped xs = true) (ys : List Line) :
    logicalLines (xs ++ ys) = logicalLines xs ++ logicalLines ys := by
  simp [logicalLines, joinRows_append h]

theorem logicalLines_glue (a b : List Cell) (w : Bool) (t : List Line) :
    logicalLines (⟨a, true⟩ :: ⟨b, w⟩ :: t) = logicalLines (⟨a ++ b, w⟩ :: t) := by
  simp [logicalLines, joinRows_glue]

theorem logicalLines_eq_nil {ls : List Line} : logicalLines ls = [] ↔ ls = [] := by
  simp [logicalLines, joinRows_eq_nil]

theorem logicalLines_cons_congr (l : Line) {X Y : List Line}
    (h : logicalLines X = logicalLines Y) : logicalLines (l :: X) = logicalLines (l :: Y) := by
  cases hw : l.wrapped with
  | false => rw [logicalLines_cons_unwrapped hw, logicalLines_cons_unwrapped hw, h]
  | true =>
    unfold logicalLines at *
    cases hx : joinRows X with
    | nil =>
      cases hy : joinRows Y with
      | nil =>
        rw [joinRows_eq_nil.1 hx, joinRows_eq_nil.1 hy]
      | cons y ys => rw [hx, hy] at h; simp at h
    | cons x xs =>
      cases hy : joinRows Y with
      | nil => rw [hx, hy] at h; simp at h
      | cons y ys =>
        rw [hx, hy] at h
        simp only [List.map_cons, List.cons.injEq] at h
        rw [joinRows_cons_wrapped hw hx, joinRows_cons_wrapped hw hy]
        simp only [List.map_cons, List.cons.injEq]
        exact ⟨rstrip_append_congr _ _ h.1, h.2⟩

theorem logicalLines_append_congr (P : List Line) {X Y : List Line}
    (h : logicalLines X = logicalLines Y) : logicalLines (P ++ X) = logicalLines (P ++ Y) := by
  induction P with
  | nil => exact h
  | cons l t ih => exact logicalLines_cons_congr l ih

theorem logicalLines_cons_strip_congr {a a' : List Cell} (h : stripDefault a = stripDefault a')
    (t : List Line) : logicalLines (⟨a, false⟩ :: t) = logicalLines (⟨a', false⟩ :: t) := by
  rw [logicalLines_cons_unwrapped rfl, logicalLines_cons_unwrapped rfl, h]

theorem logicalLines_blank_rows (k c : Nat) :
    logicalLines (List.replicate k (Line.blank c Pen.default)) = List.replicate k [] := by
  induction k with
  | zero => rfl
  | succ n ih =>
    rw [List.replicate_succ, logicalLines_cons_unwrapped rfl, ih]
    simp [Line.blank, stripDefault_blanks, List.replicate_succ]

theorem lastUnwrapped_blank_rows (k c : Nat) :
    lastUnwrapped (List.replicate k (Line.blank c Pen.default)) = true :=
  lastUnwrapped_replicate k rfl

theorem lastUnwrapped_rstrip (P : List Line) : lastUnwrapped (rstrip (fun l => l.wrapped) P) = true := by
  rw [lastUnwrapped_eq, rstrip, List.getLast?_reverse]
  have := List.head?_dropWhile_not (·.wrapped) P.reverse
  cases h : (P.reverse.dropWhile (·.wrapped)).head? with
  | none => rfl
  | some l => rw [h] at this; exact congrArg (!·) this

theorem joinRows_length_snoc (ini : List Line) (l : Line) :
    (joinRows (ini ++ [l])).length = ini.countP (fun x => !x.wrapped) + 1 := by
  induction ini with
  | nil => cases hw : l.wrapped <;> simp [joinRows, hw]
  | cons a t ih =>
    cases hw : a.wrapped with
    | false =>
      rw [List.cons_append, joinRows_cons_unwrapped hw, List.countP_cons]
      simp [hw, ih]
    | true =>
      cases hj : joinRows (t ++ [l]) with
      | nil => exact absurd (joinRows_eq_nil.1 hj) (by simp)
      | cons x xs =>
        rw [List.cons_append, joinRows_cons_wrapped hw hj, List.countP_cons]
        rw [hj] at ih
        simp [hw] at ih ⊢; omega

theorem joinRows_length {xs : List Line} (h : lastUnwrapped xs = true) :
    (joinRows xs).length = xs.countP (fun l => !l.wrapped) := by
  by_cases hx : xs = []
  · subst hx; rfl
  · obtain ⟨ini, l, rfl⟩ := exists_snoc hx
    rw [lastUnwrapped_snoc] at h
    rw [joinRows_length_snoc, List.countP_append]
    simp [h]

theorem countP_run_zero {P2 : List Line} (h : ∀ l ∈ P2, l.wrapped = true) :
    P2.countP (fun l => !l.wrapped) = 0 := by
  rw [List.countP_eq_zero]
  intro l hl; simp [h l hl]

def rowsCells (rows : List Line) : List Cell := (rows.map Line.cells).flatten

theorem rowsCells_length (rows : List Line) : (rowsCells rows).length = (rows.map Line.len).sum := by
  induction rows with
  | nil => rfl
  | cons l t ih => simp [rowsCells, Line.len] at ih ⊢; omega

theorem joinRows_run_append {P2 : List Line} (h : ∀ l ∈ P2, l.wrapped = true) {R : List Line}
    {x : List Cell} {xs : List (List Cell)} (hR : joinRows R = x :: xs) :
    joinRows (P2 ++ R) = (rowsCells P2 ++ x) :: xs := by
  induction P2 with
  | nil => simpa [rowsCells] using hR
  | cons l t ih =>
    have hl : l.wrapped = true := h l (by simp)
    have := ih (fun z hz => h z (by simp [hz]))
    rw [List.cons_append, joinRows_cons_wrapped hl this]
    simp [rowsCells]

theorem stripDefault_take_strip (J : List Cell) (o : Nat) :
    stripDefault ((stripDefault J).take o) = stripDefault (J.take o) := by
  obtain ⟨d, hd, hall⟩ := rstrip_decomp Cell.isDefault J
  rw [stripDefault_eq, stripDefault_eq, stripDefault_eq]
  by_cases ho : o ≤ (rstrip Cell.isDefault J).length
  · conv => rhs; rw [hd, List.take_append_of_le_length ho]
  · have h1 : (rstrip Cell.isDefault J).take o = rstrip Cell.isDefault J :=
      List.take_of_length_le (by omega)
    have h2 : J.take o = rstrip Cell.isDefault J ++ d.take (o - (rstrip Cell.isDefault J).length) := by
      conv => lhs; rw [hd, List.take_append]
      rw [h1]
    rw [h1, h2, rstrip_append_of_all _ (fun x hx => hall x (List.mem_of_mem_take hx))]

theorem before_of_prefix {J J' : List Cell} {o : Nat} (hpre : J' <+: J) (ho : o ≤ J'.length) :
    eqUpToBlanks ((stripDefault J').take o) ((stripDefault J).take o) = true := by
  obtain ⟨s, rfl⟩ := hpre
  simp only [eqUpToBlanks, beq_iff_eq]
  rw [stripDefault_take_strip, stripDefault_take_strip, List.take_append_of_le_length ho]

theorem getElem?_stripDefault (J : List Cell) (o : Nat) (ho : o < (stripDefault J).length) :
    (stripDefault J)[o]? = J[o]? := by
  obtain ⟨d, hd, -⟩ := rstrip_decomp Cell.isDefault J
  conv => rhs; rw [hd]
  rw [List.getElem?_append_left (by rw [stripDefault_eq] at ho; exact ho)]; rfl

theorem char_of_prefix {J J' : List Cell} {o : Nat} (hpre : J' <+: J) (ho : o < J'.length)
    (hin : o < (stripDefault J).length) :
    cellEq (stripDefault J')[o]? (stripDefault J)[o]? = true := by
  obtain ⟨s, rfl⟩ := hpre
  rw [getElem?_stripDefault _ _ hin, List.getElem?_append_left ho]
  by_cases h2 : o < (stripDefault J').length
  · rw [getElem?_stripDefault _ _ h2]
    cases hc : J'[o]? with
    | none => rfl
    | some c => simp [cellEq]
  · have hnone : (stripDefault J')[o]? = none := List.getElem?_eq_none (by omega)
    rw [hnone]
    obtain ⟨d, hd, hall⟩ := rstrip_decomp Cell.isDefault J'
    have hc : J'[o]? = d[o - (stripDefault J').length]? := by
      conv => lhs; rw [hd]
      rw [List.getElem?_append_right (by rw [stripDefault_eq] at h2; omega)]; rfl
    cases hv : J'[o]? with
    | none => rfl
    | some c =>
      rw [hv] at hc
      exact hall c (List.mem_of_getElem? hc.symm)

theorem cellEq_refl (x : Option Cell) : cellEq x x = true := by
  cases x with
  | none => rfl
  | some c => simp [cellEq]

theorem eqUpToBlanks_refl (a : List Cell) : eqUpToBlanks a a = true := by simp [eqUpToBlanks]

end Avt.Lemmas
