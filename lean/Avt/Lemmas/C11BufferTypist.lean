/-
  Avt.Lemmas.C11BufferTypist — `Buffer.dump`: what the idealised typist (`typeCells`, C11BufferText) does to a
  blank screen, row by row.  `InRow V cols rows i l k t`: rows `< i` of the view are those of the target `V`
  (cells AND wrap marks), row `i` holds the first `k` cells of `l = V[i]` followed by default blanks and is not
  marked, the rows below are blank; the cursor is at `(k, i)` (wrap pending iff `k = cols`, by `TInv`).
  `E` erases what the replay of the buffer part changes; everything else is untouched, `E t' = E t`.
  `rcore` is `E` without the view: outside the buffer part the replay is followed up to it (`Rep`, C11Fragments);
  cursor, pending wrap and pen are set by step 9 of `dump()`, and `normT` clears the dirty flags.
-/
import Avt.Lemmas.C11BufferText

namespace Avt
namespace Lemmas.C11
open Avt.Spec.C11 Avt.Spec.C04 Avt.C04L

def E (t : Terminal) : Terminal :=
  { t with buffer := { t.buffer with view := [] }, cursor := { t.cursor with col := 0, row := 0 },
           pendingWrap := false, pen := {}, dirtyLines := [] }

theorem E_withPen (t : Terminal) (p : Pen) : E { t with pen := p } = E t := rfl

theorem E_putStep (u : Terminal) (g : Nat) : E (putStep u g) = E u := by
  unfold putStep
  simp only []
  split
  · split <;> rfl
  · rfl

theorem E_wrapStep (t : Terminal) (h : t.cursor.row ≠ t.bottomMargin) : E (wrapStep t) = E t := by
  unfold wrapStep
  simp only [if_neg h]
  split <;> rfl

/-- forget what the last steps of the replay restore: cursor position, pending wrap, pen, dirty flags
    (`E` without the view) -/
def rcore (t : Terminal) : Terminal :=
  { t with cursor := { t.cursor with col := 0, row := 0 }, pendingWrap := false, pen := {}, dirtyLines := [] }

/-- `a` with the cursor position, pending wrap, pen and dirty flags of `j`: the fields `rcore` forgets -/
abbrev withJunk (a j : Terminal) : Terminal :=
  { a with cursor := { a.cursor with col := j.cursor.col, row := j.cursor.row }, pendingWrap := j.pendingWrap,
           pen := j.pen, dirtyLines := j.dirtyLines }

theorem of_rcore {t a : Terminal} (h : rcore t = rcore a) : ∃ j, t = withJunk a j :=
  ⟨t, (congrArg (withJunk · t) h :)⟩

theorem rcore_of_E {a b : Terminal} (h : E a = E b) :
    rcore a = rcore { b with buffer := { b.buffer with view := a.buffer.view } } :=
  congrArg (fun x : Terminal => { x with buffer := { x.buffer with view := a.buffer.view } }) h

def partialRow (l : Line) (cols k : Nat) : Line :=
  ⟨l.cells.take k ++ List.replicate (cols - k) (Cell.blank Pen.default), false⟩

theorem partialRow_zero (l : Line) (cols : Nat) : partialRow l cols 0 = Line.blank cols Pen.default := by
  simp [partialRow, Line.blank]

theorem partialRow_full (l : Line) (cols : Nat) (h : l.cells.length = cols) :
    partialRow l cols cols = ⟨l.cells, false⟩ := by
  simp [partialRow, ← h]

theorem partialRow_done (l : Line) (cols : Nat) (h : l.cells.length = cols) (hw : l.wrapped = false) :
    partialRow l cols cols = l := by
  rw [partialRow_full l cols h, ← hw]

theorem putCell_partialRow (l : Line) (cols k : Nat) (c : Cell) (hl : l.cells.length = cols) (hk : k < cols)
    (hc : l.cells[k]? = some c) : putCell k c (partialRow l cols k) = partialRow l cols (k + 1) := by
  have hlen : (l.cells.take k).length = k := by rw [List.length_take]; omega
  simp only [putCell, partialRow, Line.mk.injEq, and_true]
  -- position `k` is the first of the blanks; one more cell of `l` in front of one blank less
  rw [show cols - k = (cols - (k + 1)) + 1 by omega, List.replicate_succ, List.take_add_one, hc,
    List.set_append_right _ _ (by omega), hlen, Nat.sub_self, List.set_cons_zero, List.append_assoc]
  rfl

theorem take_succ_of_get {V : List Line} {i : Nat} {l : Line} (h : V[i]? = some l) :
    V.take (i + 1) = V.take i ++ [l] := by
  rw [List.take_add_one, h]; rfl

structure InRow (V : List Line) (cols rows i : Nat) (l : Line) (k : Nat) (t : Terminal) : Prop where
  view : t.buffer.view
    = V.take i ++ partialRow l cols k :: List.replicate (rows - i - 1) (Line.blank cols Pen.default)
  col : t.cursor.col = k
  row : t.cursor.row = i

/-- the target `V` is a `cols × rows` screen and so is the replaying terminal `t`; also carries what every
    step of the row replay needs of `t`: `TInv` and the replay modes -/
structure Geo (V : List Line) (cols rows : Nat) (t : Terminal) : Prop where
  vlen : V.length = rows
  clen : ∀ l ∈ V, l.cells.length = cols
  tcols : t.cols = cols
  trows : t.rows = rows
  inv : TInv t = true
  mode : DMode t

theorem onRow_mid (pre : List Line) (x : Line) (post : List Line) (f : Line → Line) :
    onRow (pre ++ x :: post) pre.length f = pre ++ f x :: post := by
  rw [onRow_eq_modify, modify_append_right _ _ _ (Nat.le_refl _), Nat.sub_self]
  rfl

theorem take_len {V : List Line} {rows i : Nat} (hV : V.length = rows) (hi : i < rows) : (V.take i).length = i := by
  simp; omega

theorem putStep_inRow {V : List Line} {cols rows i k : Nat} {l : Line} {u : Terminal} {c : Cell}
    (g : Geo V cols rows u) (hi : i < rows) (hl : l.cells.length = cols) (hk : k < cols)
    (hc : l.cells[k]? = some c) (hpen : u.pen = c.pen) (h : InRow V cols rows i l k u) :
    InRow V cols rows i l (k + 1) (putStep u c.ch) := by
  have hcell : (⟨c.ch, u.pen⟩ : Cell) = c := by rw [hpen]
  have hlen := take_len g.vlen hi
  unfold putStep
  simp only [hcell, h.col, h.row, g.tcols, g.mode.autoWrap, g.mode.replace, if_true, Bool.false_eq_true, if_false]
  have hv : onRow u.buffer.view i (putCell k c)
      = V.take i ++ partialRow l cols (k + 1) :: List.replicate (rows - i - 1) (Line.blank cols Pen.default) := by
    rw [h.view]
    have := onRow_mid (V.take i) (partialRow l cols k) (List.replicate (rows - i - 1) (Line.blank cols Pen.default))
      (putCell k c)
    rw [hlen] at this
    rw [this, putCell_partialRow l cols k c hl hk hc]
  split
  · have e : cols - 1 = k := by omega
    rw [e]
    exact ⟨by simpa [bufOnRow] using hv, by show cols = k + 1; omega, rfl⟩
  · exact ⟨by simpa [bufOnRow] using hv, rfl, rfl⟩

/-- the deferred wrap at the end of a soft-wrapped row: the mark is set, the cursor is at the start
    of the next row -/
theorem wrapStep_inRow {V : List Line} {cols rows j : Nat} {lj l : Line} {t : Terminal}
    (g : Geo V cols rows t) (hj : j + 1 < rows) (hlj : V[j]? = some lj) (hw : lj.wrapped = true)
    (h : InRow V cols rows j lj cols t) :
    InRow V cols rows (j + 1) l 0 (wrapStep t) ∧ E (wrapStep t) = E t := by
  have hne : t.cursor.row ≠ t.bottomMargin := by
    have := g.mode.bottom; rw [g.trows] at this; rw [h.row]; omega
  refine ⟨?_, E_wrapStep t hne⟩
  have hlen := take_len g.vlen (show j < rows by omega)
  have hcl : lj.cells.length = cols := g.clen lj (List.mem_of_getElem? hlj)
  unfold wrapStep
  rw [if_neg hne, if_pos (by rw [h.row, g.trows]; exact hj)]
  refine ⟨?_, rfl, by show t.cursor.row + 1 = j + 1; rw [h.row]⟩
  show onRow t.buffer.view t.cursor.row markWrapped = _
  rw [h.row, h.view]
  have := onRow_mid (V.take j) (partialRow lj cols cols)
    (List.replicate (rows - j - 1) (Line.blank cols Pen.default)) markWrapped
  rw [hlen] at this
  rw [this, partialRow_full lj cols hcl, partialRow_zero]
  have e1 : markWrapped ⟨lj.cells, false⟩ = lj := by
    cases lj; simp only [markWrapped] at hw ⊢; simp_all
  have e3 : rows - j - 1 = (rows - (j + 1) - 1) + 1 := by omega
  rw [e1, take_succ_of_get hlj, e3, List.replicate_succ]
  simp

theorem DMode.wrapStep {t : Terminal} (h : DMode t) : DMode (wrapStep t) := by
  obtain ⟨_, _, _, _, e, -⟩ := wrapStep_shape t
  rw [e]
  exact ⟨h.top, h.bottom, h.autoWrap, h.replace, h.charset⟩

theorem wrapStep_rows (t : Terminal) : (wrapStep t).rows = t.rows := by
  obtain ⟨_, _, _, _, h, -⟩ := wrapStep_shape t
  rw [h]

theorem Geo.withPen {V : List Line} {cols rows : Nat} {t : Terminal} (g : Geo V cols rows t) (p : Pen) :
    Geo V cols rows { t with pen := p } :=
  ⟨g.vlen, g.clen, g.tcols, g.trows, TInv_withPen g.inv p, g.mode.withPen p⟩

theorem Geo.typeCell {V : List Line} {cols rows : Nat} {t : Terminal} (g : Geo V cols rows t) (c : Cell) :
    Geo V cols rows (typeCell t c) := by
  have m := Props.C04.C04_print_modes { t with pen := c.pen } c.ch
  exact ⟨g.vlen, g.clen, m.1.trans g.tcols, m.2.1.trans g.trows,
    typeCell_TInv g.inv c, typeCell_DMode g.mode c⟩

theorem InRow.withPen {V : List Line} {cols rows i k : Nat} {l : Line} {t : Terminal}
    (h : InRow V cols rows i l k t) (p : Pen) : InRow V cols rows i l k { t with pen := p } :=
  ⟨h.view, h.col, h.row⟩

/-- a cell that is not the first of a soft-wrapped continuation -/
theorem typeCell_step {V : List Line} {cols rows i k : Nat} {l : Line} {t : Terminal} {c : Cell}
    (g : Geo V cols rows t) (hi : i < rows) (hl : V[i]? = some l) (hk : k < cols) (hc : l.cells[k]? = some c)
    (h : InRow V cols rows i l k t) :
    InRow V cols rows i l (k + 1) (typeCell t c) ∧ E (typeCell t c) = E t := by
  have p := TOK.of_TInv g.inv
  have hpw : t.pendingWrap = false := p.pw_false (by rw [h.col, g.tcols]; exact hk)
  have hnw : (({ t with pen := c.pen } : Terminal).autoWrapMode && ({ t with pen := c.pen } : Terminal).pendingWrap) = false := by
    show (t.autoWrapMode && t.pendingWrap) = false
    rw [hpw]; simp
  have hcl : l.cells.length = cols := g.clen l (List.mem_of_getElem? hl)
  unfold Lemmas.C11.typeCell
  rw [printSpec_nowrap _ _ hnw, (g.withPen c.pen).mode.glyph]
  exact ⟨putStep_inRow (g.withPen c.pen) hi hcl hk hc rfl (h.withPen c.pen), by rw [E_putStep]; rfl⟩

/-- the first cell of the continuation of a soft-wrapped row: the deferred wrap sets the mark -/
theorem typeCell_wrap {V : List Line} {cols rows j : Nat} {lj l : Line} {t : Terminal} {c : Cell}
    (g : Geo V cols rows t) (hj : j + 1 < rows) (hlj : V[j]? = some lj) (hw : lj.wrapped = true)
    (hl : V[j + 1]? = some l) (hc : l.cells[0]? = some c) (h : InRow V cols rows j lj cols t) :
    InRow V cols rows (j + 1) l 1 (typeCell t c) ∧ E (typeCell t c) = E t := by
  have p := TOK.of_TInv g.inv
  have hpw : t.pendingWrap = true := (p.pw_true (Nat.le_of_eq (g.tcols.trans h.col.symm))).1
  let u : Terminal := { t with pen := c.pen }
  have gu : Geo V cols rows u := g.withPen c.pen
  have hyw : (u.autoWrapMode && u.pendingWrap) = true := by
    show (t.autoWrapMode && t.pendingWrap) = true
    rw [hpw, g.mode.autoWrap]; rfl
  have hcl : l.cells.length = cols := g.clen l (List.mem_of_getElem? hl)
  have hcols : 0 < cols := by have := p.c1; rw [g.tcols] at this; omega
  obtain ⟨w1, w2⟩ := wrapStep_inRow (l := l) gu hj hlj hw (h.withPen c.pen)
  have gw : Geo V cols rows (wrapStep u) :=
    ⟨g.vlen, g.clen, by rw [(wrapStep_col u).2]; exact gu.tcols, by rw [wrapStep_rows]; exact gu.trows,
      wrapStep_TInv u gu.inv hyw, gu.mode.wrapStep⟩
  show InRow V cols rows (j + 1) l 1 (printSpec u c.ch) ∧ E (printSpec u c.ch) = E t
  rw [printSpec_wrap _ _ hyw, gu.mode.glyph]
  exact ⟨putStep_inRow gw hj hcl hcols hc (by rw [wrapStep_pen]) w1, by rw [E_putStep, w2]; rfl⟩

theorem typeCells_rest {V : List Line} {cols rows i : Nat} {l : Line} (hi : i < rows) (hl : V[i]? = some l) :
    ∀ (n k : Nat) (t : Terminal), k + n = cols → Geo V cols rows t → InRow V cols rows i l k t →
      InRow V cols rows i l cols (typeCells (l.cells.drop k) t) ∧ E (typeCells (l.cells.drop k) t) = E t
        ∧ Geo V cols rows (typeCells (l.cells.drop k) t)
  | 0, k, t, hk, g, h => by
    have hcl : l.cells.length = cols := g.clen l (List.mem_of_getElem? hl)
    have : l.cells.drop k = [] := by simp; omega
    rw [this]
    have e : k = cols := by omega
    subst e
    exact ⟨h, rfl, g⟩
  | n + 1, k, t, hk, g, h => by
    have hcl : l.cells.length = cols := g.clen l (List.mem_of_getElem? hl)
    have hlt : k < l.cells.length := by omega
    have hd : l.cells.drop k = l.cells[k] :: l.cells.drop (k + 1) := by
      rw [List.drop_eq_getElem_cons hlt]
    rw [hd]
    obtain ⟨s1, s2⟩ := typeCell_step g hi hl (by omega) (List.getElem?_eq_getElem hlt) h
    obtain ⟨r1, r2, r3⟩ := typeCells_rest hi hl n (k + 1) (typeCell t l.cells[k]) (by omega) (g.typeCell _) s1
    exact ⟨r1, by rw [show typeCells (l.cells[k] :: l.cells.drop (k + 1)) t
      = typeCells (l.cells.drop (k + 1)) (typeCell t l.cells[k]) from rfl, r2, s2], r3⟩

/-- the state in which the text of row `i` arrives: at the start of the (blank) row, or still parked
    wrap-pending at the end of the soft-wrapped row above -/
def Ready (V : List Line) (cols rows i : Nat) (l : Line) (t : Terminal) : Prop :=
  InRow V cols rows i l 0 t
    ∨ ∃ j lj, i = j + 1 ∧ V[j]? = some lj ∧ lj.wrapped = true ∧ InRow V cols rows j lj cols t

theorem typeCells_row {V : List Line} {cols rows i : Nat} {l : Line} {t : Terminal} (hi : i < rows)
    (hl : V[i]? = some l) (g : Geo V cols rows t) (h : Ready V cols rows i l t) :
    InRow V cols rows i l cols (typeCells l.cells t) ∧ E (typeCells l.cells t) = E t
      ∧ Geo V cols rows (typeCells l.cells t) := by
  have hcl : l.cells.length = cols := g.clen l (List.mem_of_getElem? hl)
  have hcols : 0 < cols := by
    have := (TOK.of_TInv g.inv).c1; rw [g.tcols] at this; omega
  rcases h with h | ⟨j, lj, rfl, hlj, hw, h⟩
  · have := typeCells_rest hi hl cols 0 t (by omega) g h
    simpa using this
  · have hlt : 0 < l.cells.length := by omega
    have hd : l.cells = l.cells[0] :: l.cells.drop 1 := by
      conv => lhs; rw [← List.drop_zero (l := l.cells), List.drop_eq_getElem_cons hlt]
    obtain ⟨s1, s2⟩ := typeCell_wrap g hi hlj hw hl (List.getElem?_eq_getElem hlt) h
    obtain ⟨r1, r2, r3⟩ := typeCells_rest hi hl (cols - 1) 1 (typeCell t l.cells[0]) (by omega) (g.typeCell _) s1
    rw [hd]
    exact ⟨r1, by rw [show typeCells (l.cells[0] :: l.cells.drop 1) t
      = typeCells (l.cells.drop 1) (typeCell t l.cells[0]) from rfl, r2, s2], r3⟩

end Lemmas.C11
end Avt
