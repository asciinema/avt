/-
  Avt.Lemmas.C11Blank — an end-to-end instance of the dump round trip: the power-on screen of any size
  with an arbitrary pen and the parser in an arbitrary state.  Composes the fragment lemmas
  (`pen_dump_eq`, `pfeed_sgr`, `parser_dump`) through `Terminal.dump`, `Vt.feedStr` and `normD`.
-/
import Avt.Lemmas.C11Pen
import Avt.Lemmas.C11Witness
import Avt.Lemmas.C11Norm
import Avt.Lemmas.PowerOn

namespace Avt
namespace Lemmas.C11
open Avt.Spec.C11

theorem dumpCutoff_blank (cols : Nat) : ∀ (n i : Nat),
    Buffer.dumpCutoff (List.replicate n (Line.blank cols Pen.default)) i false 0 = 0
  | 0, _ => rfl
  | n + 1, i => by
    simp only [List.replicate_succ, Buffer.dumpCutoff, Line.blank_isBlank]
    exact dumpCutoff_blank cols n (i + 1)

theorem dump_blank_buffer (cols rows : Nat) (lim : Option Nat) (hr : 1 ≤ rows) :
    (Buffer.new cols rows lim none).dump = some [] := by
  simp only [Buffer.dump, Buffer.new, Option.getD_none]
  rw [dumpCutoff_blank]
  simp [csub, hr, Buffer.dumpLines]

def blankT (cols rows : Nat) (lim : Option Nat) (p : Pen) : Terminal := { freshT cols rows lim with pen := p }

/-- `ESC [ m`, `CSI 1;1H` — everything `Terminal::dump` writes before the pen for such a terminal -/
def blankPrefix : List Nat := [0x1b, 0x5b, 0x6d, 0x9b, 0x31, 0x3b, 0x31, 0x48]

theorem dump_blankT (cols rows : Nat) (lim : Option Nat) (p : Pen) (hc : 1 ≤ cols) (hr : 1 ≤ rows)
    (d : List Nat) (hd : p.dump = some d) :
    (blankT cols rows lim p).dump = some (blankPrefix ++ d) := by
  have hb := dump_blank_buffer cols rows lim hr
  have hctx : Terminal.dumpCtx {} = some [] := by decide
  have hcs : csub rows 1 = some (rows - 1) := by simp [csub, hr]
  have hcol : ¬ (0 ≥ cols) := by omega
  simp only [Terminal.dump, blankT, freshT, Terminal.primaryBuffer, hb, hctx, hd, hcs, if_true,
    Terminal.dumpCursor, Terminal.cupSeq, Terminal.csi]
  simp [hcol, blankPrefix, SavedCtx.isDefault, Pen.isDefault, Pen.isItalic, Pen.isUnderline, Pen.isStrikethrough,
    Pen.isBlink, Pen.isInverse]
  rfl

theorem pfeed_blankPrefix :
    pfeedAll Parser.new blankPrefix
      = some (conc .Ground none [[1], [1]], [Function.sgr [SgrOp.reset], Function.cup 1 1]) := by decide +kernel

theorem exec_blank (cols rows : Nat) (p : Pen) (hc : 1 ≤ cols) (hr : 1 ≤ rows) :
    Terminal.foldM' Terminal.execute [Function.sgr [SgrOp.reset], Function.cup 1 1, Function.sgr (penOps p)]
      (freshT cols rows none) = some (blankT cols rows none (((penOps p).foldl Terminal.applySgr {}))) := by
  have hcol : ¬ (0 ≥ cols) := by omega
  have hcs : csub rows 1 = some (rows - 1) := by simp [csub, hr]
  have hcc : csub cols 1 = some (cols - 1) := by simp [csub, hc]
  simp only [Terminal.foldM', Terminal.execute, Terminal.sgr, Terminal.cup, Terminal.moveCursorToCol,
    Terminal.moveCursorToRow, Terminal.actualTopMargin, Terminal.actualBottomMargin, Terminal.doMoveCursorToCol,
    Terminal.doMoveCursorToRow, freshT, blankT, asUsize, List.foldl_cons, List.foldl_nil, Terminal.applySgr]
  simp [hcol, hcs, hcc]

/-- **end to end, power-on screen.**  The terminal is the power-on terminal of any size and limit,
    except for an arbitrary pen; the parser is in an arbitrary state (registers satisfying `PInv` and
    `PRegOK`).  Then `dump()` fed to a fresh terminal of the same size restores the state up to `normD`. -/
theorem restore_blank (cols rows : Nat) (lim : Option Nat) (pen : Pen) (p : Parser) (hc : 1 ≤ cols) (hr : 1 ≤ rows)
    (hpen : PenOK pen) (hinv : PInv p = true) (hreg : PRegOK p = true) :
    ∃ r, restoreOf { parser := p, terminal := blankT cols rows lim pen } = some r
      ∧ normD r = normD { parser := p, terminal := blankT cols rows lim pen } := by
  let s : Vt := { parser := p, terminal := blankT cols rows lim pen }
  have hd := pen_dump_eq pen
  have h1 := pfeed_blankPrefix
  have h2 := pfeed_sgr (conc .Ground none [[1], [1]]) (by decide) (penRegs pen) (regsOK_penRegs pen hpen)
    (penOps pen) (sgrOps_penRegs pen hpen)
  obtain ⟨pd, q, hpd, h3, hq⟩ := parser_dump p (conc .Ground none (penRegs pen)) hinv hreg rfl
    (PInv_conc _ _ _ (regsOK_penRegs pen hpen))
  have hdump : s.dump = some (blankPrefix ++ (0x1b :: 0x5b :: renderAll (penRegs pen) ++ [0x6d]) ++ pd) := by
    simp only [Vt.dump, s, dump_blankT cols rows lim pen hc hr _ hd, hpd]
  have hparse : pfeedAll Parser.new (blankPrefix ++ (0x1b :: 0x5b :: renderAll (penRegs pen) ++ [0x6d]) ++ pd)
      = some (q, [Function.sgr [SgrOp.reset], Function.cup 1 1, Function.sgr (penOps pen)]) := by
    rw [pfeedAll_append, pfeedAll_append, h1]
    simp only [Option.bind_some, h2, Option.map_some, h3]
    rfl
  have hnew : Vt.new cols rows none = some { parser := Parser.new, terminal := freshT cols rows none } :=
    Vt.new_eq_some_iff.2 ⟨hr, rfl⟩
  have hfeed : Vt.feedAll { parser := Parser.new, terminal := freshT cols rows none }
      (blankPrefix ++ (0x1b :: 0x5b :: renderAll (penRegs pen) ++ [0x6d]) ++ pd)
      = some { parser := q, terminal := blankT cols rows none pen } := by
    rw [feedAll_eq_pfeedAll, hparse]
    simp only [Option.bind_some, exec_blank cols rows pen hc hr, apply_penOps pen {} hpen, Option.map_some]
  refine ⟨(Vt.finish { parser := q, terminal := blankT cols rows none pen }).1, ?_, ?_⟩
  · show restoreOf s = _
    unfold restoreOf
    rw [hdump]
    have hnew' : Vt.new s.terminal.cols s.terminal.rows none
        = some { parser := Parser.new, terminal := freshT cols rows none } := hnew
    simp only [hnew', Vt.feedStr_of_feedAll hfeed, Option.map_some]
  · show (⟨normP q, normT (Vt.finish ⟨q, blankT cols rows none pen⟩).1.terminal⟩ : Vt)
      = ⟨normP p, normT (blankT cols rows lim pen)⟩
    rw [normT_finish, hq]
    simp only [blankT, freshT, Buffer.new, normT, normB, Dirty.clear, Dirty.new, clampCtx, Option.getD_none, if_true]

end Lemmas.C11
end Avt
