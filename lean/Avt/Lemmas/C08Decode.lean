/-
  Avt.Lemmas.C08Decode — the register-machine SGR decoder (`Parser.sgrOps`, model of `SgrOps::next`)
  equals the reference decoder over the written parameters.
-/
import Avt.Spec.C08
import Avt.Lemmas.RegInv
import Avt.Lemmas.SgrColour

namespace Avt.Spec.C08
open Avt

theorem sgrRefOps_nil : sgrRefOps [] = [] := by rw [sgrRefOps]

theorem sgrRefOps_single (p : List Nat) (rest : List (List Nat)) (h : introducer p = none) :
    sgrRefOps (p :: rest) = (sgrSingle p).toList ++ sgrRefOps rest := by
  rw [sgrRefOps]; simp only [h]

theorem sgrRefOps_intro (p : List Nat) (rest : List (List Nat)) (mk : Color → SgrOp)
    (h : introducer p = some mk) :
    sgrRefOps (p :: rest)
      = ((extended rest).1.map mk).toList ++ sgrRefOps (rest.drop (extended rest).2) := by
  rw [sgrRefOps]; simp only [h]

/-- every operation the reference decodes is a parameter decoded on its own (`sgrSingle`) or the
    colour that `extended` reads after a bare 38 / 48 -/
theorem sgrRefOps_forall {P : SgrOp → Prop} (hs : ∀ w op, sgrSingle w = some op → P op)
    (hx : ∀ w mk rest c, introducer w = some mk → (extended rest).1 = some c → P (mk c)) :
    ∀ ws, ∀ op ∈ sgrRefOps ws, P op := by
  intro ws
  induction ws using sgrRefOps.induct with
  | case1 => intro op h; rw [sgrRefOps_nil] at h; cases h
  | case2 w rest hi ih =>
    intro op h
    rw [sgrRefOps_single w rest hi, List.mem_append, Option.mem_toList] at h
    exact h.elim (hs w op) (ih op)
  | case3 w rest mk hi ih =>
    intro op h
    rw [sgrRefOps_intro w rest mk hi, List.mem_append, Option.mem_toList] at h
    refine h.elim (fun h => ?_) (ih op)
    obtain ⟨c, hc, rfl⟩ := Option.map_eq_some_iff.1 h
    exact hx w mk rest c hi hc

theorem u8_lt {n : Nat} (h : n < 256) : Parser.u8 n = n := Nat.mod_eq_of_lt h

/-- the four ranges of basic colours as the register machine tests them: the colour indices are
    below 16, so `as u8` keeps them -/
theorem basicColour_u8 (n : Nat) :
    (if 30 ≤ n ∧ n ≤ 37 then some (some (SgrOp.setFg (.indexed (Parser.u8 (n - 30)))), 0)
     else if 40 ≤ n ∧ n ≤ 47 then some (some (.setBg (.indexed (Parser.u8 (n - 40)))), 0)
     else if 90 ≤ n ∧ n ≤ 97 then some (some (.setFg (.indexed (Parser.u8 (n - 90 + 8)))), 0)
     else if 100 ≤ n ∧ n ≤ 107 then some (some (.setBg (.indexed (Parser.u8 (n - 100 + 8)))), 0)
     else some (none, 0)) = some (basicColour n, 0) := by
  unfold basicColour
  by_cases h1 : 30 ≤ n ∧ n ≤ 37
  · rw [if_pos h1, if_pos h1, u8_lt (by omega)]
  rw [if_neg h1, if_neg h1]
  by_cases h2 : 40 ≤ n ∧ n ≤ 47
  · rw [if_pos h2, if_pos h2, u8_lt (by omega)]
  rw [if_neg h2, if_neg h2]
  by_cases h3 : 90 ≤ n ∧ n ≤ 97
  · rw [if_pos h3, if_pos h3, u8_lt (by omega)]
  rw [if_neg h3, if_neg h3]
  by_cases h4 : 100 ≤ n ∧ n ≤ 107
  · rw [if_pos h4, if_pos h4, u8_lt (by omega)]
  rw [if_neg h4, if_neg h4]

/-- a parameter that is not a bare 38/48 is decoded on its own, whatever follows: every line of the
    register machine's match is the same line of the reference (`attrTable`, `basicColour`, the
    ':'-forms) -/
theorem sgrStep_single (p : Param) (rest : List Param) (parts : List Nat)
    (hp : p.partsSlice = some parts) (hi : introducer parts = none) :
    Parser.sgrStep p rest = some (sgrSingle parts, 0) := by
  unfold Parser.sgrStep
  rw [hp]
  dsimp only
  -- the cases are the 27 arms of `match parts` in `Parser.sgrStep`, numbered in source order
  split
  -- `[38]`
  case h_19 => cases hi
  -- `[48]`
  case h_24 => cases hi
  case h_26 n h0 h1 h2 h3 h4 h5 h7 h9 h21 h22 h23 h24 h25 h27 h29 h38 h39 h48 h49 =>
    -- `[n]`: a single number outside the table
    have e : ∀ k, (n = k → False) → (n == k) = false := fun k h => beq_false_of_ne h
    have hl : attrTable.lookup n = none := by
      simp only [attrTable, List.lookup, e _ h0, e _ h1, e _ h2, e _ h3, e _ h4, e _ h5, e _ h7, e _ h9,
        e _ h21, e _ h22, e _ h23, e _ h24, e _ h25, e _ h27, e _ h29, e _ h39, e _ h49]
    rw [basicColour_u8, sgrSingle, hl]
  case h_27 h0 h1 h2 h3 h4 h5 h7 h9 h21 h22 h23 h24 h25 h27 h29 f5 f6 f3 h38 h39 b5 b6 b3 h48 h49 hn =>
    -- `_`: neither a single number nor a complete ':'-form of 38 / 48
    have : sgrSingle parts = none := by
      unfold sgrSingle
      split
      · exact absurd rfl (hn _)
      · rename_i k s i
        by_cases hs : s = 5
        · subst hs
          have h1 : k ≠ 38 := fun h => f3 i (by rw [h])
          have h2 : k ≠ 48 := fun h => b3 i (by rw [h])
          simp [ground, h1, h2]
        · simp [hs]
      · rename_i k s r g b
        by_cases hs : s = 2
        · subst hs
          have h1 : k ≠ 38 := fun h => f5 r g b (by rw [h])
          have h2 : k ≠ 48 := fun h => b5 r g b (by rw [h])
          simp [ground, h1, h2]
        · simp [hs]
      · rename_i k s c r g b
        by_cases hs : s = 2
        · subst hs
          have h1 : k ≠ 38 := fun h => f6 c r g b (by rw [h])
          have h2 : k ≠ 48 := fun h => b6 c r g b (by rw [h])
          simp [ground, h1, h2]
        · simp [hs]
      · rfl
    rw [this]
  all_goals rfl


/-- written form of one register (the same list as `ParserSem.wparts`) -/
def sliceOf (q : Param) : List Nat := q.parts.take (q.curPart + 1)

theorem paramsOf_cons (q : Param) (ps : List Param) : paramsOf (q :: ps) = sliceOf q :: paramsOf ps := rfl

theorem ok_slice (q : Param) (h : Param.ok q = true) : q.partsSlice = some (sliceOf q) :=
  ParserSem.partsSlice_ok h

theorem ok_asU16 (q : Param) (h : Param.ok q = true) : q.asU16 = some (first (sliceOf q)) :=
  (ParserSem.asU16_ok h).trans (congrArg some (ParserSem.wparts_head h).symm)

theorem introducer_some (parts : List Nat) (mk : Color → SgrOp) (h : introducer parts = some mk) :
    (parts = [38] ∧ mk = SgrOp.setFg) ∨ (parts = [48] ∧ mk = SgrOp.setBg) := by
  unfold introducer at h
  split at h
  · rename_i k
    unfold ground at h
    split at h
    · subst_vars; left; exact ⟨rfl, (Option.some.inj h).symm⟩
    · split at h
      · subst_vars; right; exact ⟨rfl, (Option.some.inj h).symm⟩
      · cases h
  · cases h

theorem extended_other {w : List Nat} (h2 : w ≠ [2]) (h5 : w ≠ [5]) (l : List (List Nat)) :
    extended (w :: l) = (none, 0) := by
  unfold extended
  split
  · rename_i h; cases h; exact absurd rfl h2
  · rename_i h; cases h; exact absurd rfl h2
  · rename_i h; cases h; exact absurd rfl h5
  · rename_i h; cases h; exact absurd rfl h5
  · rfl

/-- the lookahead of a bare 38/48 in the register machine is `extended` on the written parameters -/
theorem colour_spec (mk : Color → SgrOp) (rest : List Param) :
    (∀ q ∈ rest, Param.ok q = true) →
    Parser.sgrColour mk rest
      = some ((extended (paramsOf rest)).1.map mk, (extended (paramsOf rest)).2) := by
  intro hr
  cases rest with
  | nil => rfl
  | cons q rest' =>
    have hr' : ∀ x ∈ rest', Param.ok x = true := fun x hx => hr x (List.mem_cons_of_mem _ hx)
    unfold Parser.sgrColour
    dsimp only
    rw [paramsOf_cons, ok_slice q (hr q List.mem_cons_self)]
    generalize sliceOf q = qs
    by_cases h2 : qs = [2]
    · subst h2
      match rest', hr' with
      | [], _ => rfl
      | [r], _ => rfl
      | [r, g], _ => rfl
      | r :: g :: b :: tl, hr' =>
        have e1 := ok_asU16 r (hr' r (by simp))
        have e2 := ok_asU16 g (hr' g (by simp))
        have e3 := ok_asU16 b (hr' b (by simp))
        simp only [List.getElem?_cons_succ, List.getElem?_cons_zero, e1, e2, e3]
        rfl
    · by_cases h5 : qs = [5]
      · subst h5
        match rest', hr' with
        | [], _ => rfl
        | i :: tl, hr' =>
          simp only [List.getElem?_cons_succ, List.getElem?_cons_zero, ok_asU16 i (hr' i List.mem_cons_self)]
          rfl
      · rw [extended_other h2 h5]
        split
        · rename_i h; cases h
        · rename_i h; cases h; exact absurd rfl h2
        · rename_i h; cases h; exact absurd rfl h5
        · rfl


theorem sgrStep_intro (p : Param) (rest : List Param) (parts : List Nat) (mk : Color → SgrOp)
    (hp : p.partsSlice = some parts) (hi : introducer parts = some mk)
    (hr : ∀ q ∈ rest, Param.ok q = true) :
    Parser.sgrStep p rest
      = some ((extended (paramsOf rest)).1.map mk, (extended (paramsOf rest)).2) := by
  rcases introducer_some parts mk hi with ⟨rfl, rfl⟩ | ⟨rfl, rfl⟩
  · rw [Parser.sgrStep_fg rest hp]; exact colour_spec SgrOp.setFg rest hr
  · rw [Parser.sgrStep_bg rest hp]; exact colour_spec SgrOp.setBg rest hr

-- `k` is the `skip` of `Parser.sgrGo`: the registers still to pass over because the lookahead of a bare
-- 38 / 48 before them consumed them; `sgrOps` is `k = 0`, the induction needs every `k`
theorem sgrGo_spec (ps : List Param) (h : ∀ q ∈ ps, Param.ok q = true) :
    ∀ k, Parser.sgrGo k ps = some (sgrRefOps ((paramsOf ps).drop k)) := by
  induction ps with
  | nil => intro k; cases k <;> simp [Parser.sgrGo, paramsOf, sgrRefOps_nil]
  | cons p rest ih =>
    have hr : ∀ q ∈ rest, Param.ok q = true := fun q hq => h q (by simp [hq])
    have ih := ih hr
    intro k
    cases k with
    | succ k => simp only [Parser.sgrGo, paramsOf_cons, List.drop_succ_cons]; exact ih k
    | zero =>
      have hp := ok_slice p (h p (by simp))
      simp only [paramsOf_cons, List.drop_zero]
      cases hi : introducer (sliceOf p) with
      | none =>
        simp only [Parser.sgrGo, sgrStep_single p rest _ hp hi, ih 0, List.drop_zero,
          sgrRefOps_single _ _ hi]
        cases sgrSingle (sliceOf p) <;> rfl
      | some mk =>
        simp only [Parser.sgrGo, sgrStep_intro p rest _ mk hp hi hr, ih, sgrRefOps_intro _ _ mk hi]
        cases (extended (paramsOf rest)).1 <;> rfl

theorem sgrOps_eq_ref (ps : List Param) (h : ∀ q ∈ ps, Param.ok q = true) :
    Parser.sgrOps ps = some (sgrRefOps (paramsOf ps)) := by
  simpa [Parser.sgrOps] using sgrGo_spec ps h 0

/-- the decoder where the parser dispatches `CSI … m`: the registers in use, decoded by the reference -/
theorem sgrOps_active {p : Parser} (h : PInv p = true) :
    ∃ ps, p.activeParams = some ps ∧ Parser.sgrOps ps = some (sgrRefOps (paramsOf ps)) :=
  ⟨_, ParserSem.activeParams_eq h, sgrOps_eq_ref _ (ParserSem.ok_of_mem_active h)⟩

end Avt.Spec.C08
