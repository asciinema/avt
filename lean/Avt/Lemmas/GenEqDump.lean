/-
  Avt.Lemmas.GenEqDump — the generated translation of the dump / format functions (Avt/Gen/DumpGen.lean,
  regenerated from /repo/src by translate/rs2lean_p5.py on every run) EQUALS the hand-written model
  (`Color.sgrParams`, `Pen.dump`, `Line.chunks`, `Buffer.repEncode`, `Buffer.dump` through `join`,
  `Parser.Param.render`, `Parser.dump`, `Terminal.dump` where `1 ≤ rows`), for all inputs.  Strings are `List Nat`
  (code points).  One theorem per generated function (`Chunks::next`: `next_cons` / `next_nil`); `coverage_complete`
  compares the translator's list of function names with the hand-kept `provedFunctions`.
-/
import Avt.Gen.DumpGen
import Avt.Lemmas.GenEqParser
import Avt.Lemmas.GenEqBuffer
import Avt.Lemmas.DumpCut


namespace Avt.GenEqDump
open Avt GenEqParser
open Avt.Lemmas.C11 (pendingText modesText)

/-! ### `if c { s.push_str(x) }` -/

theorem ite_app {α} (c : Prop) [Decidable c] (s x : List α) :
    (if c then s ++ x else s) = s ++ (if c then x else []) := by
  by_cases h : c <;> simp [h]

theorem ite_some_app {α} (c : Prop) [Decidable c] (s x : List α) :
    (if c then some (s ++ x) else some s) = some (s ++ (if c then x else [])) := by
  by_cases h : c <;> simp [h]

theorem Color.sgrParams_eq (c : Color) (base : Nat) : GenD.Color.sgrParams c base = c.sgrParams base := by
  cases c with
  | indexed n =>
    simp only [GenD.Color.sgrParams, GenD.Color.sgrParams.arms1, GenD.Color.sgrParams.arms2, Avt.Color.sgrParams,
      ckAdd_eq, Gen.colorLt1, Gen.colorLt2, Gen.colorBrightAdd, Gen.colorIdxAdd]
    by_cases h1 : n < 8
    · simp only [h1, if_true]; by_cases h : base + n < 256 <;> simp [h]
    · simp only [h1, if_false]
      by_cases h2 : n < 16
      · simp only [h2, if_true]
        by_cases h : base + 52 < 256
        · simp only [h, if_true]; by_cases h' : base + 52 + n < 256 <;> simp [h']
        · simp [h]
      · simp only [h2, if_false]; by_cases h : base + 8 < 256 <;> simp [h]
  | rgb r g b =>
    simp only [GenD.Color.sgrParams, GenD.Color.sgrParams.arms1, GenD.Color.sgrParams.arms2, Avt.Color.sgrParams,
      ckAdd_eq, Gen.colorRgbAdd]
    by_cases h : base + 8 < 256 <;> simp [h]

theorem Pen.dump_eq (p : Pen) : GenD.Pen.dump p = p.dump := by
  simp only [GenD.Pen.dump, Avt.Pen.dump, Color.sgrParams_eq, GenEq.Pen.isItalic_eq, GenEq.Pen.isUnderline_eq,
    GenEq.Pen.isBlink_eq, GenEq.Pen.isInverse_eq, GenEq.Pen.isStrikethrough_eq, ite_app]
  cases p.fg with
  | none =>
    cases p.bg with
    | none => cases p.intensity <;> simp only [List.append_nil]
    | some cb =>
      simp only []
      cases Avt.Color.sgrParams cb 40 with
      | none => rfl
      | some b => cases p.intensity <;> simp only [Option.map, List.append_nil, List.singleton_append]
  | some cf =>
    simp only []
    cases Avt.Color.sgrParams cf 30 with
    | none => cases p.bg <;> rfl
    | some f =>
      cases p.bg with
      | none => cases p.intensity <;> simp only [Option.map, List.append_nil, List.singleton_append]
      | some cb =>
        simp only []
        cases Avt.Color.sgrParams cb 40 with
        | none => rfl
        | some b => cases p.intensity <;> simp only [Option.map, List.append_nil, List.singleton_append]

theorem foldl_render (rest : List Nat) (f : List Nat) :
    List.foldl (fun f part => f ++ [0x3a] ++ renderDec part) f rest
      = f ++ (rest.map fun x => 0x3a :: renderDec x).flatten := by
  simp only [List.append_assoc, List.cons_append, List.nil_append, List.foldl_append_eq_append]

/-- `param.to_string()` is `fmt` on an empty String; in general `fmt` appends the rendering -/
theorem Param.fmt_eq (p : Param) (f : List Nat) :
    GenD.Param.fmt p f = (Parser.Param.render p).map (f ++ ·) := by
  simp only [GenD.Param.fmt, Parser.Param.render, Param.parts_eq]
  cases p.partsSlice with
  | none => rfl
  | some parts =>
    rcases parts with _ | ⟨a, _ | ⟨b, t⟩⟩
    · rfl
    · simp
    · simp [List.append_assoc]

theorem mapM_fmt (l : List Param) :
    List.mapM (fun param => GenD.Param.fmt param []) l = l.mapM Parser.Param.render := by
  congr 1; funext q; rw [Param.fmt_eq]; cases Parser.Param.render q <;> simp

theorem Parser.dump_eq (p : Parser) : GenD.Parser.dump p = p.dump := by
  simp only [GenD.Parser.dump, Avt.Parser.dump, Avt.Parser.renderParams, Avt.Parser.activeParams, slice_zero, mapM_fmt]
  cases p.state <;> simp only [] <;> try (simp; done)
  all_goals
    by_cases h : p.curParam + 1 ≤ p.params.length
    · simp only [h, if_true]
      cases (p.params.take (p.curParam + 1)).mapM Parser.Param.render <;> simp
    · simp [h]

theorem loop1_cons (pred : Cell → Cell → Bool) (c : Cell) (cs cur : List Cell) :
    GenD.Chunks.next.loop1 (c :: cs) ⟨c :: cs, pred, cur⟩ =
      match cur.getLast? with
      | none => GenD.Chunks.next.loop1 cs ⟨cs, pred, [c]⟩
      | some last =>
        if pred last c then some (⟨cs, pred, [c]⟩, some (some cur))
        else GenD.Chunks.next.loop1 cs ⟨cs, pred, cur ++ [c]⟩ := by
  rw [GenD.Chunks.next.loop1]
  simp only [GenD.Chunks.next.loop1.body]
  rcases List.eq_nil_or_concat cur with rfl | ⟨init, last, rfl⟩
  · simp
  · by_cases h : pred last c <;> simp [h]

theorem next_cons (pred : Cell → Cell → Bool) (c : Cell) (cs cur : List Cell) :
    GenD.Chunks.next ⟨c :: cs, pred, cur⟩ =
      match cur.getLast? with
      | none => GenD.Chunks.next ⟨cs, pred, [c]⟩
      | some last =>
        if pred last c then some (⟨cs, pred, [c]⟩, some cur)
        else GenD.Chunks.next ⟨cs, pred, cur ++ [c]⟩ := by
  simp only [GenD.Chunks.next, loop1_cons]
  cases cur.getLast? with
  | none => rfl
  | some last => by_cases h : pred last c <;> simp [h]

theorem next_nil (pred : Cell → Cell → Bool) (cur : List Cell) :
    GenD.Chunks.next ⟨[], pred, cur⟩ =
      if cur.isEmpty then some (⟨[], pred, cur⟩, none) else some (⟨[], pred, []⟩, some cur) := by
  simp [GenD.Chunks.next, GenD.Chunks.next.loop1]

/-- `iter.length + 2` is the fuel the generated `Line::chunks` passes (`FUEL` in translate/rs2lean_p5.py): `collect`
    calls `next` at most once per remaining cell (no chunk is empty), once for the pending chunk, once for `None`. -/
theorem collect_eq (pred : Cell → Cell → Bool) (iter cur : List Cell) (fuel : Nat) (h : iter.length + 2 ≤ fuel) :
    GenD.Chunks.collect fuel ⟨iter, pred, cur⟩ = some (Line.chunksGo pred iter cur.reverse) := by
  induction iter generalizing cur fuel with
  | nil =>
    obtain ⟨f, rfl⟩ : ∃ f, fuel = f + 1 := ⟨fuel - 1, by omega⟩
    rw [GenD.Chunks.collect, next_nil]
    cases cur with
    | nil => simp [Line.chunksGo]
    | cons x xs =>
      obtain ⟨f', rfl⟩ : ∃ f', f = f' + 1 := ⟨f - 1, by simp at h; omega⟩
      simp [GenD.Chunks.collect, next_nil, Line.chunksGo]
  | cons c cs ih =>
    obtain ⟨f, rfl⟩ : ∃ f, fuel = f + 1 := ⟨fuel - 1, by omega⟩
    have hf : cs.length + 2 ≤ f := by simp only [List.length_cons] at h; omega
    have step : ∀ cur', GenD.Chunks.collect (f + 1) ⟨cs, pred, cur'⟩ = some (Line.chunksGo pred cs cur'.reverse) :=
      fun cur' => ih cur' (f + 1) (by omega)
    rcases List.eq_nil_or_concat cur with rfl | ⟨init, last, rfl⟩
    · have := step [c]
      rw [GenD.Chunks.collect] at this ⊢
      rw [next_cons]
      simpa [Line.chunksGo] using this
    · simp only [List.concat_eq_append]
      by_cases hp : pred last c
      · rw [GenD.Chunks.collect, next_cons]
        have e : (init ++ [last]).getLast? = some last := by simp
        simp only [e, hp, if_true]
        rw [ih [c] f hf]
        simp [Line.chunksGo, hp]
      · have := step (init ++ [last] ++ [c])
        rw [GenD.Chunks.collect] at this ⊢
        rw [next_cons]
        have e : (init ++ [last]).getLast? = some last := by simp
        simp only [e, hp, Bool.false_eq_true, if_false]
        simpa [Line.chunksGo, hp] using this

/-- `Line::chunks` (the `Chunks` iterator, consumed completely) is the model's `chunks`; it never panics -/
theorem Line.chunks_eq (l : Line) (pred : Cell → Cell → Bool) :
    GenD.Line.chunks l pred = some (l.chunks pred) := by
  simp only [GenD.Line.chunks, GenD.Chunks.new, Avt.Line.chunks]
  exact collect_eq pred l.cells [] _ (by simp)

theorem Chunks.new_eq (iter : List Cell) (pred : Cell → Cell → Bool) :
    GenD.Chunks.new iter pred = ⟨iter, pred, []⟩ := rfl

theorem push_fold {α} (x : Nat) (l : List α) (d : List Nat) :
    List.foldl (fun dump _ => dump ++ [x]) d l = d ++ List.replicate l.length x := by
  induction l generalizing d with
  | nil => simp
  | cons a r ih => simp [ih, List.replicate_succ, List.append_assoc]

theorem push_range (x count : Nat) (d : List Nat) :
    List.foldl (fun dump _ => dump ++ [x]) d (List.range' 0 count) = d ++ List.replicate count x := by
  rw [push_fold]; simp

/-- the run-length encoder's fold, and what the generated code does with the last run behind it.  The generated
    closure is not quoted: it is the variable `F`, known through `hF` on explicit tuples; the caller passes `_`,
    unification finds the closure in the goal, and `hF` is proved there from the helper equalities.  `cutoff_fold`,
    `chunks_fold`, `lines_fold` are stated the same way. -/
theorem rep_fold (F : Nat × List Nat × Nat → Cell → Option (Nat × List Nat × Nat))
    (hF : ∀ count dump prev (cell : Cell), F (count, dump, prev) cell =
      if cell.ch = prev then some (count + 1, dump, prev)
      else if count > 5 then
        match csub count 1 with
        | none => none
        | some x3 => some (1, dump ++ ([prev] ++ [0x1b, 0x5b] ++ renderDec x3 ++ [0x62]), cell.ch)
      else some (1, dump ++ List.replicate count prev, cell.ch))
    (cs : List Cell) (count prev : Nat) (d : List Nat) :
    (match Avt.Terminal.foldM' F cs (count, d, prev) with
      | none => none
      | some (count, dump, prev) =>
        if count > 5 then
          match csub count 1 with
          | none => none
          | some x4 => some (dump ++ ([prev] ++ [0x1b, 0x5b] ++ renderDec x4 ++ [0x62]))
        else some (List.foldl (fun dump _ => dump ++ [prev]) dump (List.range' 0 count)))
      = some (d ++ Buffer.repGo (cs.map Cell.ch) prev count) := by
  induction cs generalizing count prev d with
  | nil =>
    simp only [Avt.Terminal.foldM', List.map_nil, Buffer.repGo, Buffer.repFlush, push_range]
    by_cases h : count > 5
    · simp only [h, if_true]; rw [csub_eq_some (by omega)]; simp
    · simp [h]
  | cons c cs ih =>
    simp only [Avt.Terminal.foldM', List.map_cons, Buffer.repGo]
    rw [hF]
    by_cases h : c.ch = prev
    · simp only [h, if_true]; exact ih _ _ _
    · simp only [h, if_false]
      by_cases h5 : count > 5
      · simp only [h5, if_true]
        rw [csub_eq_some (by omega)]
        simp only []
        rw [ih]
        simp [Buffer.repFlush, h5, List.append_assoc]
      · simp only [h5, if_false]
        rw [ih]
        simp [Buffer.repFlush, h5, List.append_assoc]

theorem Buffer.repEncodeCellText_eq (b : GenB.Buffer) (cells : List Cell) (dump : List Nat) :
    GenD.Buffer.repEncodeCellText b cells dump = (Avt.Buffer.repEncode cells).map (dump ++ ·) := by
  cases cells with
  | nil => rfl
  | cons c cs =>
    simp only [GenD.Buffer.repEncodeCellText, List.head?_cons, List.tail_cons, Avt.Buffer.repEncode, Option.map_some]
    refine rep_fold _ ?_ cs 1 c.ch dump
    intro count dump prev cell
    simp only [GenEq.Cell.char_eq, push_range]
    rfl


theorem cutoff_fold (F : Nat × Bool → Line × Nat → Nat × Bool)
    (hF : ∀ cutoff wrapped (line : Line) i, F (cutoff, wrapped) (line, i) =
      (if wrapped || line.wrapped || !line.isBlank then i + 1 else cutoff, line.wrapped))
    (ls : List Line) (i : Nat) (w : Bool) (c : Nat) :
    (List.foldl F (c, w) (List.zipIdx ls i)).1 = Buffer.dumpCutoff ls i w c := by
  induction ls generalizing i w c with
  | nil => rfl
  | cons l ls ih => simp only [List.zipIdx_cons, List.foldl_cons, hF, Buffer.dumpCutoff]; exact ih _ _ _

theorem chunks_fold (G : List Nat × Pen → List Cell → Option (List Nat × Pen))
    (hG : ∀ dump pen (cells : List Cell), G (dump, pen) cells =
      match cells with
      | [] => none
      | c :: _ =>
        match (if c.pen ≠ pen then (c.pen.dump).map fun d => (dump ++ d, c.pen) else some (dump, pen)) with
        | none => none
        | some (dump', pen') => (Buffer.repEncode cells).map fun t => (dump' ++ t, pen'))
    (chunks : List (List Cell)) (dump : List Nat) (pen : Pen) :
    Avt.Terminal.foldM' G chunks (dump, pen) =
      (Buffer.dumpChunks chunks pen).map fun r => (dump ++ r.1, r.2) := by
  induction chunks generalizing dump pen with
  | nil => simp [Avt.Terminal.foldM', Buffer.dumpChunks]
  | cons cells rest ih =>
    simp only [Avt.Terminal.foldM', Buffer.dumpChunks, hG]
    cases cells with
    | nil => rfl
    | cons c t =>
      simp only []
      by_cases hp : c.pen ≠ pen
      · simp only [hp, if_true, ne_eq, not_false_eq_true]
        cases c.pen.dump with
        | none => rfl
        | some d =>
          simp only [Option.map_some]
          cases Buffer.repEncode (c :: t) with
          | none => rfl
          | some tx =>
            simp only [Option.map_some, ih]
            cases Buffer.dumpChunks rest c.pen with
            | none => rfl
            | some r => obtain ⟨m, p''⟩ := r; simp [List.append_assoc]
      · simp only [hp, if_false]
        cases Buffer.repEncode (c :: t) with
        | none => rfl
        | some tx =>
          simp only [Option.map_some, ih]
          cases Buffer.dumpChunks rest pen with
          | none => rfl
          | some r => obtain ⟨m, p''⟩ := r; simp [List.append_assoc]

theorem lines_fold (last : Nat) (H : List Nat × Pen → Line × Nat → Option (List Nat × Pen))
    (hH : ∀ dump pen (line : Line) i, H (dump, pen) (line, i) =
      match Buffer.dumpChunks (line.chunks fun c1 c2 => c1.pen ≠ c2.pen) pen with
      | none => none
      | some (s, pen') => some (dump ++ s ++ (if i < last && !line.wrapped then [0x0d, 0x0a] else []), pen'))
    (ls : List Line) (i : Nat) (dump : List Nat) (pen : Pen) :
    (Avt.Terminal.foldM' H (List.zipIdx ls i) (dump, pen)).map Prod.fst =
      (Buffer.dumpLines last ls i pen).map (dump ++ ·) := by
  induction ls generalizing i dump pen with
  | nil => simp [Avt.Terminal.foldM', Buffer.dumpLines]
  | cons l ls ih =>
    simp only [List.zipIdx_cons, Avt.Terminal.foldM', hH, Buffer.dumpLines]
    cases Buffer.dumpChunks (l.chunks fun c1 c2 => c1.pen ≠ c2.pen) pen with
    | none => rfl
    | some r =>
      obtain ⟨sx, pen'⟩ := r
      simp only [ih]
      cases Buffer.dumpLines last ls (i + 1) pen' <;> simp [List.append_assoc]

/-- `Buffer::dump` on the Rust-shaped buffer is the model's `Buffer.dump` (simulation through `join`, as in
    GenEqBuffer): an equation between `Option`s, so the Rust-shape panic sites fire exactly when the model's do -/
theorem Buffer.dump_sim (b : Buffer) (h : b.view.length = b.rows) :
    GenD.Buffer.dump (GenEqBuffer.join b) = b.dump := by
  simp only [GenD.Buffer.dump, Avt.Buffer.dump, GenEqBuffer.view_sim b h, GenEqBuffer.join_rows]
  -- eta for the pair the fold returns: the generated `let (cutoff, wrapped) := …` is a `match` that reduces only on an
  -- explicit pair, and `cutoff_fold` speaks of the first component
  have hc : ∀ (F : Nat × Bool → Line × Nat → Nat × Bool) st, (List.foldl F st (List.zipIdx b.view)) =
      ((List.foldl F st (List.zipIdx b.view)).1, (List.foldl F st (List.zipIdx b.view)).2) := fun _ _ => rfl
  rw [hc]
  simp only []
  rw [cutoff_fold _ (by intro cutoff wrapped line i; simp only [GenEqLine.isBlank_eq]) b.view 0 false 0]
  cases csub b.rows 1 with
  | none => rfl
  | some last =>
    simp only []
    have e1 : ∀ (o : Option (List Nat × Pen)),
        (match o with | none => none | some (dump, _) => some dump) = o.map Prod.fst := by
      intro o; cases o <;> rfl
    refine Eq.trans (e1 _) ?_
    refine Eq.trans (lines_fold last _ ?_ _ 0 [] _) ?_
    · intro dump pen line i
      have hl : GenD.Line.chunks line (fun c1 c2 => decide (GenT.Cell.pen c1 ≠ GenT.Cell.pen c2))
          = some (line.chunks fun c1 c2 => c1.pen ≠ c2.pen) := by
        rw [Line.chunks_eq]; congr 2
      simp only [hl]
      rw [chunks_fold _ (by
        intro dump pen cells
        cases cells with
        | nil => rfl
        | cons c t =>
          simp only [List.getElem?_cons_zero, Pen.dump_eq, Buffer.repEncodeCellText_eq, GenEq.Cell.pen_eq]
          by_cases hp : c.pen ≠ pen
          · simp only [hp, if_true, ne_eq, not_false_eq_true]
            cases c.pen.dump with
            | none => rfl
            | some d => simp only [Option.map_some]; cases Avt.Buffer.repEncode (c :: t) <;> rfl
          · simp only [hp, if_false]; cases Avt.Buffer.repEncode (c :: t) <;> rfl)]
      generalize Avt.Buffer.dumpChunks _ pen = dc
      cases dc with
      | none => rfl
      | some r =>
        obtain ⟨sx, pen'⟩ := r
        simp only [Option.map_some]
        by_cases hw : i < last ∧ (!line.wrapped) = true
        · have : (decide (i < last) && !line.wrapped) = true := by simpa using hw
          rw [if_pos hw, if_pos this]; simp [List.append_assoc]
        · have : ¬ ((decide (i < last) && !line.wrapped) = true) := by simpa using hw
          rw [if_neg hw, if_neg this]; simp
    · show Option.map _ (Avt.Buffer.dumpLines last _ 0 Pen.default) = _
      generalize Avt.Buffer.dumpLines last _ 0 Pen.default = dl
      cases dl <;> simp

/-! ### `Terminal::dump`: the text of Gen/DumpGen.lean cut into blocks, tied to it by `dump_gen_shape`.  The steps
are numbered as in Lemmas/DumpCut.lean (`// N.` in `fn dump` of /repo/src/terminal.rs); the generated text carries
no numbers. -/

/-- steps 3 / 5 -/
def ctxBlock (c : SavedCtx) (seq : List Nat) : Option (List Nat) :=
  if !(Avt.GenT.SavedCtx.isDefault c) then
    let seq := if !c.autoWrapMode then seq ++ [0x9b, 0x3f, 0x37, 0x6c] else seq
    let seq := if c.originMode then seq ++ [0x9b, 0x3f, 0x36, 0x68] else seq
    let seq := seq ++ ([0x9b] ++ (Avt.renderDec (c.cursorRow + 1)) ++ [0x3b] ++ (Avt.renderDec (c.cursorCol + 1)) ++ [0x48])
    match Avt.GenD.Pen.dump c.pen with
    | none => none
    | some x3 =>
      let seq := seq ++ x3
      let seq := seq ++ [0x1b, 0x37]
      let seq := if !c.autoWrapMode then seq ++ [0x9b, 0x3f, 0x37, 0x68] else seq
      if c.originMode then some (seq ++ [0x9b, 0x3f, 0x36, 0x6c]) else some seq
  else
    some seq

/-- step 4 (dump of the alternate screen) -/
def altBlock (t : Terminal) (seq : List Nat) : Option (List Nat) :=
  if t.activeBufferType = Avt.BufferType.alternate then
    let seq := seq ++ [0x9b, 0x31, 0x3b, 0x31, 0x48]
    match Avt.Buffer.dump (Avt.GenT.alternateBuffer t) with
    | none => none
    | some x4 =>
      some (seq ++ x4)
  else
    some seq

/-- step 8 (margins) -/
def marginBlock (t : Terminal) (seq : List Nat) : Option (List Nat) :=
  let r4 :=
    if t.topMargin > 0 then
      some true
    else
      match Avt.csub t.rows 1 with
      | none => none
      | some x6 =>
        some (decide (t.bottomMargin < x6))
  match r4 with
  | none => none
  | some x7 =>
    if x7 then
      some (seq ++ ([0x9b] ++ (Avt.renderDec (t.topMargin + 1)) ++ [0x3b] ++ (Avt.renderDec (t.bottomMargin + 1)) ++ [0x72]))
    else
      some seq

/-- step 9 (cursor position) -/
def cursorBlock (t : Terminal) (seq : List Nat) : Option (List Nat × Nat) :=
  let col := t.cursor.col
  let row := t.cursor.row
  if t.originMode then
    if (row < t.topMargin) ∨ (row > t.bottomMargin) then
      let seq := seq ++ [0x9b, 0x75]
      let r6 :=
        if col < t.savedCtx.cursorCol then
          match Avt.csub t.savedCtx.cursorCol col with
          | none => none
          | some x8 =>
            let n := x8
            some (seq ++ ([0x9b] ++ (Avt.renderDec n) ++ [0x44]))
        else
          if col > t.savedCtx.cursorCol then
            match Avt.csub col t.savedCtx.cursorCol with
            | none => none
            | some x9 =>
              let n := x9
              some (seq ++ ([0x9b] ++ (Avt.renderDec n) ++ [0x43]))
          else
            some seq
      match r6 with
      | none => none
      | some seq =>
        if row < t.savedCtx.cursorRow then
          match Avt.csub t.savedCtx.cursorRow row with
          | none => none
          | some x10 =>
            let n := x10
            let seq := seq ++ ([0x9b] ++ (Avt.renderDec n) ++ [0x41])
            some (seq, row)
        else
          if row > t.savedCtx.cursorRow then
            match Avt.csub row t.savedCtx.cursorRow with
            | none => none
            | some x11 =>
              let n := x11
              let seq := seq ++ ([0x9b] ++ (Avt.renderDec n) ++ [0x42])
              some (seq, row)
          else
            some (seq, row)
    else
      match Avt.csub row t.topMargin with
      | none => none
      | some x12 =>
        let row := x12
        let seq := seq ++ ([0x9b] ++ (Avt.renderDec (row + 1)) ++ [0x3b] ++ (Avt.renderDec (col + 1)) ++ [0x48])
        some (seq, row)
  else
    let seq := seq ++ ([0x9b] ++ (Avt.renderDec (row + 1)) ++ [0x3b] ++ (Avt.renderDec (col + 1)) ++ [0x48])
    some (seq, row)

/-- the rest of step 9 and steps 10-14 -/
def tailBlock (t : Terminal) (seq : List Nat) : Option (List Nat) :=
  let r8 :=
    if t.cursor.col ≥ t.cols then
      match Avt.csub t.cols 1 with
      | none => none
      | some x13 =>
        match t.buffer.view[t.cursor.row]? with
        | none => none
        | some line14 =>
          match line14.cells[x13]? with
          | none => none
          | some cell15 =>
            let cell := cell15
            match Avt.GenD.Pen.dump (Avt.GenT.Cell.pen cell) with
            | none => none
            | some x16 =>
              some (seq ++ (x16 ++ [Avt.GenT.Cell.char cell]))
    else
      some seq
  match r8 with
  | none => none
  | some seq =>
    match Avt.GenD.Pen.dump t.pen with
    | none => none
    | some x17 =>
      let seq := seq ++ x17
      let seq := if !t.cursor.visible then seq ++ [0x9b, 0x3f, 0x32, 0x35, 0x6c] else seq
      let seq := if t.charsets.1 = Avt.Charset.drawing then seq ++ [0x1b, 0x28, 0x30] else seq
      let seq := if t.charsets.2 = Avt.Charset.drawing then seq ++ [0x1b, 0x29, 0x30] else seq
      let seq := if t.activeCharset = 1 then seq ++ [0x0e] else seq
      let seq := if t.insertMode then seq ++ [0x9b, 0x34, 0x68] else seq
      let seq := if !t.autoWrapMode then seq ++ [0x9b, 0x3f, 0x37, 0x6c] else seq
      let seq := if t.newLineMode then seq ++ [0x9b, 0x32, 0x30, 0x68] else seq
      if t.cursorKeysMode = Avt.CursorKeysMode.application then
        some (seq ++ [0x9b, 0x3f, 0x31, 0x68])
      else
        some seq

def genDump (t : Terminal) : Option (List Nat) :=
  let x1 :=
    match t.activeBufferType with
    | .primary => (t.savedCtx, t.alternateSavedCtx)
    | .alternate => (t.alternateSavedCtx, t.savedCtx)
  let (primaryCtx, alternateCtx) := x1
  match Avt.Buffer.dump (Avt.GenT.primaryBuffer t) with
  | none => none
  | some x2 =>
    let seq := x2
    let seq :=
      if t.tabs ≠ (Avt.GenT.Tabs.new t.cols) then
        let seq := seq ++ [0x9b, 0x35, 0x57]
        List.foldl (fun seq t' =>
            seq ++ ([0x9b] ++ (Avt.renderDec (t' + 1)) ++ [0x60, 0x1b, 0x5b, 0x57])
          ) seq t.tabs
      else
        seq
    match ctxBlock primaryCtx seq with
    | none => none
    | some seq =>
      let seq := seq ++ [0x1b, 0x5b, 0x6d]
      let seq :=
        if (t.activeBufferType = Avt.BufferType.alternate) ∨ ((!(Avt.GenT.SavedCtx.isDefault alternateCtx)) = true) then
          seq ++ [0x9b, 0x3f, 0x31, 0x30, 0x34, 0x37, 0x68]
        else
          seq
      match altBlock t seq with
      | none => none
      | some seq =>
        match ctxBlock alternateCtx seq with
        | none => none
        | some seq =>
          let seq :=
            if (t.activeBufferType = Avt.BufferType.primary) ∧ ((!(Avt.GenT.SavedCtx.isDefault alternateCtx)) = true) then
              seq ++ [0x9b, 0x3f, 0x31, 0x30, 0x34, 0x37, 0x6c]
            else
              seq
          let seq := if t.originMode then seq ++ [0x9b, 0x3f, 0x36, 0x68] else seq
          match marginBlock t seq with
          | none => none
          | some seq =>
            match cursorBlock t seq with
            | none => none
            | some (seq, _) => tailBlock t seq

/-- the cut is the generated definition (a change of `Terminal::dump` is reported here: re-cut the text) -/
theorem dump_gen_shape (t : Terminal) : GenD.Terminal.dump t = genDump t := by
  unfold GenD.Terminal.dump genDump ctxBlock altBlock marginBlock cursorBlock tailBlock; rfl

theorem ctxBlock_eq (c : SavedCtx) (seq : List Nat) :
    ctxBlock c seq = (Avt.Terminal.dumpCtx c).map (seq ++ ·) := by
  simp only [ctxBlock, Avt.Terminal.dumpCtx, Avt.Terminal.cupSeq, Avt.Terminal.csi, GenEq.SavedCtx.isDefault_eq,
    Pen.dump_eq, ite_app, ite_some_app]
  cases c.isDefault with
  | true => simp
  | false =>
    simp only [Bool.not_false, if_true, Bool.false_eq_true, if_false]
    cases c.pen.dump with
    | none => rfl
    | some pd => simp only [Option.map_some, List.append_assoc, List.cons_append, List.nil_append]

/-- a relative move along one axis (`CUB`/`CUF`, `CUU`/`CUD`): by the distance, or nothing when already there -/
theorem relMove_eq {β} (f : List Nat → β) (s : List Nat) (a b x y : Nat) :
    (if a < b then
        match csub b a with
        | none => none
        | some n => some (f (s ++ ([0x9b] ++ renderDec n ++ [x])))
      else if a > b then
        match csub a b with
        | none => none
        | some n => some (f (s ++ ([0x9b] ++ renderDec n ++ [y])))
      else some (f s))
    = some (f (s ++ (if a < b then 0x9b :: renderDec (b - a) ++ [x]
        else if a > b then 0x9b :: renderDec (a - b) ++ [y] else []))) := by
  by_cases h1 : a < b
  · rw [if_pos h1, if_pos h1, csub_eq_some (by omega)]; rfl
  · rw [if_neg h1, if_neg h1]
    by_cases h2 : a > b
    · rw [if_pos h2, if_pos h2, csub_eq_some (by omega)]; rfl
    · rw [if_neg h2, if_neg h2, List.append_nil]

/-- the second component is the local `row` after step 9, which nothing reads afterwards -/
theorem cursorBlock_eq (t : Terminal) (seq : List Nat) :
    cursorBlock t seq = some (seq ++ t.dumpCursor,
      if t.originMode = true ∧ ¬ (t.cursor.row < t.topMargin ∨ t.cursor.row > t.bottomMargin)
      then t.cursor.row - t.topMargin else t.cursor.row) := by
  simp only [cursorBlock, Avt.Terminal.dumpCursor, Avt.Terminal.cupSeq, Avt.Terminal.csi,
    relMove_eq (fun s => s), relMove_eq (fun s => (s, t.cursor.row))]
  cases t.originMode with
  | false => simp [List.append_assoc]
  | true =>
    simp only [if_true]
    by_cases h : t.cursor.row < t.topMargin ∨ t.cursor.row > t.bottomMargin
    · have h' : (decide (t.cursor.row < t.topMargin) || decide (t.cursor.row > t.bottomMargin)) = true := by
        simpa using h
      simp [h, h', List.append_assoc]
    · have h' : ¬ ((decide (t.cursor.row < t.topMargin) || decide (t.cursor.row > t.bottomMargin)) = true) := by
        simpa using h
      simp only [h, h', if_false]
      rw [csub_eq_some (by omega)]
      simp [List.append_assoc]

theorem tailBlock_eq (t : Terminal) (seq : List Nat) :
    tailBlock t seq =
      match pendingText t, t.pen.dump with
      | some pp, some pend => some (seq ++ pp ++ pend ++ modesText t)
      | _, _ => none := by
  simp only [tailBlock, pendingText, modesText, Avt.Terminal.csi, Pen.dump_eq, GenEq.Cell.pen_eq, GenEq.Cell.char_eq,
    ite_app, ite_some_app]
  by_cases hc : t.cursor.col ≥ t.cols
  · simp only [hc, if_true]
    cases csub t.cols 1 with
    | none => rfl
    | some c1 =>
      simp only []
      cases t.buffer.view[t.cursor.row]? with
      | none => rfl
      | some line =>
        simp only []
        cases line.cells[c1]? with
        | none => rfl
        | some cell =>
          simp only []
          cases cell.pen.dump with
          | none => rfl
          | some pd => cases t.pen.dump <;> simp only [Option.map_some, List.append_assoc]
  · simp only [hc, if_false]
    cases t.pen.dump <;> simp only [List.append_assoc, List.append_nil]

theorem tabs_fold (tabs : List Nat) (seq : List Nat) :
    List.foldl (fun seq t' => seq ++ ([0x9b] ++ renderDec (t' + 1) ++ [0x60, 0x1b, 0x5b, 0x57])) seq tabs
      = seq ++ (tabs.map fun tb => 0x9b :: renderDec (tb + 1) ++ [0x60, 0x1b, 0x5b, 0x57]).flatten := by
  simp only [List.cons_append, List.nil_append, List.foldl_append_eq_append]

theorem altBlock_eq (t : Terminal) (seq : List Nat) :
    altBlock t seq = (if t.activeBufferType = .alternate
      then (t.alternateBuffer.dump).map fun d => [Terminal.csi, 0x31, 0x3b, 0x31, 0x48] ++ d else some []).map (seq ++ ·) := by
  simp only [altBlock, GenEq.alternateBuffer_eq, Avt.Terminal.csi]
  by_cases h : t.activeBufferType = .alternate
  · simp only [h, if_true]; cases t.alternateBuffer.dump <;> simp [List.append_assoc]
  · simp [h]

theorem marginBlock_eq (t : Terminal) (seq : List Nat) (hr : 1 ≤ t.rows) :
    marginBlock t seq = some (seq ++ (if t.topMargin > 0 || t.bottomMargin < t.rows - 1
      then Terminal.csi :: renderDec (t.topMargin + 1) ++ [0x3b] ++ renderDec (t.bottomMargin + 1) ++ [0x72] else [])) := by
  simp only [marginBlock, csub_eq_some hr, Avt.Terminal.csi]
  by_cases h1 : t.topMargin > 0
  · simp [h1]
  · by_cases h2 : t.bottomMargin < t.rows - 1 <;> simp [h1, h2]

/-- `Terminal::dump` (generated) is the model's `Terminal.dump` on every terminal with at least one row; with
    `rows = 0` they can differ (`dump_rows_zero`) -/
theorem Terminal.dump_eq (t : Terminal) (hr : 1 ≤ t.rows) : GenD.Terminal.dump t = t.dump := by
  rw [dump_gen_shape]
  -- conditional appends are pulled out before reassociating: on a reassociated term `ite_app` does not match.
  -- `pendingText` / `modesText` (DumpCut) only shorten the statement of `tailBlock_eq`: the model's `Terminal.dump`
  -- writes those texts inline, and they are unfolded to meet it
  simp only [genDump, Avt.Terminal.dump, ctxBlock_eq, altBlock_eq, marginBlock_eq _ _ hr, cursorBlock_eq, tailBlock_eq,
    GenEq.primaryBuffer_eq, csub_eq_some hr, GenEq.Tabs.new_eq, tabs_fold, GenEq.SavedCtx.isDefault_eq,
    Avt.Terminal.csi, ite_app, pendingText, modesText]
  simp only [List.append_assoc, ite_app]
  generalize (ite (t.cursor.col ≥ t.cols) _ (some ([] : List Nat))) = PP
  generalize t.primaryBuffer.dump = A
  generalize t.alternateBuffer.dump = AB
  generalize t.pen.dump = E
  cases hbt : t.activeBufferType with
  | primary =>
    simp only [reduceCtorEq, if_false, false_or, true_and, decide_false, Bool.false_or, Bool.not_false,
      Bool.true_and, Option.map_some, List.append_nil]
    generalize Avt.Terminal.dumpCtx t.savedCtx = P
    generalize Avt.Terminal.dumpCtx t.alternateSavedCtx = Q
    cases A; · rfl
    cases P; · rfl
    cases Q; · rfl
    cases PP; · cases E <;> rfl
    cases E; · rfl
    simp only [Option.map_some, List.append_assoc, List.nil_append]
  | alternate =>
    simp only [if_true, true_or, reduceCtorEq, false_and, decide_true, Bool.true_or, Bool.not_true,
      Bool.false_and, if_false, Bool.false_eq_true]
    generalize Avt.Terminal.dumpCtx t.savedCtx = P
    generalize Avt.Terminal.dumpCtx t.alternateSavedCtx = Q
    cases A; · rfl
    cases Q; · rfl
    cases AB; · cases P <;> cases E <;> rfl
    cases P; · rfl
    cases PP; · cases E <;> rfl
    cases E; · rfl
    simp only [Option.map_some, List.append_assoc, List.nil_append]

/-- a terminal outside every reachable state: `rows = 0` although its buffer has one row, top margin 1 -/
def rowsZeroWitness : Terminal :=
  match Avt.Terminal.new 1 1 none with
  | some t => { t with rows := 0, topMargin := 1 }
  | none => default

/-- where `Terminal::dump` and the model differ: with `rows = 0` and `top_margin > 0` the Rust condition
    `self.top_margin > 0 || self.bottom_margin < self.rows - 1` short-circuits and never evaluates `self.rows - 1`,
    so the code does not panic; the model subtracts up front and returns `none`.  Unreachable (`rows >= 1` is a
    clause of the invariant); `Terminal.dump_eq` carries the hypothesis `1 <= rows`. -/
theorem dump_rows_zero :
    (GenD.Terminal.dump rowsZeroWitness).isSome = true ∧ Avt.Terminal.dump rowsZeroWitness = none := by
  constructor <;> decide

/-- hand-kept list of the functions of this module with an equality theorem above -/
def provedFunctions : List String := [
  "Parser::dump", "Param::fmt", "Color::sgr_params", "Pen::dump", "Line::chunks", "Chunks::new", "Chunks::next",
  "Buffer::dump", "Buffer::rep_encode_cell_text", "Terminal::dump"]

/-- the translator's list against the hand-kept one: a function entering or leaving the translated set fails
    here.  That every listed name has its theorem is by inspection. -/
theorem coverage_complete : GenD.translated = provedFunctions := rfl

theorem untranslated_as_expected : GenD.untranslated = [] := by decide

end Avt.GenEqDump
