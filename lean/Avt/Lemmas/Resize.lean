/-
  Avt.Lemmas.Resize — `Buffer.resize` cut into its two phases (`resize_eq`): `rsStep1`, the reflow to
  the new width with the translation of the cursor, and `rsStep2`, the change of height.  Each phase
  in closed form (`rsStep1_eq`; `rsStep2_eq`, stated with `unwrapLast` and `rowsOnlyLines` of
  Spec/C10.lean, so that C10's rows-only clause reads it off), and neither panics on a well-formed
  list of lines (`rsStep1_ok`, `rsStep2_ok`).
-/
import Avt.Lemmas.Reflow
import Avt.Lemmas.Prim
import Avt.Spec.C10
import Avt.Lemmas.BufferGc

namespace Avt
namespace Lemmas
open Spec.C10

theorem unwrapLast_append_singleton (xs : List Line) (l : Line) :
    unwrapLast (xs ++ [l]) = xs ++ [{ l with wrapped := false }] := by
  simp [unwrapLast]

theorem unwrapLast_append {A B : List Line} (hB : B ≠ []) : unwrapLast (A ++ B) = A ++ unwrapLast B := by
  obtain ⟨ini, l, rfl⟩ := exists_snoc hB
  rw [← List.append_assoc, unwrapLast_append_singleton, unwrapLast_append_singleton, List.append_assoc]

theorem unwrapLast_length (xs : List Line) : (unwrapLast xs).length = xs.length := by
  by_cases h : xs = []
  · subst h; rfl
  · obtain ⟨ini, l, rfl⟩ := exists_snoc h
    rw [unwrapLast_append_singleton]; simp

theorem lastUnwrapped_unwrapLast (xs : List Line) : lastUnwrapped (unwrapLast xs) = true := by
  by_cases hx : xs = []
  · subst hx; rfl
  · obtain ⟨ini, l, rfl⟩ := exists_snoc hx
    rw [unwrapLast_append_singleton, lastUnwrapped_snoc]; rfl

theorem unwrapLast_cons_cons (l : Line) (y : Line) (t : List Line) :
    unwrapLast (l :: y :: t) = l :: unwrapLast (y :: t) :=
  unwrapLast_append (A := [l]) (List.cons_ne_nil y t)

/-- `unwrapLast` changes nothing but a wrap mark -/
theorem mem_unwrapLast {xs : List Line} {x : Line} (h : x ∈ unwrapLast xs) : ∃ l ∈ xs, x.cells = l.cells := by
  by_cases hx : xs = []
  · subst hx; cases h
  · obtain ⟨ini, l, rfl⟩ := exists_snoc hx
    rw [unwrapLast_append_singleton] at h
    rcases List.mem_append.1 h with h | h
    · exact ⟨x, List.mem_append_left _ h, rfl⟩
    · exact ⟨l, by simp, by rw [List.mem_singleton.1 h]⟩

theorem ite_append_replicate {α} {c : Prop} [Decidable c] {n : Nat} (h : ¬c → n = 0) (xs : List α) (a : α) :
    (if c then xs ++ List.replicate n a else xs) = xs ++ List.replicate n a := by
  split
  · rfl
  · next hn => rw [h hn, List.replicate_zero, List.append_nil]

end Lemmas

namespace Buffer

theorem logicalPosition_ok (lines : List Line) (pos : Nat × Nat) (cols rows : Nat)
    (h : rows ≤ lines.length) : ∃ p, logicalPosition lines pos cols rows = some p := by
  simp only [logicalPosition, csub, h, if_true]
  exact ⟨_, rfl⟩

/-- first loop of `relative_position` (`r` counts the unwrapped rows passed, up to `target`; `rr` every
    row): with `d = target - r` unwrapped rows still to pass it advances by some `m` rows, and when that
    many unwrapped rows are there it stops after exactly `d` of them, just behind an unwrapped row -/
theorem relLoop1_spec (target : Nat) : ∀ (ls : List Line) (r rr d : Nat), r + d = target →
    ∃ m, relLoop1 target ls r rr = rr + m ∧ m ≤ ls.length
      ∧ (d ≤ ls.countP (fun l => !l.wrapped) →
          (ls.take m).countP (fun l => !l.wrapped) = d ∧ lastUnwrapped (ls.take m) = true)
  | [], _, _, _, _ => ⟨0, rfl, Nat.le_refl _, fun hc => ⟨(Nat.le_zero.1 hc).symm, rfl⟩⟩
  | _ :: _, r, _, 0, hr =>
    ⟨0, by rw [relLoop1, if_neg (by rw [← hr]; exact Nat.lt_irrefl _)]; rfl, Nat.zero_le _,
      fun _ => ⟨rfl, rfl⟩⟩
  | l :: t, r, rr, d + 1, hr => by
    rw [relLoop1, if_pos (by rw [← hr]; exact Nat.lt_add_of_pos_right (Nat.succ_pos d))]
    cases hw : l.wrapped with
    | true =>
      obtain ⟨m, h1, h2, h34⟩ := relLoop1_spec target t r (rr + 1) (d + 1) hr
      refine ⟨m + 1, by simp only [Bool.not_true, Bool.false_eq_true, if_false]; rw [h1, Nat.add_assoc, Nat.add_comm 1],
        Nat.succ_le_succ h2, fun hc => ?_⟩
      obtain ⟨h3, h4⟩ := h34 (by simpa [hw] using hc)
      have hne : t.take m ≠ [] := by intro h0; rw [h0] at h3; cases h3
      refine ⟨by simpa [hw] using h3, ?_⟩
      rw [List.take_succ_cons, Avt.lastUnwrapped_cons_of_ne_nil l hne]; exact h4
    | false =>
      obtain ⟨m, h1, h2, h34⟩ := relLoop1_spec target t (r + 1) (rr + 1) d
        (by rw [← hr, Nat.add_assoc, Nat.add_comm 1])
      refine ⟨m + 1, by simp only [Bool.not_false, if_true]; rw [h1, Nat.add_assoc, Nat.add_comm 1],
        Nat.succ_le_succ h2, fun hc => ?_⟩
      obtain ⟨h3, h4⟩ := h34 (Nat.le_of_succ_le_succ (by simpa [hw] using hc))
      refine ⟨by simp [hw, h3], ?_⟩
      rw [List.take_succ_cons]
      by_cases hne : t.take m = []
      · rw [hne]; simp [lastUnwrapped, hw]
      · rw [Avt.lastUnwrapped_cons_of_ne_nil l hne]; exact h4

/-- the second loop of `relative_position` cannot run off the end of the lines when the last line is
    not wrapped -/
theorem relLoop2_ok (cols : Nat) : ∀ (ls : List Line) (c r : Nat), ls ≠ [] →
    lastUnwrapped ls = true →
    ∃ c' r', relLoop2 cols ls c r = some (c', r') ∧ r ≤ r' ∧ r' + 1 ≤ r + ls.length := by
  intro ls
  induction ls with
  | nil => intro c r h; exact absurd rfl h
  | cons l ls ih =>
    intro c r _ hlu
    simp only [relLoop2]
    split
    · rename_i hcond
      simp only [Bool.and_eq_true, decide_eq_true_eq] at hcond
      cases ls with
      | nil => simp [lastUnwrapped, hcond.2] at hlu
      | cons y ys =>
        obtain ⟨c', r', he, h1, h2⟩ := ih (c - cols) (r + 1) (by simp) hlu
        refine ⟨c', r', he, ?_, ?_⟩
        · omega
        · simp only [List.length_cons] at *; omega
    · exact ⟨c, r, rfl, Nat.le_refl _, by simp only [List.length_cons]; omega⟩

/-- `relative_position` never panics on a non-empty list of lines whose last line is unwrapped; the
    column is inside the screen, the row is at most `rows - 1` and not further above the view than
    there are lines above the view -/
theorem relativePosition_ok (lines : List Line) (pos : Nat × Nat) (cols rows : Nat)
    (hne : lines ≠ []) (hc : 1 ≤ cols) (hr : rows ≤ lines.length)
    (hlu : lastUnwrapped lines = true) :
    ∃ rc rr, relativePosition lines pos cols rows = some (rc, rr) ∧ rc < cols ∧
      rr < (rows : Int) ∧ (rows : Int) - rr ≤ (lines.length : Int) := by
  have hlen : 1 ≤ lines.length := by
    cases lines with
    | nil => exact absurd rfl hne
    | cons a b => simp
  simp only [relativePosition, csub_eq_some hlen, csub_eq_some hc, csub_eq_some hr]
  obtain ⟨rr0, hb, hm, -⟩ :=
    relLoop1_spec pos.2 (lines.take (lines.length - 1)) 0 0 pos.2 (Nat.zero_add _)
  rw [hb, Nat.zero_add]
  rw [List.length_take] at hm
  have hrr : rr0 < lines.length := by omega
  have hne' : lines.drop rr0 ≠ [] := by
    intro e
    have := congrArg List.length e
    simp at this; omega
  obtain ⟨c', r', he, hr1, hr2⟩ :=
    relLoop2_ok cols (lines.drop rr0) pos.1 rr0 hne' (lastUnwrapped_drop rr0 hlu hrr)
  simp only [he]
  simp only [List.length_drop] at hr2
  refine ⟨_, _, rfl, ?_, ?_, ?_⟩
  · omega
  · omega
  · omega

theorem setLastUnwrapped_eq : ∀ ls : List Line,
    setLastUnwrapped ls = if ls = [] then none else some (Spec.C10.unwrapLast ls)
  | [] => rfl
  | [_] => by rw [if_neg (List.cons_ne_nil _ _)]; rfl
  | l :: y :: t => by
    show (setLastUnwrapped (y :: t)).map (fun t => l :: t) = _
    rw [setLastUnwrapped_eq (y :: t), if_neg (List.cons_ne_nil _ _), if_neg (List.cons_ne_nil _ _),
      Lemmas.unwrapLast_cons_cons]
    rfl

/-- phase 1: reflow to the new width and translate the cursor (only when the width changes) -/
def rsStep1 (lines : List Line) (oldCols oldRows newCols : Nat) (cursor logPos : Nat × Nat) :
    Option (List Line × (Nat × Nat) × Nat) :=
  if newCols ≠ oldCols then
    match reflow lines newCols with
    | none => none
    | some ls =>
      let ls := if ls.length < oldRows
        then ls ++ List.replicate (oldRows - ls.length) (Line.blank newCols Pen.default) else ls
      match relativePosition ls logPos newCols oldRows with
      | none => none
      | some (rc, rr) =>
        if rr ≥ 0 then some (ls, (rc, rr.toNat), oldRows)
        else some (ls, (rc, 0), oldRows + (-rr).toNat)
  else some (lines, cursor, oldRows)

/-- phase 2: change of height -/
def rsStep2 (newCols newRows : Nat) (lines : List Line) (cursor : Nat × Nat) (oldRows : Nat) :
    Option (List Line × (Nat × Nat)) :=
  let lineCount := lines.length
  if newRows < oldRows then
    let heightDelta := oldRows - newRows
    match csub oldRows 1 with
    | none => none
    | some o1 =>
      match csub o1 cursor.2 with
      | none => none
      | some inv =>
        let excess := min heightDelta inv
        let lines' : Option (List Line) :=
          if excess > 0 then
            match csub lineCount excess with
            | none => none
            | some k => setLastUnwrapped (lines.take k)
          else some lines
        match lines', csub cursor.2 (heightDelta - excess) with
        | some ls, some row => some (ls, (cursor.1, row))
        | _, _ => none
  else if newRows > oldRows then
    let heightDelta := newRows - oldRows
    let sbSize := lineCount - min oldRows lineCount
    let shift := min sbSize heightDelta
    let heightDelta := heightDelta - shift
    let cursor := if cursor.2 < oldRows then (cursor.1, cursor.2 + shift) else cursor
    let lines := if heightDelta > 0
      then lines ++ List.replicate heightDelta (Line.blank newCols Pen.default) else lines
    some (lines, cursor)
  else some (lines, cursor)

theorem resize_eq (b : Buffer) (c r : Nat) (cur : Nat × Nat) :
    b.resize c r cur =
      match logicalPosition b.lines cur b.cols b.rows with
      | none => none
      | some lp =>
        match rsStep1 b.lines b.cols b.rows c cur lp with
        | none => none
        | some (lines, cursor, oldRows) =>
          match rsStep2 c r lines cursor oldRows with
          | none => none
          | some (lines, cursor) =>
            match csub lines.length r with
            | none => none
            | some k =>
              some ({ b with sb := lines.take k, view := lines.drop k, cols := c, rows := r,
                             trimNeeded := true }, cursor) := by
  unfold resize rsStep1 rsStep2
  rfl

/-- `Buffer.resize` read backwards: the cursor's logical position `lp`, what phase 1 returns (`ls1`, `cur1`,
    `oR`), the rows `ls2` phase 2 returns, and the result, which splits `ls2` so that the view is its last
    `r` rows -/
structure ResizePhases (b b' : Buffer) (c r : Nat) (cur cur' lp : Nat × Nat) (ls1 : List Line)
    (cur1 : Nat × Nat) (oR : Nat) (ls2 : List Line) : Prop where
  logical : logicalPosition b.lines cur b.cols b.rows = some lp
  step1 : rsStep1 b.lines b.cols b.rows c cur lp = some (ls1, cur1, oR)
  step2 : rsStep2 c r ls1 cur1 oR = some (ls2, cur')
  le : r ≤ ls2.length
  lines : b'.lines = ls2
  sbLength : b'.sb.length = ls2.length - r
  cols : b'.cols = c
  rows : b'.rows = r
  limit : b'.limit = b.limit

theorem resize_phases {b b' : Buffer} {c r : Nat} {cur cur' : Nat × Nat}
    (h : b.resize c r cur = some (b', cur')) :
    ∃ lp ls1 cur1 oR ls2, ResizePhases b b' c r cur cur' lp ls1 cur1 oR ls2 := by
  rw [resize_eq] at h
  cases hlp : logicalPosition b.lines cur b.cols b.rows with
  | none => simp [hlp] at h
  | some lp =>
    cases hs1 : rsStep1 b.lines b.cols b.rows c cur lp with
    | none => simp [hlp, hs1] at h
    | some s1 =>
      obtain ⟨ls1, cur1, oR⟩ := s1
      cases hs2 : rsStep2 c r ls1 cur1 oR with
      | none => simp [hlp, hs1, hs2] at h
      | some s2 =>
        obtain ⟨ls2, cur2⟩ := s2
        cases hk : csub ls2.length r with
        | none => simp [hlp, hs1, hs2, hk] at h
        | some k =>
          simp only [hlp, hs1, hs2, hk, Option.some.injEq, Prod.mk.injEq] at h
          obtain ⟨rfl, rfl⟩ := h
          obtain ⟨hle, rfl⟩ := csub_eq_some_iff.1 hk
          exact ⟨lp, ls1, cur1, oR, ls2,
            { logical := hlp, step1 := hs1, step2 := hs2, le := hle, lines := List.take_append_drop _ _,
              sbLength := by simp only [List.length_take]; omega, cols := rfl, rows := rfl, limit := rfl }⟩

section
variable {b b' : Buffer} {c r : Nat} {cur cur' : Nat × Nat} (h : b.resize c r cur = some (b', cur'))
include h

theorem resize_cols : b'.cols = c := let ⟨_, _, _, _, _, p⟩ := resize_phases h; p.cols

theorem resize_rows : b'.rows = r := let ⟨_, _, _, _, _, p⟩ := resize_phases h; p.rows

theorem resize_limit : b'.limit = b.limit := let ⟨_, _, _, _, _, p⟩ := resize_phases h; p.limit

end

/-- phase 1 in closed form: the reflowed rows are padded to the old height; a cursor row above the
    view (`rr < 0`) becomes row 0 of a view that much higher, so both arms of the model are
    `rr.toNat` and `oldRows + (-rr).toNat` -/
theorem rsStep1_eq (lines : List Line) (oc orows c : Nat) (cur lp : Nat × Nat) :
    rsStep1 lines oc orows c cur lp =
      if c = oc then some (lines, cur, orows) else
        (reflow lines c).bind fun out =>
          let ls := out ++ List.replicate (orows - out.length) (Line.blank c Pen.default)
          (relativePosition ls lp c orows).map fun p => (ls, (p.1, p.2.toNat), orows + (-p.2).toNat) := by
  unfold rsStep1
  by_cases hc : c = oc
  · rw [if_neg (not_not_intro hc), if_pos hc]
  · rw [if_pos hc, if_neg hc]
    cases reflow lines c with
    | none => rfl
    | some out =>
      simp only [Lemmas.ite_append_replicate fun hn => Nat.sub_eq_zero_of_le (Nat.le_of_not_lt hn),
        Option.bind_some]
      cases relativePosition (out ++ List.replicate (orows - out.length) (Line.blank c Pen.default)) lp c orows with
      | none => rfl
      | some p =>
        obtain ⟨rc, rr⟩ := p
        simp only [Option.map_some]
        split
        · next h => rw [Int.toNat_eq_zero.2 (by omega : -rr ≤ 0), Nat.add_zero]
        · next h => rw [Int.toNat_eq_zero.2 (by omega : rr ≤ 0)]

/-- the cursor after phase 2: shrinking moves it up by the rows that could not be taken from below
    it, growing moves it down by the rows that come back from the scrollback -/
def rowsOnlyCur (len oR r : Nat) (cur : Nat × Nat) : Nat × Nat :=
  if r < oR then (cur.1, cur.2 - (oR - r - min (oR - r) (oR - 1 - cur.2)))
  else if cur.2 < oR then (cur.1, cur.2 + min (len - oR) (r - oR)) else cur

theorem rowsOnlyCur_fst (len oR r : Nat) (cur : Nat × Nat) : (rowsOnlyCur len oR r cur).1 = cur.1 := by
  unfold rowsOnlyCur
  split
  · rfl
  · split <;> rfl

/-- phase 2 in closed form.  Growing never fails.  Shrinking fails exactly when the new height is 0,
    the cursor is below the old screen, or the rows to drop are all there are. -/
theorem rsStep2_eq (c r : Nat) (lines : List Line) (cur : Nat × Nat) (oR : Nat) :
    rsStep2 c r lines cur oR =
      if r < oR → (1 ≤ r ∧ cur.2 < oR ∧
          (min (oR - r) (oR - 1 - cur.2) = 0 ∨ min (oR - r) (oR - 1 - cur.2) < lines.length)) then
        some (Spec.C10.rowsOnlyLines lines c oR r cur.2, rowsOnlyCur lines.length oR r cur)
      else none := by
  unfold rsStep2 Spec.C10.rowsOnlyLines rowsOnlyCur
  by_cases hr : r < oR
  · have hoR : 1 ≤ oR := Nat.succ_le_of_lt (Nat.zero_lt_of_lt hr)
    simp only [hr, if_true, true_imp_iff, csub_eq_some hoR]
    by_cases hcur : cur.2 < oR
    · rw [csub_eq_some (Nat.le_sub_one_of_lt hcur)]
      simp only []
      by_cases h1 : 1 ≤ r
      · have hrow : oR - r - min (oR - r) (oR - 1 - cur.2) ≤ cur.2 := by
          rw [Nat.sub_le_iff_le_add, ← Nat.add_min_add_left, Nat.add_sub_cancel' (Nat.le_sub_one_of_lt hcur)]
          exact Nat.le_min.2 ⟨Nat.le_add_left _ _, Nat.sub_le_sub_left h1 oR⟩
        rw [csub_eq_some hrow]
        generalize min (oR - r) (oR - 1 - cur.2) = ex
        by_cases h0 : ex = 0
        · subst h0
          simp only [Nat.lt_irrefl, if_false, if_true, h1, hcur, true_or, and_self]
        · have hpos : ex > 0 := Nat.pos_of_ne_zero h0
          simp only [if_pos hpos, h1, hcur, h0, false_or, true_and, if_false]
          by_cases hlen : ex < lines.length
          · have hne : lines.take (lines.length - ex) ≠ [] := by
              intro e
              have := congrArg List.length e
              rw [List.length_take, List.length_nil, Nat.min_eq_left (Nat.sub_le _ _)] at this
              exact Nat.sub_ne_zero_of_lt hlen this
            simp only [csub_eq_some (Nat.le_of_lt hlen), setLastUnwrapped_eq, if_neg hne, if_pos hlen]
          · rw [if_neg hlen]
            rcases Nat.lt_or_ge lines.length ex with hlt | hge
            · simp only [csub_eq_none hlt]
            · have : lines.length - ex = 0 := Nat.sub_eq_zero_of_le (Nat.le_of_not_lt hlen)
              simp only [csub_eq_some hge, this, List.take_zero, setLastUnwrapped]
      · have hrow : cur.2 < oR - r - min (oR - r) (oR - 1 - cur.2) := by
          obtain rfl : r = 0 := Nat.eq_zero_of_not_pos h1
          rw [Nat.sub_zero, Nat.min_eq_right (Nat.le_trans (Nat.sub_le _ _) (Nat.sub_le _ _))]
          omega
        rw [csub_eq_none hrow, if_neg (fun h : _ ∧ _ => h1 h.1)]
        split
        · next h => cases h
        · rfl
    · rw [csub_eq_none (Nat.lt_of_lt_of_le (Nat.sub_lt hoR Nat.one_pos) (Nat.le_of_not_lt hcur)),
        if_neg (fun h : _ ∧ _ ∧ _ => hcur h.2.1)]
  · have hm : lines.length - min oR lines.length = lines.length - oR := by
      rcases Nat.le_total oR lines.length with hle | hle
      · rw [Nat.min_eq_left hle]
      · rw [Nat.min_eq_right hle, Nat.sub_self, Nat.sub_eq_zero_of_le hle]
    simp only [hr, if_false, false_imp_iff, if_true, hm, Lemmas.ite_append_replicate Nat.eq_zero_of_not_pos]
    by_cases h2 : r > oR
    · simp only [if_pos h2]
    · have : r - oR = 0 := Nat.sub_eq_zero_of_le (Nat.le_of_not_gt h2)
      simp only [if_neg h2, this, Nat.min_zero, Nat.sub_self, List.replicate_zero, List.append_nil,
        Nat.add_zero, ite_self]

/-- the two things `rowsOnlyLines` can be: blank rows appended, or the rows cut from the bottom with
    the wrap mark of the new last row cleared -/
theorem rowsOnlyLines_shape (ls : List Line) (c oR r row : Nat) :
    (∃ k, Spec.C10.rowsOnlyLines ls c oR r row = ls ++ List.replicate k (Line.blank c Pen.default))
      ∨ (0 < min (oR - r) (oR - 1 - row) ∧ Spec.C10.rowsOnlyLines ls c oR r row
          = Spec.C10.unwrapLast (ls.take (ls.length - min (oR - r) (oR - 1 - row)))) := by
  unfold Spec.C10.rowsOnlyLines
  split
  · dsimp only
    split
    · exact .inl ⟨0, (List.append_nil _).symm⟩
    · next h => exact .inr ⟨Nat.pos_of_ne_zero h, rfl⟩
  · exact .inl ⟨_, rfl⟩

theorem rowsOnlyLines_length_shrink (lines : List Line) (c oR r row : Nat) (hr : r < oR) :
    (Spec.C10.rowsOnlyLines lines c oR r row).length = lines.length - min (oR - r) (oR - 1 - row) := by
  unfold Spec.C10.rowsOnlyLines
  rw [if_pos hr]
  dsimp only
  split
  · next h => rw [h, Nat.sub_zero]
  · rw [Lemmas.unwrapLast_length, List.length_take, Nat.min_eq_left (Nat.sub_le _ _)]

/-- the arithmetic of the height change: after phase 2 there are at least `r` rows, and a cursor that
    was on the old screen is on the new one and keeps its absolute row (`length - height + row`,
    written without subtraction) -/
theorem rowsOnly_abs {c r oR : Nat} {lines : List Line} {cur : Nat × Nat} (h1 : r < oR → 1 ≤ r)
    (hle : oR ≤ lines.length) :
    r ≤ (Spec.C10.rowsOnlyLines lines c oR r cur.2).length ∧
      (cur.2 < oR → (rowsOnlyCur lines.length oR r cur).2 < r ∧
        (Spec.C10.rowsOnlyLines lines c oR r cur.2).length + (rowsOnlyCur lines.length oR r cur).2 + oR
          = lines.length + cur.2 + r) := by
  by_cases hr : r < oR
  · have h1 := h1 hr
    rw [rowsOnlyLines_length_shrink _ _ _ _ _ hr]
    simp only [rowsOnlyCur, if_pos hr]
    -- every difference gets a name `d` with `d + b = a`, so that the leaves are linear
    have e1 := Nat.sub_add_cancel (Nat.le_of_lt hr)
    generalize oR - r = hd at e1 ⊢
    generalize hinv : oR - 1 - cur.2 = inv
    have m1 := Nat.min_le_left hd inv
    have m2 := Nat.min_le_right hd inv
    have m3 : min hd inv = hd ∨ min hd inv = inv := by
      rcases Nat.le_total hd inv with h | h
      · exact .inl (Nat.min_eq_left h)
      · exact .inr (Nat.min_eq_right h)
    generalize min hd inv = ex at m1 m2 m3 ⊢
    have e5 := Nat.sub_add_cancel (show ex ≤ lines.length by omega)
    generalize lines.length - ex = k at e5 ⊢
    refine ⟨by omega, fun hc => ?_⟩
    have e2 : inv + (cur.2 + 1) = oR := by
      rw [← hinv, Nat.sub_sub, Nat.add_comm 1]; exact Nat.sub_add_cancel hc
    have e3 := Nat.sub_add_cancel m1
    generalize hd - ex = g at e3 ⊢
    have e4 := Nat.sub_add_cancel (show g ≤ cur.2 by omega)
    generalize cur.2 - g = row at e4 ⊢
    omega
  · simp only [Spec.C10.rowsOnlyLines, rowsOnlyCur, if_neg hr, List.length_append, List.length_replicate]
    have e1 := Nat.sub_add_cancel (Nat.le_of_not_lt hr)
    generalize r - oR = hd at e1 ⊢
    have e2 := Nat.sub_add_cancel hle
    generalize lines.length - oR = s at e2 ⊢
    have m1 := Nat.min_le_left s hd
    have m2 := Nat.min_le_right s hd
    generalize min s hd = sh at m1 m2 ⊢
    have e3 := Nat.sub_add_cancel m2
    generalize hd - sh = g at e3 ⊢
    refine ⟨by omega, fun hc => ?_⟩
    rw [if_pos hc]
    omega

/-- phase 2 keeps the rows it keeps: old rows, at most a wrap mark cleared, and blank rows -/
theorem rowsOnlyLines_widths {c : Nat} {lines : List Line} (hw : ∀ l ∈ lines, l.len = c) (oR r row : Nat) :
    ∀ l ∈ Spec.C10.rowsOnlyLines lines c oR r row, l.len = c := by
  rcases rowsOnlyLines_shape lines c oR r row with ⟨k, e⟩ | ⟨-, e⟩ <;> rw [e]
  · exact widths_append_blank _ _ hw
  · intro x hx
    obtain ⟨l, hl, e⟩ := Lemmas.mem_unwrapLast hx
    exact (congrArg List.length e).trans (hw l (List.mem_of_mem_take hl))

theorem rowsOnlyLines_lastUnwrapped {lines : List Line} (hlu : lastUnwrapped lines = true) (c oR r row : Nat) :
    lastUnwrapped (Spec.C10.rowsOnlyLines lines c oR r row) = true := by
  rcases rowsOnlyLines_shape lines c oR r row with ⟨k, e⟩ | ⟨-, e⟩ <;> rw [e]
  · exact lastUnwrapped_pad hlu _ _ _
  · exact Lemmas.lastUnwrapped_unwrapLast _

theorem rsStep1_ok (lines : List Line) (oldCols oldRows newCols : Nat) (cursor logPos : Nat × Nat)
    (hc : 1 ≤ newCols) (hr : 1 ≤ oldRows) (hlen : oldRows ≤ lines.length)
    (hw : ∀ l ∈ lines, l.len = oldCols) (hlu : lastUnwrapped lines = true) :
    ∃ ls cur' oR, rsStep1 lines oldCols oldRows newCols cursor logPos = some (ls, cur', oR) ∧
      (∀ l ∈ ls, l.len = newCols) ∧ lastUnwrapped ls = true ∧ oR ≤ ls.length ∧ 1 ≤ oR ∧
      (if newCols = oldCols then ls = lines ∧ cur' = cursor ∧ oR = oldRows
       else cur'.1 < newCols ∧ cur'.2 < oR) := by
  rw [rsStep1_eq]
  by_cases hcc : newCols = oldCols
  · rw [if_pos hcc]
    exact ⟨lines, cursor, oldRows, rfl, hcc ▸ hw, hlu, hlen, hr, (if_pos hcc).mpr ⟨rfl, rfl, rfl⟩⟩
  · rw [if_neg hcc]
    obtain ⟨out, he, hwo, -, hluo⟩ := reflow_ok lines newCols hc hlu
    rw [he, Option.bind_some]
    dsimp only
    generalize hls : out ++ List.replicate (oldRows - out.length) (Line.blank newCols Pen.default) = ls
    have hls_w : ∀ l ∈ ls, l.len = newCols := hls ▸ widths_append_blank _ _ hwo
    have hls_lu : lastUnwrapped ls = true := hls ▸ lastUnwrapped_pad hluo _ _ _
    have hls_len : oldRows ≤ ls.length := by
      rw [← hls, List.length_append, List.length_replicate]; omega
    have hls_ne : ls ≠ [] := List.ne_nil_of_length_pos (Nat.lt_of_lt_of_le hr hls_len)
    obtain ⟨rc, rr, hrel, hrc, hrr1, hrr2⟩ :=
      relativePosition_ok ls logPos newCols oldRows hls_ne hc hls_len hls_lu
    rw [hrel, Option.map_some]
    refine ⟨_, _, _, rfl, hls_w, hls_lu, ?_, ?_, (if_neg hcc).mpr ⟨hrc, ?_⟩⟩
    · omega
    · omega
    · show rr.toNat < oldRows + (-rr).toNat
      omega

theorem rsStep2_ok (c r : Nat) (lines : List Line) (cursor : Nat × Nat) (oR : Nat)
    (hr : 1 ≤ r) (hw : ∀ l ∈ lines, l.len = c) (hlu : lastUnwrapped lines = true)
    (hlen : oR ≤ lines.length) (hoR : 1 ≤ oR) (hcur : cursor.2 < oR ∨ cursor.2 < r) :
    ∃ ls cur', rsStep2 c r lines cursor oR = some (ls, cur') ∧ (∀ l ∈ ls, l.len = c) ∧
      lastUnwrapped ls = true ∧ r ≤ ls.length ∧ cur'.1 = cursor.1 ∧ cur'.2 < r := by
  have hex : r < oR → min (oR - r) (oR - 1 - cursor.2) < lines.length := fun _ =>
    Nat.lt_of_le_of_lt (Nat.min_le_left _ _) (Nat.lt_of_lt_of_le (Nat.sub_lt hoR hr) hlen)
  have habs := rowsOnly_abs (c := c) (cur := cursor) (fun _ : r < oR => hr) hlen
  rw [rsStep2_eq, if_pos fun h1 => ⟨hr, hcur.elim id fun h => Nat.lt_trans h h1, .inr (hex h1)⟩]
  refine ⟨_, _, rfl, rowsOnlyLines_widths hw _ _ _, rowsOnlyLines_lastUnwrapped hlu _ _ _ _, habs.1,
    rowsOnlyCur_fst _ _ _ _, ?_⟩
  by_cases hc : cursor.2 < oR
  · exact (habs.2 hc).1
  · -- the cursor is below the old screen and on the new one: the screen grows, the cursor stays
    have hr' : ¬ r < oR := fun h => hc (Nat.lt_trans (hcur.resolve_left hc) h)
    rw [rowsOnlyCur, if_neg hr', if_neg hc]
    exact hcur.resolve_left hc

end Buffer

/-- at an unchanged geometry `resize` is the identity on the lines -/
theorem Frame.resize_same (b : Buffer) (cur : Nat × Nat) (hv : b.view.length = b.rows) :
    b.resize b.cols b.rows cur = some ({ b with trimNeeded := true }, cur) := by
  unfold Buffer.resize
  have hl := Buffer.lines_length hv
  have h1 : csub b.lines.length b.rows = some b.sb.length := by
    unfold csub; rw [hl]; simp
  simp only [Buffer.logicalPosition, h1, ne_eq, not_true_eq_false, if_false, Nat.lt_irrefl]
  simp [Buffer.lines_take_sb, Buffer.lines_drop_sb]

end Avt
