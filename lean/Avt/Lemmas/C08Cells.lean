/-
  Avt.Lemmas.C08Cells — every cell stored by a printing / blanking function carries the current pen:
  a predicate `Q` on cells that holds for every cell carrying the pen and for every cell of the view
  still holds for every cell of the view afterwards.  The scrollback only ever receives lines of the
  view, so there `Q ∨ W` is kept for any `W` (`BufSt`).  The oracle's `noForeignCells` is the case
  "carries the pen or was in the view" (`noForeignCells_iff`).  The second half finds the cell a `print`
  stores where the oracle looks for it (`printedCell`): `printCellPhase_cell` for the put stage,
  `print_cell`, and `rep_cell` for the last of REP's prints; `Geo` is what drawing keeps of the width and
  of the two modes that column depends on.
-/
import Avt.Spec.C08
import Avt.Lemmas.Prim
import Avt.Lemmas.CursorEq
import Avt.Lemmas.C15Buffer

namespace Avt.Spec.C08
open Avt

def LineOK (Q : Cell → Prop) (l : Line) : Prop := ∀ c ∈ l.cells, Q c
def AllCells (Q : Cell → Prop) (v : List Line) : Prop := ∀ l ∈ v, LineOK Q l

variable {Q : Cell → Prop}

theorem blank_ok {cols : Nat} {pen : Pen} (hb : Q (Cell.blank pen)) : LineOK Q (Line.blank cols pen) := by
  intro c hc
  simp only [Line.blank, List.mem_replicate] at hc
  rw [hc.2]; exact hb

theorem AllCells.imp {Q' : Cell → Prop} {v : List Line} (hq : ∀ c, Q c → Q' c) (h : AllCells Q v) :
    AllCells Q' v := fun l hl c hc => hq c (h l hl c hc)

theorem allCells_nil : AllCells Q [] := by
  intro l hl; cases hl

theorem allCells_cons {l : Line} {ls : List Line} (h1 : LineOK Q l) (h2 : AllCells Q ls) :
    AllCells Q (l :: ls) := by
  intro x hx
  rcases List.mem_cons.1 hx with hx | hx
  · rw [hx]; exact h1
  · exact h2 x hx

theorem allCells_head {l : Line} {ls : List Line} (h : AllCells Q (l :: ls)) : LineOK Q l :=
  h l (List.mem_cons_self)

theorem allCells_tail {l : Line} {ls : List Line} (h : AllCells Q (l :: ls)) : AllCells Q ls :=
  fun x hx => h x (List.mem_cons_of_mem _ hx)

theorem allCells_append {a b : List Line} (h1 : AllCells Q a) (h2 : AllCells Q b) :
    AllCells Q (a ++ b) := by
  intro x hx
  rcases List.mem_append.1 hx with hx | hx
  · exact h1 x hx
  · exact h2 x hx

theorem allCells_take {a : List Line} (n : Nat) (h : AllCells Q a) : AllCells Q (a.take n) :=
  fun x hx => h x (List.mem_of_mem_take hx)

theorem allCells_drop {a : List Line} (n : Nat) (h : AllCells Q a) : AllCells Q (a.drop n) :=
  fun x hx => h x (List.mem_of_mem_drop hx)

theorem allCells_replicate {n : Nat} {l : Line} (h : LineOK Q l) : AllCells Q (List.replicate n l) := by
  intro x hx
  rw [(List.mem_replicate.1 hx).2]; exact h

theorem lineClear_ok {l l' : Line} {a b : Nat} {pen : Pen} (hb : Q (Cell.blank pen)) (hl : LineOK Q l)
    (h : l.clear a b pen = some l') : LineOK Q l' := by
  unfold Line.clear at h
  obtain ⟨cs, hf, rfl⟩ := Option.map_eq_some_iff.mp h
  intro c hc
  rcases fillRange_mem hf hc with h | h
  · rw [h]; exact hb
  · exact hl c h

theorem linePrint_ok {l l' : Line} {col : Nat} {cell : Cell} (hc : Q cell) (hl : LineOK Q l)
    (h : l.print col cell = some l') : LineOK Q l' := by
  unfold Line.print at h
  obtain ⟨cs, hf, rfl⟩ := Option.map_eq_some_iff.mp h
  intro c hc'
  rcases setAt_mem hf hc' with h | h
  · rw [h]; exact hc
  · exact hl c h

theorem lineInsert_ok {l l' : Line} {col n : Nat} {cell : Cell} (hc : Q cell) (hl : LineOK Q l)
    (h : l.insert col n cell = some l') : LineOK Q l' := by
  unfold Line.insert at h
  cases hr : rotRRange l.cells col l.cells.length n with
  | none => simp [hr] at h
  | some cs =>
    simp only [hr] at h
    obtain ⟨cs', hf, rfl⟩ := Option.map_eq_some_iff.mp h
    intro c hc'
    rcases fillRange_mem hf hc' with h | h
    · rw [h]; exact hc
    · exact hl c (rotRRange_mem hr h)

theorem lineDelete_ok {l l' : Line} {col n : Nat} {pen : Pen} (hb : Q (Cell.blank pen)) (hl : LineOK Q l)
    (h : l.delete col n pen = some l') : LineOK Q l' := by
  unfold Line.delete at h
  cases hr : rotLRange l.cells col l.cells.length n with
  | none => simp [hr] at h
  | some cs =>
    simp only [hr] at h
    cases hs : csub cs.length n with
    | none => simp [hs] at h
    | some start =>
      simp only [hs] at h
      obtain ⟨cs', hf, rfl⟩ := Option.map_eq_some_iff.mp h
      intro c hc'
      rcases fillRange_mem hf hc' with h | h
      · rw [h]; exact hb
      · exact hl c (rotLRange_mem hr h)

theorem lineClear_get {l l' : Line} {a b : Nat} {pen : Pen} (h : l.clear a b pen = some l')
    (i : Nat) (h1 : a ≤ i) (h2 : i < b) : l'.cells[i]? = some (Cell.blank pen) := by
  unfold Line.clear at h
  obtain ⟨cs, hf, rfl⟩ := Option.map_eq_some_iff.mp h
  exact (fillRange_getElem? hf).trans (if_pos ⟨h1, h2⟩)

theorem updRow_ok {b b' : Buffer} {row : Nat} {f : Line → Option Line} (hv : AllCells Q b.view)
    (hf : ∀ l l', LineOK Q l → f l = some l' → LineOK Q l') (h : b.updRow row f = some b') :
    AllCells Q b'.view := by
  unfold Buffer.updRow at h
  obtain ⟨v, hm, rfl⟩ := Option.map_eq_some_iff.mp h
  intro l hl
  rcases modAtM_mem hm hl with h | ⟨x, hx, hfx⟩
  · exact hv l h
  · exact hf x l (hv x hx) hfx

theorem bufPrint_ok {b b' : Buffer} {col row : Nat} {cell : Cell} (hc : Q cell) (hv : AllCells Q b.view)
    (h : b.print col row cell = some b') : AllCells Q b'.view :=
  updRow_ok hv (fun _ _ hl hp => linePrint_ok hc hl hp) h

theorem bufWrap_ok {b b' : Buffer} {row : Nat} (hv : AllCells Q b.view)
    (h : b.wrap row = some b') : AllCells Q b'.view :=
  updRow_ok hv (fun l l' hl hp => by cases hp; exact hl) h

theorem bufUnwrap_ok {b b' : Buffer} {row : Nat} (hv : AllCells Q b.view)
    (h : b.unwrapRow row = some b') : AllCells Q b'.view :=
  updRow_ok hv (fun l l' hl hp => by cases hp; exact hl) h

theorem bufInsert_ok {b b' : Buffer} {col row n : Nat} {cell : Cell} (hc : Q cell)
    (hv : AllCells Q b.view) (h : b.insert col row n cell = some b') : AllCells Q b'.view := by
  unfold Buffer.insert at h
  cases hs : csub b.cols col with
  | none => simp [hs] at h
  | some room =>
    simp only [hs] at h
    exact updRow_ok hv (fun _ _ hl hp => lineInsert_ok hc hl hp) h

theorem bufDelete_ok {b b' : Buffer} {col row n : Nat} {pen : Pen} (hb : Q (Cell.blank pen))
    (hv : AllCells Q b.view) (h : b.delete col row n pen = some b') : AllCells Q b'.view := by
  unfold Buffer.delete at h
  cases hs : csub b.cols col with
  | none => simp [hs] at h
  | some room =>
    simp only [hs] at h
    refine updRow_ok hv (fun l l' hl hp => ?_) h
    obtain ⟨l1, hd, rfl⟩ := Option.map_eq_some_iff.mp hp
    exact fun c hc => lineDelete_ok hb hl hd c hc

theorem bufClear_ok {b b' : Buffer} {a c : Nat} {pen : Pen} (hb : Q (Cell.blank pen))
    (hv : AllCells Q b.view) (h : b.clear a c pen = some b') : AllCells Q b'.view := by
  unfold Buffer.clear at h
  obtain ⟨v, hf, rfl⟩ := Option.map_eq_some_iff.mp h
  intro l hl
  rcases fillRange_mem hf hl with h | h
  · rw [h]; exact blank_ok hb
  · exact hv l h

theorem clearMap_ok {l l' : Line} {a b : Nat} {pen : Pen} {g : Line → Line}
    (hg : ∀ x, (g x).cells = x.cells) (hb : Q (Cell.blank pen)) (hl : LineOK Q l)
    (h : (l.clear a b pen).map g = some l') : LineOK Q l' := by
  obtain ⟨l1, hc, rfl⟩ := Option.map_eq_some_iff.mp h
  intro c hc'
  rw [hg] at hc'
  exact lineClear_ok hb hl hc c hc'

theorem bufErase_ok {b b' : Buffer} {col row : Nat} {mode : Buffer.EraseMode} {pen : Pen}
    (hb : Q (Cell.blank pen)) (hv : AllCells Q b.view) (h : b.erase col row mode pen = some b') :
    AllCells Q b'.view := by
  unfold Buffer.erase at h
  cases mode with
  | nextChars n =>
    simp only at h
    cases hs : csub b.cols col with
    | none => simp [hs] at h
    | some room =>
      simp only [hs] at h
      refine updRow_ok hv (fun l l' hl hp => ?_) h
      exact clearMap_ok (g := fun l' => if (col + min n room == b.cols) = true then { l' with wrapped := false } else l')
        (fun x => by split <;> rfl) hb hl hp
  | fromCursorToEndOfView =>
    simp only at h
    cases h1 : b.updRow row (fun l => ({ l with wrapped := false } : Line).clear col b.cols pen) with
    | none => simp [h1] at h
    | some b1 =>
      simp only [h1] at h
      refine bufClear_ok hb (updRow_ok hv (fun l l' hl hp => ?_) h1) h
      exact lineClear_ok (l := { l with wrapped := false }) hb hl hp
  | fromStartOfViewToCursor =>
    simp only at h
    cases h1 : b.updRow row (fun l => l.clear 0 (min (col + 1) b.cols) pen) with
    | none => simp [h1] at h
    | some b1 =>
      simp only [h1] at h
      exact bufClear_ok hb (updRow_ok hv (fun l l' hl hp => lineClear_ok hb hl hp) h1) h
  | wholeView => exact bufClear_ok hb hv h
  | fromCursorToEndOfLine =>
    exact updRow_ok hv (fun l l' hl hp => clearMap_ok (g := fun l' => { l' with wrapped := false })
      (fun _ => rfl) hb hl hp) h
  | fromStartOfLineToCursor =>
    exact updRow_ok hv (fun l l' hl hp => lineClear_ok hb hl hp) h
  | wholeLine =>
    exact updRow_ok hv (fun l l' hl hp => clearMap_ok (g := fun l' => { l' with wrapped := false })
      (fun _ => rfl) hb hl hp) h


/-! ### the scrollback: only `scrollUp` from row 0 adds to it -/

theorem updRow_sb {b b' : Buffer} {row : Nat} {f : Line → Option Line} (h : b.updRow row f = some b') :
    b'.sb = b.sb := by
  unfold Buffer.updRow at h
  obtain ⟨v, _, rfl⟩ := Option.map_eq_some_iff.mp h
  rfl

theorem bufClear_sb {b b' : Buffer} {a c : Nat} {pen : Pen} (h : b.clear a c pen = some b') :
    b'.sb = b.sb := by
  unfold Buffer.clear at h
  obtain ⟨v, _, rfl⟩ := Option.map_eq_some_iff.mp h
  rfl

theorem bufInsert_sb {b b' : Buffer} {col row n : Nat} {cell : Cell} (h : b.insert col row n cell = some b') :
    b'.sb = b.sb := by
  unfold Buffer.insert at h
  split at h
  · cases h
  · exact updRow_sb h

theorem bufDelete_sb {b b' : Buffer} {col row n : Nat} {pen : Pen} (h : b.delete col row n pen = some b') :
    b'.sb = b.sb := by
  unfold Buffer.delete at h
  split at h
  · cases h
  · exact updRow_sb h

theorem bufErase_sb {b b' : Buffer} {col row : Nat} {mode : Buffer.EraseMode} {pen : Pen}
    (h : b.erase col row mode pen = some b') : b'.sb = b.sb := by
  unfold Buffer.erase at h
  cases mode with
  | nextChars n =>
    simp only at h
    split at h
    · cases h
    · exact updRow_sb h
  | fromCursorToEndOfView | fromStartOfViewToCursor =>
    simp only at h
    split at h
    · cases h
    · rename_i b1 h1
      rw [bufClear_sb h, updRow_sb h1]
  | wholeView => exact bufClear_sb h
  | fromCursorToEndOfLine | fromStartOfLineToCursor | wholeLine => exact updRow_sb h

theorem bufScrollDown_sb {b b' : Buffer} {s e n : Nat} {pen : Pen}
    (h : b.scrollDown s e n pen = some b') : b'.sb = b.sb := by
  obtain ⟨m, v, b1, b2, -, -, h1, h2, h3⟩ := Buffer.scrollDown_cases h
  have e2 : b2.sb = b1.sb := by
    split at h2
    · exact updRow_sb h2
    · cases h2; rfl
  rw [updRow_sb h3, e2, bufClear_sb (b := { b with view := v }) h1]

/-- `Q` on every cell of the view; on the scrollback `Q` or `W` -/
def BufSt (Q W : Cell → Prop) (b : Buffer) : Prop := AllCells (fun c => Q c ∨ W c) b.sb ∧ AllCells Q b.view

variable {W : Cell → Prop}

theorem BufSt.view {b b' : Buffer} (hs : BufSt Q W b) (e : b'.sb = b.sb) (hv : AllCells Q b'.view) :
    BufSt Q W b' := ⟨by rw [e]; exact hs.1, hv⟩

/-- the lines `scrollUp` adds to the view are blanks carrying the pen, those it adds to the scrollback
    are lines of the view or such blanks -/
theorem bufScrollUp_ok {b b' : Buffer} {s e n : Nat} {pen : Pen} (hb : Q (Cell.blank pen))
    (hs : BufSt Q W b) (h : b.scrollUp s e n pen = some b') : BufSt Q W b' := by
  obtain ⟨m, b1, -, hb1, h⟩ := Buffer.scrollUp_cases h
  have h1 : BufSt Q W b1 := by
    split at hb1
    · exact hs.view (updRow_sb hb1) (bufUnwrap_ok hs.2 hb1)
    · cases hb1; exact hs
  -- from row 0: `m` lines of `all` go to the scrollback, the rest is the view
  have ext : ∀ {all : List Line}, AllCells Q all →
      BufSt Q W { b1 with sb := b1.sb ++ all.take m, view := all.drop m, trimNeeded := true } :=
    fun ha => ⟨allCells_append h1.1 (allCells_take _ (ha.imp fun _ => .inl)), allCells_drop _ ha⟩
  rcases h with ⟨-, -, _, rfl, rfl⟩ | ⟨-, -, _, rfl, rfl⟩ | ⟨b2, v, b3, hb2, hrot, hb3, rfl⟩
  · exact ext (allCells_append h1.2 (allCells_replicate (blank_ok hb)))
  · exact ext (allCells_append (allCells_append
      (allCells_take _ h1.2) (allCells_replicate (blank_ok hb))) (allCells_drop _ h1.2))
  · refine h1.view (b' := { b3 with trimNeeded := true })
      ((bufClear_sb (b := { b2 with view := v }) hb3).trans (show b2.sb = b1.sb from updRow_sb hb2)) ?_
    show AllCells Q b3.view
    refine bufClear_ok hb (b := { b2 with view := v }) (fun l hl => ?_) hb3
    exact bufUnwrap_ok h1.2 hb2 l (rotLRange_mem hrot hl)

theorem bufScrollDown_ok {b b' : Buffer} {s e n : Nat} {pen : Pen} (hb : Q (Cell.blank pen))
    (hv : AllCells Q b.view) (h : b.scrollDown s e n pen = some b') : AllCells Q b'.view := by
  obtain ⟨m, v, b1, b2, -, hrot, h1, h2, h3⟩ := Buffer.scrollDown_cases h
  have hv1 : AllCells Q b1.view :=
    bufClear_ok hb (b := { b with view := v }) (fun l hl => hv l (rotRRange_mem hrot hl)) h1
  have hv2 : AllCells Q b2.view := by
    split at h2
    · exact bufUnwrap_ok hv1 h2
    · cases h2; exact hv1
  exact bufUnwrap_ok hv2 h3

theorem bufPrint_get {b b' : Buffer} {col row : Nat} {cell : Cell} (h : b.print col row cell = some b') :
    ∃ l, b'.view[row]? = some l ∧ l.cells[col]? = some cell := by
  unfold Buffer.print Buffer.updRow at h
  obtain ⟨v, hv, rfl⟩ := Option.map_eq_some_iff.mp h
  obtain ⟨x, y, _, hy, hg⟩ := modAtM_get hv
  refine ⟨y, hg, ?_⟩
  unfold Line.print at hy
  obtain ⟨cs, hcs, rfl⟩ := Option.map_eq_some_iff.mp hy
  exact (setAt_getElem? hcs).trans (if_pos rfl)

theorem bufInsert_get {b b' : Buffer} {col row n : Nat} {cell : Cell} (hn : 1 ≤ n) (hc : col < b.cols)
    (h : b.insert col row n cell = some b') :
    ∃ l, b'.view[row]? = some l ∧ l.cells[col]? = some cell := by
  unfold Buffer.insert at h
  split at h
  · cases h
  · rename_i room hroom
    unfold Buffer.updRow at h
    obtain ⟨v, hv, rfl⟩ := Option.map_eq_some_iff.mp h
    obtain ⟨x, y, _, hy, hg⟩ := modAtM_get hv
    refine ⟨y, hg, ?_⟩
    unfold Line.insert at hy
    split at hy
    · cases hy
    · rename_i cs _
      obtain ⟨cs', hcs, rfl⟩ := Option.map_eq_some_iff.mp hy
      have hr : room = b.cols - col := (csub_eq_some_iff.1 hroom).2
      exact (fillRange_getElem? hcs).trans (if_pos ⟨Nat.le_refl _, by omega⟩)

/-- a call whose ink satisfies `Q` keeps the width and the cells: the view receives the ink, the
    scrollback lines of the view -/
theorem run_bufSt {op : BufOp} {b b' : Buffer} (hq : ∀ c, op.ink = some c → Q c)
    (h : op.run b = some b') : b'.cols = b.cols ∧ (BufSt Q W b → BufSt Q W b') := by
  refine ⟨(C15.run_chg h).cols, fun hs => ?_⟩
  cases op
  · exact hs.view (updRow_sb h) (bufPrint_ok (hq _ rfl) hs.2 h)
  · exact hs.view (bufInsert_sb h) (bufInsert_ok (hq _ rfl) hs.2 h)
  · exact hs.view (bufDelete_sb h) (bufDelete_ok (hq _ rfl) hs.2 h)
  · exact hs.view (bufErase_sb h) (bufErase_ok (hq _ rfl) hs.2 h)
  · exact bufScrollUp_ok (hq _ rfl) hs h
  · exact hs.view (bufScrollDown_sb h) (bufScrollDown_ok (hq _ rfl) hs.2 h)
  · exact hs.view (updRow_sb h) (bufWrap_ok hs.2 h)

/-- the pen is `pen` and the cells of the active buffer satisfy `Q` (`Q ∨ W` in the scrollback) -/
def St (Q W : Cell → Prop) (pen : Pen) (t : Terminal) : Prop := t.pen = pen ∧ BufSt Q W t.buffer

/-- what a drawing function keeps of the geometry and the modes -/
structure Geo (t t' : Terminal) : Prop where
  cols : t'.cols = t.cols
  autoWrap : t'.autoWrapMode = t.autoWrapMode
  bcols : t'.buffer.cols = t.buffer.cols
  insert : t'.insertMode = t.insertMode

theorem Geo.refl (t : Terminal) : Geo t t := ⟨rfl, rfl, rfl, rfl⟩
theorem Geo.trans {a b c : Terminal} (h1 : Geo a b) (h2 : Geo b c) : Geo a c :=
  ⟨h2.cols.trans h1.cols, h2.autoWrap.trans h1.autoWrap, h2.bcols.trans h1.bcols, h2.insert.trans h1.insert⟩

theorem paint_st {K : BufOp → Prop} {pen : Pen} {t t' : Terminal} (h : Paint K t t')
    (hk : ∀ op, K op → ∀ c, op.ink = some c → Q c) : Geo t t' ∧ (St Q W pen t → St Q W pen t') := by
  induction h with
  | refl t => exact ⟨.refl t, id⟩
  | trans _ _ ih1 ih2 => exact ⟨ih1.1.trans ih2.1, ih2.2 ∘ ih1.2⟩
  | move m =>
    exact ⟨⟨m .cols rfl, m .autoWrapMode rfl, by rw [m .buffer rfl], m .insertMode rfl⟩,
      fun hs => ⟨Eq.trans (m .pen rfl) hs.1, by rw [m .buffer rfl]; exact hs.2⟩⟩
  | edit op k hb _ =>
    have := run_bufSt (W := W) (hk op k) hb
    exact ⟨⟨rfl, rfl, this.1, rfl⟩, fun hs => ⟨hs.1, this.2 hs.2⟩⟩
  | flag => exact ⟨⟨rfl, rfl, rfl, rfl⟩, id⟩

theorem ops_ink_pen {t : Terminal} {f : Function} (hw : writesWithPen f = true) {op : BufOp}
    (ho : f.ops t op) {c : Cell} (hc : op.ink = some c) : c.pen = t.pen := by
  -- the patterns follow the clauses of `Function.ops` and the four disjuncts of `Paint.printOps` (Lemmas/Paint)
  have hp : ∀ {x : Cell}, x.pen = t.pen → Paint.printOps t.topMargin t.bottomMargin t.pen x op →
      c.pen = t.pen := by
    rintro x hx (rfl | ⟨_, rfl⟩ | ⟨_, _, rfl⟩ | ⟨_, _, rfl⟩) <;> cases hc <;> first | rfl | exact hx
  cases f <;> first | cases hw | skip
  case print => obtain ⟨_, _, _, ho⟩ := ho; exact hp rfl ho
  case rep => obtain ⟨_, _, _, _, _, _, _, ho⟩ := ho; exact hp rfl ho
  case dch => obtain ⟨_, rfl⟩ := ho; cases hc; rfl
  case ech | ed | el => obtain ⟨_, rfl⟩ := ho; cases hc; rfl
  all_goals cases ho; cases hc; rfl

theorem writes_ok {pen : Pen} {t t' : Terminal} {f : Function} (hw : writesWithPen f = true)
    (hQ : ∀ c, Q ⟨c, pen⟩) (hs : St Q W pen t) (h : t.execute f = some t') : St Q W pen t' :=
  (paint_st (Paint.execute (by cases f <;> first | rfl | cases hw) h) fun op ho c hc => by
    have := ops_ink_pen hw ho hc
    rw [hs.1] at this
    cases c; cases this; exact hQ _).2 hs

theorem printWrapPhase_off {t t1 : Terminal} (haw : t.autoWrapMode = false)
    (h : t.printWrapPhase = some t1) : t1 = t := by
  unfold Terminal.printWrapPhase at h
  rw [haw] at h
  cases h; rfl

/-- the put stage of `print`: the cell sits in the cursor's row, in the last column when the cursor
    was at the right edge (the cursor then moves past it only with auto-wrap on), else under the old
    cursor (which moves one to the right) -/
theorem printCellPhase_cell {t t2 : Terminal} {cell : Cell} (hg : t.buffer.cols = t.cols)
    (h : t.printCellPhase cell = some t2) :
    ∃ l, t2.buffer.view[t2.cursor.row]? = some l
      ∧ l.cells[if t.cursor.col + 1 ≥ t.cols then t.cols - 1 else t.cursor.col]? = some cell
      ∧ t2.cursor.col = (if t.cursor.col + 1 ≥ t.cols
                         then (if t.autoWrapMode then t.cols else t.cursor.col)
                         else t.cursor.col + 1) := by
  unfold Terminal.printCellPhase at h
  simp only at h
  split at h
  · rename_i hge
    split at h
    · cases h
    · rename_i c1 hc1
      obtain ⟨_, rfl⟩ := csub_eq_some_iff.1 hc1
      split at h
      · cases h
      · rename_i b hb
        obtain ⟨l, hl1, hl2⟩ := bufPrint_get hb
        rw [if_pos hge, if_pos hge]
        split at h
        · rename_i haw
          cases h
          exact ⟨l, hl1, hl2, (if_pos haw).symm⟩
        · rename_i haw
          cases h
          exact ⟨l, hl1, hl2, (if_neg haw).symm⟩
  · rename_i hlt
    split at h
    · cases h
    · rename_i b hb
      cases h
      rw [if_neg hlt, if_neg hlt]
      have : ∃ l, b.view[t.cursor.row]? = some l ∧ l.cells[t.cursor.col]? = some cell := by
        split at hb
        · exact bufInsert_get (Nat.le_refl 1) (by rw [hg]; omega) hb
        · exact bufPrint_get hb
      obtain ⟨l, hl1, hl2⟩ := this
      exact ⟨l, hl1, hl2, rfl⟩

theorem Geo.of_paint {K : BufOp → Prop} {t t' : Terminal} (h : Paint K t t') : Geo t t' :=
  (paint_st (Q := fun _ => True) (W := fun _ => True) (pen := t.pen) h fun _ _ _ _ => trivial).1

theorem print_geo {t t' : Terminal} {ch : Nat} (h : t.print ch = some t') : Geo t t' :=
  .of_paint (Paint.print (K := fun _ => True) (fun _ _ _ _ _ => trivial) h)

/-- the cell a single `print` stores carries the pen (and sits where the oracle looks for it) -/
theorem print_cell {t t' : Terminal} {ch : Nat} (hg : t.buffer.cols = t.cols) (h : t.print ch = some t') :
    ∃ c, printedCell t t' = some c ∧ c.pen = t.pen := by
  obtain ⟨_, ch', t1, t2, _, h1, h2, h3⟩ := Terminal.print_stages h
  have G : Geo t t1 :=
    .of_paint (Paint.printWrapPhase (K := fun _ => True) (x := ⟨ch', t.pen⟩) (fun _ _ => trivial) h1)
  obtain ⟨l, hl1, hl2, hcol⟩ := printCellPhase_cell (by rw [G.bcols, G.cols]; exact hg) h2
  have hcur : t'.cursor = t2.cursor ∧ t'.buffer = t2.buffer := by
    obtain ⟨d, _, rfl⟩ := Option.map_eq_some_iff.mp h3
    exact ⟨rfl, rfl⟩
  refine ⟨⟨ch', t.pen⟩, ?_, rfl⟩
  unfold printedCell
  rw [hcur.2, hcur.1, hl1]
  simp only
  have hpc : printedCol t t'
      = (if t1.cursor.col + 1 ≥ t1.cols then t1.cols - 1 else t1.cursor.col) := by
    unfold printedCol
    rw [hcur.1, hcol]
    cases haw : t.autoWrapMode with
    | false =>
      have := printWrapPhase_off haw h1
      subst this
      simp only [Bool.not_false, Bool.true_and, decide_eq_true_eq]
      split
      · rfl
      · omega
    | true =>
      simp only [Bool.not_true, Bool.false_and, Bool.false_eq_true, if_false]
      rw [G.autoWrap, haw]
      split <;> simp
  rw [hpc]; exact hl2


theorem print_pen {t t' : Terminal} {ch : Nat} (h : t.print ch = some t') : t'.pen = t.pen :=
  (Paint.print (K := fun _ => True) (fun _ _ _ _ _ => trivial) h).draws .pen rfl

theorem noForeignCells_iff (pen : Pen) (old new : List Line) :
    noForeignCells pen old new = true
      ↔ AllCells (fun c => c.pen = pen ∨ ∃ l0 ∈ old, c ∈ l0.cells) new := by
  simp [noForeignCells, AllCells, LineOK, List.all_eq_true, List.any_eq_true]

theorem printN_last {ch : Nat} : ∀ (k : Nat) {t t' : Terminal}, t.printN ch (k + 1) = some t' →
    ∃ tk, Geo t tk ∧ tk.pen = t.pen ∧ tk.print ch = some t'
  | 0, t, t', h => by
    unfold Terminal.printN at h
    split at h
    · cases h
    · rename_i t1 h1
      unfold Terminal.printN at h
      cases h
      exact ⟨t, Geo.refl t, rfl, h1⟩
  | k + 1, t, t', h => by
    unfold Terminal.printN at h
    split at h
    · cases h
    · rename_i t1 h1
      obtain ⟨tk, g, hp, hl⟩ := printN_last k h
      exact ⟨tk, (print_geo h1).trans g, hp.trans (print_pen h1), hl⟩

/-- the last cell REP stores carries the current pen (auto-wrap on: it sits left of the new cursor) -/
theorem rep_cell {t t' : Terminal} {n : Nat} (hg : t.buffer.cols = t.cols) (haw : t.autoWrapMode = true)
    (hc : t.cursor.col > 0) (h : t.rep n = some t') :
    ∃ c, printedCell t t' = some c ∧ c.pen = t.pen := by
  unfold Terminal.rep at h
  rw [if_pos hc] at h
  split at h
  · cases h
  · split at h
    · cases h
    · rename_i line _ cell _
      obtain ⟨k, hk⟩ := Nat.exists_eq_add_one.2 (asUsize_pos n (Nat.le_refl 1))
      rw [hk] at h
      obtain ⟨tk, g, hp, hl⟩ := printN_last k h
      have hgk : tk.buffer.cols = tk.cols := by rw [g.bcols, g.cols]; exact hg
      obtain ⟨c, hc1, hc2⟩ := print_cell hgk hl
      refine ⟨c, ?_, hc2.trans hp⟩
      have hawk : tk.autoWrapMode = true := g.autoWrap.trans haw
      have e : printedCol t t' = printedCol tk t' := by
        unfold printedCol
        simp [haw, hawk]
      unfold printedCell at hc1 ⊢
      rw [e]; exact hc1

end Avt.Spec.C08
