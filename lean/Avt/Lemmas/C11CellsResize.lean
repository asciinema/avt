/-
  Avt.Lemmas.C11CellsResize — the cell / pen invariant `CellsInv` along `resize`, `reflow`, `gc`,
  `changes`, `new`, `finish`.

  Resize / reflow only MOVE cells between lines, drop cells, or fill with `Cell.blank Pen.default`,
  so the buffer-level statements hold for an arbitrary cell predicate `Q` with
  `Q (Cell.blank Pen.default)` and need no structural invariant.
-/
import Avt.Lemmas.C11CellsDef
import Avt.Lemmas.Resize
import Avt.Lemmas.InvVt

namespace Avt
namespace Lemmas.C11
open Avt.Spec.C11 Avt.Spec.C08

section Lines
variable {Q : Cell → Prop}

theorem lineTrim_ok {l : Line} (hl : LineOK Q l) : LineOK Q l.trim := by
  intro c hc
  exact hl c (List.mem_of_mem_take hc)

theorem lineExpand_ok {l l' : Line} {len : Nat} {pen : Pen} (hb : Q (Cell.blank pen)) (hl : LineOK Q l)
    (h : l.expand len pen = some l') : LineOK Q l' := by
  obtain ⟨-, rfl⟩ := Line.expand_eq_some_iff.1 h
  intro c hc
  simp only [List.mem_append, List.mem_replicate] at hc
  rcases hc with hc | hc
  · exact hl c hc
  · rw [hc.2]; exact hb

theorem optLineOK_none : ∀ l, (none : Option Line) = some l → LineOK Q l := by
  intro l h; cases h

theorem optLineOK_some {x : Line} (hx : LineOK Q x) : ∀ l, some x = some l → LineOK Q l := by
  intro l h; cases h; exact hx

theorem donor_ok {o : Line} (ho : LineOK Q o) : LineOK Q (Line.donor o) := by
  unfold Line.donor; split
  · exact lineTrim_ok ho
  · exact ho

theorem lineContract_ok {l : Line} {len : Nat} (hl : LineOK Q l) :
    LineOK Q (l.contract len).1 ∧ ∀ r, (l.contract len).2 = some r → LineOK Q r := by
  have hk : ∀ c ∈ l.keep len, Q c := by
    intro c hc
    unfold Line.keep at hc
    split at hc
    · exact hl c (List.mem_of_mem_take hc)
    · exact hl c hc
  have ht : ∀ w, LineOK Q { cells := (l.keep len).take len, wrapped := w } :=
    fun _ c hc => hk c (List.mem_of_mem_take hc)
  rcases Line.contract_cases l len with ⟨-, e⟩ | ⟨-, -, e⟩ | ⟨-, -, e⟩ <;> rw [e]
  · exact ⟨hk, optLineOK_none⟩
  · exact ⟨ht _, optLineOK_none⟩
  · exact ⟨ht _, optLineOK_some (donor_ok fun c hc => hk c (List.mem_of_mem_drop hc))⟩

theorem lineExtend_ok (hQ : Q (Cell.blank Pen.default)) {l other l' : Line} {len : Nat} {e : Bool}
    {r : Option Line} (hl : LineOK Q l) (ho : LineOK Q other)
    (h : l.extend other len = some (l', e, r)) :
    LineOK Q l' ∧ ∀ x, r = some x → LineOK Q x := by
  have hd := donor_ok ho
  have blanks : ∀ k c, c ∈ List.replicate k (Cell.blank Pen.default) → Q c :=
    fun k c hc => (List.mem_replicate.1 hc).2 ▸ hQ
  rcases Line.extend_cases h with ⟨-, rfl, -, rfl⟩ | ⟨-, -, -, rfl, rfl⟩ | ⟨-, -, -, -, rfl, rfl⟩
      | ⟨-, -, -, rfl, k, -, rfl⟩ | ⟨-, -, -, rfl, rfl⟩
  · exact ⟨hl, optLineOK_some ho⟩
  · exact ⟨fun c hc => (List.mem_append.1 hc).elim (hl c) (blanks _ c), optLineOK_some ho⟩
  · exact ⟨fun c hc => (List.mem_append.1 hc).elim (hl c) fun hc => hd c (List.mem_of_mem_take hc),
      optLineOK_some fun c hc => hd c (List.mem_of_mem_drop hc)⟩
  · exact ⟨fun c hc => (List.mem_append.1 hc).elim
      (fun hc => (List.mem_append.1 hc).elim (hl c) (hd c)) (blanks _ c), optLineOK_none⟩
  · exact ⟨fun c hc => (List.mem_append.1 hc).elim (hl c) (ho c), optLineOK_none⟩

theorem allCells_rest {r : Option Line} {it : List Line} (hr : ∀ x, r = some x → LineOK Q x)
    (hi : AllCells Q it) : AllCells Q (r.toList ++ it) := by
  cases r with
  | none => exact hi
  | some x => exact allCells_cons (hr x rfl) hi

theorem step_cells (hQ : Q (Cell.blank Pen.default)) {cols : Nat} {line : Line} {iter : List Line}
    {st : Buffer.Step} (hl : AllCells Q (line :: iter)) (h : Buffer.step cols line iter = some st) :
    AllCells Q st.lines := by
  have hline := allCells_head hl
  have hi := allCells_tail hl
  rcases Buffer.step_cases h with ⟨-, e⟩ | ⟨-, e⟩ | ⟨-, -, l', he, e⟩ | ⟨-, nx, it, l', em, r, rfl, he, e⟩
      <;> rw [e]
  · have hc := lineContract_ok (len := cols) hline
    exact allCells_cons hc.1 (allCells_rest hc.2 hi)
  · exact hl
  · have hx : LineOK Q l' := lineExpand_ok hQ hline he
    exact allCells_cons (l := { l' with wrapped := false }) hx allCells_nil
  · have hx := lineExtend_ok hQ hline (allCells_head hi) he
    cases em with
    | false => exact allCells_cons hx.1 (allCells_tail hi)
    | true => exact allCells_cons hx.1 (allCells_rest hx.2 (allCells_tail hi))

theorem reflowGo_ok (hQ : Q (Cell.blank Pen.default)) (cols : Nat) :
    ∀ (fuel : Nat) (rest : Option Line) (iter out : List Line),
      Buffer.reflowGo cols fuel rest iter = some out → AllCells Q (rest.toList ++ iter) → AllCells Q out :=
  Buffer.reflowGo_induct (fun rest iter out => AllCells Q (rest.toList ++ iter) → AllCells Q out)
    (fun _ => allCells_nil) (fun _ _ _ ih => ih)
    (fun _ _ _ _ _ _ hs ih hl =>
      have h := step_cells hQ hl hs
      allCells_cons (allCells_head h) (ih (allCells_tail h)))
    (fun _ _ _ _ _ hs ih hl => ih (step_cells hQ hl hs))

theorem reflow_ok (hQ : Q (Cell.blank Pen.default)) {ls out : List Line} {cols : Nat}
    (hl : AllCells Q ls) (h : Buffer.reflow ls cols = some out) : AllCells Q out :=
  reflowGo_ok hQ cols _ _ _ _ (Buffer.reflowGo_of_reflow h) hl

theorem allCells_rowsOnlyLines (hQ : Q (Cell.blank Pen.default)) {lines : List Line} (hl : AllCells Q lines)
    (c oR r row : Nat) : AllCells Q (Spec.C10.rowsOnlyLines lines c oR r row) := by
  rcases Buffer.rowsOnlyLines_shape lines c oR r row with ⟨k, e⟩ | ⟨-, e⟩ <;> rw [e]
  · exact allCells_append hl (allCells_replicate (blank_ok hQ))
  · intro x hx c hc
    obtain ⟨l, hl', e⟩ := Lemmas.mem_unwrapLast hx
    exact hl l (List.mem_of_mem_take hl') c (e ▸ hc)

theorem rsStep1_cells (hQ : Q (Cell.blank Pen.default)) {lines ls : List Line} {cur cur' lp : Nat × Nat}
    {oc orows c o' : Nat} (hl : AllCells Q lines)
    (h : Buffer.rsStep1 lines oc orows c cur lp = some (ls, cur', o')) : AllCells Q ls := by
  rw [Buffer.rsStep1_eq] at h
  split at h
  · cases h; exact hl
  · obtain ⟨out, hr, h⟩ := Option.bind_eq_some_iff.1 h
    obtain ⟨p, -, h⟩ := Option.map_eq_some_iff.1 h
    cases h
    exact allCells_append (reflow_ok hQ hl hr) (allCells_replicate (blank_ok hQ))

theorem rsStep2_cells (hQ : Q (Cell.blank Pen.default)) {lines ls : List Line} {cur cur' : Nat × Nat}
    {oR c r : Nat} (hl : AllCells Q lines)
    (h : Buffer.rsStep2 c r lines cur oR = some (ls, cur')) : AllCells Q ls := by
  rw [Buffer.rsStep2_eq] at h
  split at h
  · cases h; exact allCells_rowsOnlyLines hQ hl _ _ _ _
  · cases h

theorem bufResize_cells (hQ : Q (Cell.blank Pen.default)) {b b' : Buffer} {c r : Nat}
    {cur cur' : Nat × Nat} (hsb : AllCells Q b.sb) (hv : AllCells Q b.view)
    (h : b.resize c r cur = some (b', cur')) : AllCells Q b'.sb ∧ AllCells Q b'.view := by
  obtain ⟨_, _, _, _, _, p⟩ := Buffer.resize_phases h
  have hl2 : AllCells Q b'.lines :=
    p.lines ▸ rsStep2_cells hQ (rsStep1_cells hQ (allCells_append hsb hv) p.step1) p.step2
  exact ⟨fun l hl => hl2 l (List.mem_append_left _ hl), fun l hl => hl2 l (List.mem_append_right _ hl)⟩

theorem bufGc_cells {b : Buffer} (hsb : AllCells Q b.sb) (hv : AllCells Q b.view) :
    AllCells Q b.gc.1.sb ∧ AllCells Q b.gc.1.view := by
  rw [Frame.gc_spec]
  exact ⟨allCells_drop _ hsb, hv⟩

end Lines

/-- `reflow` swaps in the resized active buffer and touches nothing else `CellsInv` sees (it writes
    the saved position, not the saved pen) -/
theorem reflow_cells {t t' : Terminal} (hc : CellsInv t) (h : t.reflow = some t') : CellsInv t' := by
  obtain ⟨_, _, _, _, hres, rfl⟩ := Terminal.reflow_eq_some.1 h
  have hb := bufResize_cells (Q := CellOK) (cellOK_blank penOK_default) hc.sb hc.view hres
  exact { hc with sb := hb.1, view := hb.2 }

theorem resize_cells {t t' : Terminal} {c r : Nat} (hc : CellsInv t) (h : t.resize c r = some t') :
    CellsInv t' := by
  rw [Terminal.resize_eq] at h
  -- `t.resized c r` differs from `t` (size, tab stops, margins), so `hc` is not a proof about it; but `CellsInv`
  -- reads none of these fields, and each of the seven components of `hc` has the type asked for
  exact reflow_cells (t := t.resized c r) { hc with } h

theorem gc_cells {t : Terminal} (hc : CellsInv t) : CellsInv t.gc.1 := by
  have hb := bufGc_cells (Q := CellOK) hc.sb hc.view
  exact { hc with sb := hb.1, view := hb.2 }

/-- only `dirtyLines` differs: component by component, as in `resize_cells` -/
theorem changes_cells {t : Terminal} (hc : CellsInv t) : CellsInv t.changes.1 := { hc with }

theorem new_cells {cols rows : Nat} {lim : Option Nat} {t : Terminal} (h : Terminal.new cols rows lim = some t) :
    CellsInv t := by
  obtain ⟨-, rfl⟩ := Terminal.new_eq_some_iff.1 h
  have b := bufOK_new cols rows lim none (fun _ h => nomatch h)
  have o := bufOK_new cols rows (some 0) none (fun _ h => nomatch h)
  exact ⟨penOK_default, penOK_default, penOK_default, b.1, b.2, o.1, o.2⟩

theorem finish_cells {v : Vt} (hc : CellsInv v.terminal) : CellsInv (Vt.finish v).1.terminal :=
  gc_cells (changes_cells hc)

theorem vtResize_cells {v v' : Vt} {c r : Nat} {ch : Changes} (hc : CellsInv v.terminal)
    (h : v.resize c r = some (v', ch)) : CellsInv v'.terminal := by
  obtain ⟨t, hr, rfl, -⟩ := Vt.resize_terminal h
  exact finish_cells (v := { v with terminal := t }) (resize_cells hc hr)

end Lemmas.C11
end Avt
