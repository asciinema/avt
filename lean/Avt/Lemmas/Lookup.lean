/-
  Avt.Lemmas.Lookup — the lifting lemma for interval-pattern tables.

  A function `f : Nat → α` is `Stable B f` when its value depends on the argument `c` only through the
  truth values of the comparisons `b ≤ c`, `b ∈ B`.  First-match lookup in a list of arms whose
  patterns are closed intervals `[lo, hi]` is stable for the list `B` of all `lo` and `hi + 1`
  occurring in the table; so are range tests, the `c ≥ k ↦ v` pre-mapping of `Parser::feed`, pairs
  and post-compositions of stable functions.  Every `c` agrees (in that sense) with a
  representative in `0 :: B` (the largest endpoint `≤ c`), hence

      (0 :: B).all P = true   →   ∀ c, P c = true                       (`forall_of_reps`)

  for every stable Boolean `P`: a finite check over one representative per cell of the partition of ℕ
  induced by the endpoints proves the statement for ALL code points.  Core Lean only.
-/
import Avt.Model.Parser

namespace Avt.Lookup

/-- `c` and `d` lie in the same cell of the partition induced by `B` -/
def Agree (B : List Nat) (c d : Nat) : Prop := ∀ b ∈ B, (b ≤ c ↔ b ≤ d)

/-- `f` is constant on every cell of the partition induced by `B` -/
def Stable {α : Type} (B : List Nat) (f : Nat → α) : Prop := ∀ c d, Agree B c d → f c = f d

/-- every `c` shares its cell with a representative in `0 :: B`: the largest endpoint `≤ c` -/
theorem exists_rep (B : List Nat) (c : Nat) : ∃ r ∈ 0 :: B, r ≤ c ∧ Agree B c r := by
  induction B with
  | nil => exact ⟨0, List.mem_cons_self, Nat.zero_le c, fun _ h => nomatch h⟩
  | cons b B ih =>
    obtain ⟨r, hr, hrc, ha⟩ := ih
    by_cases hb : b ≤ c ∧ r < b
    · refine ⟨b, List.mem_cons_of_mem _ List.mem_cons_self, hb.1, fun b' hb' => ?_⟩
      rcases List.mem_cons.1 hb' with rfl | hb'
      · exact ⟨fun _ => Nat.le_refl _, fun _ => hb.1⟩
      · have := ha b' hb'
        omega
    · refine ⟨r, ?_, hrc, fun b' hb' => ?_⟩
      · rcases List.mem_cons.1 hr with rfl | hr
        · exact List.mem_cons_self
        · exact List.mem_cons_of_mem _ (List.mem_cons_of_mem _ hr)
      · rcases List.mem_cons.1 hb' with rfl | hb'
        · omega
        · exact ha b' hb'

/-- The lifting lemma: a stable Boolean predicate that holds at `0` and at every endpoint holds
    everywhere. -/
theorem forall_of_reps {B : List Nat} {P : Nat → Bool} (hP : Stable B P)
    (h : (0 :: B).all P = true) : ∀ c, P c = true := by
  intro c
  obtain ⟨r, hr, -, ha⟩ := exists_rep B c
  rw [hP c r ha]
  exact List.all_eq_true.1 h r hr

theorem forall_of_reps_dedup {B : List Nat} {P : Nat → Bool} (hP : Stable B P)
    (h : ((0 :: B).eraseDups).all P = true) : ∀ c, P c = true :=
  forall_of_reps hP (List.all_eq_true.2 fun b hb => List.all_eq_true.1 h b (List.mem_eraseDups.2 hb))

theorem Agree.mono {B B' : List Nat} (h : ∀ b ∈ B, b ∈ B') {c d : Nat} (a : Agree B' c d) : Agree B c d :=
  fun b hb => a b (h b hb)

theorem Stable.mono {α : Type} {B B' : List Nat} {f : Nat → α} (hf : Stable B f) (h : ∀ b ∈ B, b ∈ B') :
    Stable B' f := fun c d a => hf c d (a.mono h)

/-- a stable function that takes the value `x` at `lo` and at every endpoint in `(lo, hi]` takes it on
    all of `[lo, hi]`: the representative of `c` is one of these endpoints, or shares its cell with `lo` -/
theorem Stable.const_span {α : Type} {B : List Nat} {f : Nat → α} (hf : Stable B f) {lo hi : Nat} {x : α}
    (hlo : f lo = x) (hB : ∀ b ∈ B, lo < b → b ≤ hi → f b = x) {c : Nat} (h1 : lo ≤ c) (h2 : c ≤ hi) :
    f c = x := by
  obtain ⟨r, hr, hrc, ha⟩ := exists_rep B c
  by_cases h : lo < r
  · rw [hf c r ha]
    rcases List.mem_cons.1 hr with rfl | hr
    · omega
    · exact hB r hr h (by omega)
  · rw [← hlo]
    refine hf c lo fun b hb => ?_
    have := ha b hb
    omega

theorem Stable.const {α : Type} (B : List Nat) (x : α) : Stable B (fun _ => x) := fun _ _ _ => rfl

theorem Stable.post {α β : Type} {B : List Nat} {f : Nat → α} (hf : Stable B f) (g : α → β) :
    Stable B (fun c => g (f c)) := fun c d a => congrArg g (hf c d a)

theorem Stable.pair {α β : Type} {B : List Nat} {f : Nat → α} {g : Nat → β} (hf : Stable B f)
    (hg : Stable B g) : Stable B (fun c => (f c, g c)) := fun c d a => by
  show (f c, g c) = (f d, g d)
  rw [hf c d a, hg c d a]

theorem Stable.map2 {α β γ : Type} {B : List Nat} {f : Nat → α} {g : Nat → β} (hf : Stable B f)
    (hg : Stable B g) (h : α → β → γ) : Stable B (fun c => h (f c) (g c)) := fun c d a => by
  show h (f c) (g c) = h (f d) (g d)
  rw [hf c d a, hg c d a]

theorem Stable.le {B : List Nat} {k : Nat} (hk : k ∈ B) : Stable B (fun c => decide (k ≤ c)) :=
  fun c d a => by
    have := a k hk
    simp only [decide_eq_decide]; exact this

theorem Stable.range {B : List Nat} {lo hi : Nat} (hlo : lo ∈ B) (hhi : hi + 1 ∈ B) :
    Stable B (fun c => decide (lo ≤ c) && decide (c ≤ hi)) := fun c d a => by
  have h1 := a lo hlo
  have h2 := a (hi + 1) hhi
  have e1 : decide (lo ≤ c) = decide (lo ≤ d) := by simp only [decide_eq_decide]; exact h1
  have e2 : decide (c ≤ hi) = decide (d ≤ hi) := by simp only [decide_eq_decide]; omega
  show (decide (lo ≤ c) && decide (c ≤ hi)) = (decide (lo ≤ d) && decide (d ≤ hi))
  rw [e1, e2]

/-- the pre-mapping `input2 = if input >= k { v } else { input }` of `Parser::feed` -/
theorem Stable.premap {α : Type} {B : List Nat} {f : Nat → α} (hf : Stable B f) {k : Nat} (hk : k ∈ B)
    (v : Nat) : Stable B (fun c => f (if c ≥ k then v else c)) := fun c d a => by
  have h := a k hk
  by_cases hc : k ≤ c
  · have hd : k ≤ d := h.1 hc
    simp [hc, hd]
  · have hd : ¬ k ≤ d := fun x => hc (h.2 x)
    simp only [ge_iff_le, hc, hd, if_false]
    exact hf c d a

theorem Stable.any {α : Type} {B : List Nat} (l : List α) (m : α → Nat → Bool)
    (h : ∀ x ∈ l, Stable B (m x)) : Stable B (fun c => l.any (fun x => m x c)) := fun c d a => by
  show l.any (fun x => m x c) = l.any (fun x => m x d)
  induction l with
  | nil => rfl
  | cons x xs ih =>
    simp only [List.any_cons]
    rw [h x List.mem_cons_self c d a, ih (fun y hy => h y (List.mem_cons_of_mem _ hy))]

theorem Stable.find {α : Type} {B : List Nat} (l : List α) (m : α → Nat → Bool)
    (h : ∀ x ∈ l, Stable B (m x)) : Stable B (fun c => l.find? (fun x => m x c)) := fun c d a => by
  show l.find? (fun x => m x c) = l.find? (fun x => m x d)
  induction l with
  | nil => rfl
  | cons x xs ih =>
    simp only [List.find?_cons]
    rw [h x List.mem_cons_self c d a, ih (fun y hy => h y (List.mem_cons_of_mem _ hy))]

/-! ### the arm list of `Parser::feed` -/

/-- all interval endpoints (`lo` and `hi + 1`) of an arm list -/
def armBounds (arms : List Arm) : List Nat :=
  arms.flatMap fun a => a.pats.flatMap fun pt => [pt.lo, pt.hi + 1]

theorem mem_armBounds {arms : List Arm} {a : Arm} {pt : Pat} (ha : a ∈ arms) (hpt : pt ∈ a.pats) :
    pt.lo ∈ armBounds arms ∧ pt.hi + 1 ∈ armBounds arms := by
  unfold armBounds
  constructor
  · exact List.mem_flatMap.2 ⟨a, ha, List.mem_flatMap.2 ⟨pt, hpt, by simp⟩⟩
  · exact List.mem_flatMap.2 ⟨a, ha, List.mem_flatMap.2 ⟨pt, hpt, by simp⟩⟩

theorem stable_patMatches {B : List Nat} (pt : Pat) (st : PState) (hlo : pt.lo ∈ B) (hhi : pt.hi + 1 ∈ B) :
    Stable B (fun c => Parser.Pat.matches pt st c) := by
  have h := Stable.range hlo hhi
  intro c d a
  have := h c d a
  simp only [Parser.Pat.matches, Bool.and_assoc]
  simp only at this
  rw [this]

theorem stable_findArm (arms : List Arm) (st : PState) :
    Stable (armBounds arms) (fun c => Parser.findArm arms st c) := by
  unfold Parser.findArm
  apply Stable.find
  intro a ha
  unfold Parser.Arm.matches
  apply Stable.any
  intro pt hpt
  have := mem_armBounds ha hpt
  exact stable_patMatches pt st this.1 this.2

/-- the arms that can fire in state `st`, each cut down to its patterns for that state -/
def armsIn (st : PState) (arms : List Arm) : List Arm :=
  (arms.map fun a => { a with pats := a.pats.filter fun pt => pt.st.all (· == st) }).filter
    fun a => !a.pats.isEmpty

theorem findArm_armsIn (arms : List Arm) (st : PState) (c : Nat) :
    (Parser.findArm (armsIn st arms) st c).map (·.acts) = (Parser.findArm arms st c).map (·.acts) := by
  have h : ∀ a : Arm, (!(a.pats.filter fun pt => pt.st.all (· == st)).isEmpty
      && (a.pats.filter fun pt => pt.st.all (· == st)).any fun pt => Parser.Pat.matches pt st c)
        = a.pats.any fun pt => Parser.Pat.matches pt st c := by
    intro a
    have : ∀ l : List Pat, (!l.isEmpty && l.any fun pt => Parser.Pat.matches pt st c)
        = l.any fun pt => Parser.Pat.matches pt st c := fun l => by cases l <;> rfl
    rw [this, List.any_filter]
    unfold Parser.Pat.matches
    congr 1
    funext pt
    cases pt.st <;> simp [Bool.and_assoc]
  unfold Parser.findArm armsIn
  rw [List.find?_filter, List.find?_map, Option.map_map]
  simp only [Function.comp_def, Parser.Arm.matches, ← Bool.and_eq_true, Bool.decide_eq_true, h]
/-! ### the arm list of `esc_dispatch` (pattern: optional intermediate × interval of finals) -/

def escBounds (arms : List EscArm) : List Nat := arms.flatMap fun a => [a.lo, a.hi + 1]

theorem stable_findEsc (arms : List EscArm) (interm : Option Nat) :
    Stable (escBounds arms) (fun c => arms.find? (fun a => Parser.EscArm.matches a interm c)) := by
  apply Stable.find
  intro a ha
  have hlo : a.lo ∈ escBounds arms := List.mem_flatMap.2 ⟨a, ha, by simp⟩
  have hhi : a.hi + 1 ∈ escBounds arms := List.mem_flatMap.2 ⟨a, ha, by simp⟩
  have h := Stable.range hlo hhi
  intro c d ag
  have := h c d ag
  simp only [Parser.EscArm.matches, Bool.and_assoc]
  simp only at this
  rw [this]

end Avt.Lookup
