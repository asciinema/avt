/-
  Avt.Lemmas.C07Edit — the row primitives (`Line.clear/insert/delete`) meet the row formulas of C07;
  ED/EL/ECH/ICH/DCH/DECALN of `Terminal.execute` meet `editSpec`.
-/
import Avt.Lemmas.InvTerminal

namespace Avt.C07L
open Avt.Spec.C07

theorem row_el0 (l : Line) (cols col : Nat) (pen : Pen) (hl : l.cells.length = cols) (hc : col ≤ cols) :
    (l.clear col cols pen).map (fun l' => ({ l' with wrapped := false } : Line))
      = some (eraseRight cols col pen l) := by
  subst hl
  rw [l.clear_eq pen hc (Nat.le_refl _)]
  simp only [Option.map_some, eraseRight, blanks, List.drop_length, List.append_nil]

theorem row_ed0 (l : Line) (cols col : Nat) (pen : Pen) (hl : l.cells.length = cols) (hc : col ≤ cols) :
    ({ l with wrapped := false } : Line).clear col cols pen = some (eraseRight cols col pen l) := by
  rw [Line.clear_eq { l with wrapped := false } pen hc (Nat.le_of_eq hl.symm)]
  subst hl
  simp only [eraseRight, blanks, List.drop_length, List.append_nil]

theorem row_el1 (l : Line) (cols col : Nat) (pen : Pen) (hl : l.cells.length = cols) :
    l.clear 0 (min (col + 1) cols) pen = some (eraseLeft cols col pen l) := by
  rw [l.clear_eq pen (Nat.zero_le _) (by omega)]
  rfl

theorem row_el2 (l : Line) (cols : Nat) (pen : Pen) (hl : l.cells.length = cols) :
    (l.clear 0 cols pen).map (fun l' => ({ l' with wrapped := false } : Line))
      = some (eraseRow cols pen l) := by
  subst hl
  rw [l.clear_eq pen (Nat.zero_le _) (Nat.le_refl _)]
  simp only [Option.map_some, eraseRow, blanks, List.drop_length, List.append_nil, List.take_zero, List.nil_append,
    Nat.sub_zero]

theorem row_ech (l : Line) (cols col n : Nat) (pen : Pen) (hl : l.cells.length = cols) (hc : col ≤ cols) :
    (l.clear col (col + min n (cols - col)) pen).map
        (fun l' => if (col + min n (cols - col) == cols) = true then ({ l' with wrapped := false } : Line) else l')
      = some (eraseChars cols col n pen l) := by
  rw [l.clear_eq pen (Nat.le_add_right _ _) (by omega)]
  simp only [Option.map_some, eraseChars, beq_iff_eq, Nat.add_sub_cancel_left]
  split <;> rfl

theorem row_ich (l : Line) (cols col n : Nat) (pen : Pen) (hl : l.cells.length = cols) (hc : col ≤ cols) :
    l.insert col (min n (cols - col)) (Cell.blank pen) = some (insertChars cols col n pen l) := by
  subst hl
  rw [l.insert_eq _ hc (Nat.min_le_right n _)]
  simp only [insertChars, blanks, List.drop_take, Nat.sub_right_comm]

theorem row_dch (l : Line) (cols col n : Nat) (pen : Pen) (hl : l.cells.length = cols) (hc : col ≤ cols) :
    (l.delete col (min n (cols - col)) pen).map (fun l' => ({ l' with wrapped := false } : Line))
      = some (deleteChars cols col n pen l) := by
  subst hl
  rw [l.delete_eq pen hc (Nat.min_le_right n _)]
  simp only [Option.map_some, deleteChars, blanks]

theorem take_succ_onRowOf (v : List Line) (row : Nat) (g : Line → Line) (h : row < v.length) :
    (onRowOf v row g).take (row + 1) = v.take row ++ ((v.drop row).take 1).map g := by
  rw [onRowOf, List.drop_eq_getElem_cons h]
  exact List.take_left' (by simp only [List.length_append, List.length_take_of_le (Nat.le_of_lt h)]; rfl)

theorem drop_onRowOf (v : List Line) (row : Nat) (g : Line → Line) (h : row ≤ v.length) :
    (onRowOf v row g).drop row = ((v.drop row).take 1).map g ++ v.drop (row + 1) := by
  rw [onRowOf, List.append_assoc, List.drop_left' (List.length_take_of_le h)]

theorem markDirty_eq (t : Terminal) (row : Nat) (h : row < t.dirtyLines.length) :
    t.markDirty row = some { t with dirtyLines := markRange t.dirtyLines row (row + 1) } := by
  rw [Terminal.markDirty_eq h, PrimL.set_eq_take_drop _ _ _ h, markRange, Nat.add_sub_cancel_left]
  rfl

theorem el_eq (t : Terminal) (s : ElScope) (p : PrintPre t) (hc : t.cursor.col ≤ t.cols) :
    t.el s = some (editSpec t (.el s)) := by
  unfold Terminal.el Terminal.eraseWith Buffer.erase
  cases s
  · simp only [p.bcols]
    rw [Buffer.updRow_eq_modify (eraseRight t.cols t.cursor.col t.pen) p.row_lt_view
      (row_el0 _ _ _ _ p.cwidth hc), ← onRowOf_eq_modify]
    exact markDirty_eq _ _ p.drow
  · simp only [p.bcols]
    rw [Buffer.updRow_eq_modify (eraseLeft t.cols t.cursor.col t.pen) p.row_lt_view
      (row_el1 _ _ _ _ p.cwidth), ← onRowOf_eq_modify]
    exact markDirty_eq _ _ p.drow
  · simp only [p.bcols]
    rw [Buffer.updRow_eq_modify (eraseRow t.cols t.pen) p.row_lt_view
      (row_el2 _ _ _ p.cwidth), ← onRowOf_eq_modify]
    exact markDirty_eq _ _ p.drow

theorem ech_eq (t : Terminal) (n : Nat) (p : PrintPre t) (hc : t.cursor.col ≤ t.cols) :
    t.ech n = some (editSpec t (.ech n)) := by
  unfold Terminal.ech Terminal.eraseWith Buffer.erase
  simp only [p.bcols, csub_eq_some hc]
  rw [Buffer.updRow_eq_modify (eraseChars t.cols t.cursor.col (asUsize n 1) t.pen) p.row_lt_view
      (row_ech _ _ _ _ _ p.cwidth hc), ← onRowOf_eq_modify]
  exact markDirty_eq _ _ p.drow

theorem ich_eq (t : Terminal) (n : Nat) (p : PrintPre t) (hc : t.cursor.col ≤ t.cols) :
    t.ich n = some (editSpec t (.ich n)) := by
  unfold Terminal.ich Buffer.insert
  simp only [p.bcols, csub_eq_some hc]
  rw [Buffer.updRow_eq_modify (insertChars t.cols t.cursor.col (asUsize n 1) t.pen) p.row_lt_view
      (row_ich _ _ _ _ _ p.cwidth hc), ← onRowOf_eq_modify]
  exact markDirty_eq _ _ p.drow

theorem leavePending_facts (t : Terminal) :
    (leavePending t).buffer = t.buffer ∧ (leavePending t).cursor.row = t.cursor.row
    ∧ (leavePending t).cursor.col = min t.cursor.col (t.cols - 1)
    ∧ (leavePending t).pen = t.pen ∧ (leavePending t).cols = t.cols
    ∧ (leavePending t).dirtyLines = t.dirtyLines := by
  unfold leavePending
  split
  · exact ⟨rfl, rfl, by simp only; omega, rfl, rfl, rfl⟩
  · exact ⟨rfl, rfl, by omega, rfl, rfl, rfl⟩

/-- DCH is the deletion proper, started in `leavePending t` -/
theorem dch_unfold (t : Terminal) (n : Nat) (h1 : 1 ≤ t.cols) :
    t.dch n =
      match (leavePending t).buffer.delete (leavePending t).cursor.col (leavePending t).cursor.row
          (asUsize n 1) (leavePending t).pen with
      | none => none
      | some b => ({ leavePending t with buffer := b } : Terminal).markDirty (leavePending t).cursor.row := by
  unfold Terminal.dch leavePending
  by_cases hge : t.cursor.col ≥ t.cols
  · have : ¬ (t.cols - 1 ≥ t.cols) := by omega
    simp only [hge, if_true, csub_eq_some h1, Terminal.moveCursorToCol, this, if_false,
      Terminal.doMoveCursorToCol]
    rfl
  · simp only [hge, if_false]
    rfl

theorem dch_eq (t : Terminal) (n : Nat) (p : PrintPre t) (hc : t.cursor.col ≤ t.cols) :
    t.dch n = some (editSpec t (.dch n)) := by
  obtain ⟨e1, e2, e3, e4, -, e6⟩ := leavePending_facts t
  have e5 : (leavePending t).cursor.col ≤ t.cols := by rw [e3]; exact Nat.le_trans (Nat.min_le_left _ _) hc
  rw [dch_unfold t n p.c1]
  simp only [editSpec]
  generalize leavePending t = t2 at e1 e2 e4 e5 e6 ⊢
  unfold Buffer.delete
  simp only [e1, e2, e4, p.bcols, csub_eq_some e5]
  rw [Buffer.updRow_eq_modify (deleteChars t.cols t2.cursor.col (asUsize n 1) t.pen) p.row_lt_view
      (row_dch _ _ _ _ _ p.cwidth e5), ← onRowOf_eq_modify]
  simp only
  rw [markDirty_eq _ _ (by simp only; rw [e6]; exact p.drow)]
  simp only [onRow, withView, e1, e2, e4, e6]

theorem ed_eq (t : Terminal) (s : EdScope) (p : PrintPre t) (hc : t.cursor.col ≤ t.cols) :
    t.ed s = some (editSpec t (.ed s)) := by
  have hrow := p.crow
  have hfull : ∀ g, (onRowOf t.buffer.view t.cursor.row g).drop t.rows = [] := fun g =>
    List.drop_eq_nil_of_le (by rw [onRowOf_eq_modify, List.length_modify, p.hv]; exact Nat.le_refl _)
  unfold Terminal.ed Terminal.eraseWith Buffer.erase
  cases s
  · simp only [p.bcols]
    rw [Buffer.updRow_eq_modify (eraseRight t.cols t.cursor.col t.pen) p.row_lt_view
      (row_ed0 _ _ _ _ p.cwidth hc), ← onRowOf_eq_modify]
    simp only
    rw [Buffer.clear_eq _ (by simp only [p.brows]; omega)
      (by simp only [onRowOf_eq_modify, List.length_modify, p.brows, p.hv]; omega)]
    simp only [Option.map_some]
    rw [Terminal.markDirtyRange_eq (by (try simp only) <;> omega) (by simp only [p.dirty]; omega)]
    simp only [editSpec, withView, blankRows, p.brows, p.bcols]
    congr 3
    rw [take_succ_onRowOf _ _ _ p.row_lt_view, hfull, List.append_nil]
  · simp only [p.bcols]
    rw [Buffer.updRow_eq_modify (eraseLeft t.cols t.cursor.col t.pen) p.row_lt_view
      (row_el1 _ _ _ _ p.cwidth), ← onRowOf_eq_modify]
    simp only
    rw [Buffer.clear_eq _ (Nat.zero_le _) (by simp only [onRowOf_eq_modify, List.length_modify, p.hv]; omega)]
    simp only [Option.map_some]
    rw [Terminal.markDirtyRange_eq (by (try simp only) <;> omega) (by simp only [p.dirty]; omega)]
    simp only [editSpec, withView, blankRows, p.brows, p.bcols]
    congr 3
    rw [drop_onRowOf _ _ _ (Nat.le_of_lt p.row_lt_view), List.take_zero, List.nil_append, Nat.sub_zero,
      List.append_assoc]
  · rw [Buffer.clear_eq _ (Nat.zero_le _) (by rw [p.brows, p.hv]; exact Nat.le_refl _)]
    simp only [Option.map_some]
    rw [Terminal.markDirtyRange_eq (by (try simp only) <;> omega) (by simp only [p.dirty]; omega)]
    simp only [editSpec, withView, blankRows, p.brows, p.bcols]
    congr 3
    rw [List.take_zero, List.nil_append, Nat.sub_zero,
      List.drop_eq_nil_of_le (Nat.le_of_eq p.hv), List.append_nil]
  · rfl

/-- the inner loop started at column `P.length` turns the rest `Q` of the row into 'E's -/
theorem decalnCols_eq (Q : List Cell) : ∀ (P : List Cell) (b : Buffer) (row : Nat) (w : Bool),
    b.view[row]? = some ⟨P ++ Q, w⟩ →
    Terminal.decalnCols b row P.length Q.length
      = some { b with view := b.view.set row ⟨P ++ List.replicate Q.length ⟨0x45, Pen.default⟩, w⟩ } := by
  induction Q with
  | nil =>
    intro P b row w hl
    simp only [Terminal.decalnCols, List.length_nil, List.replicate_zero, List.set_of_getElem? hl]
  | cons q Q ih =>
    intro P b row w hl
    have hrow : row < b.view.length := (List.getElem?_eq_some_iff.1 hl).1
    have hlt : P.length < P.length + (Q.length + 1) := by omega
    have hp : b.print P.length row ⟨0x45, Pen.default⟩
        = some { b with view := b.view.set row ⟨P ++ [⟨0x45, Pen.default⟩] ++ Q, w⟩ } := by
      simp only [Buffer.print, Buffer.updRow, modAtM, Line.print, setAt, hl, List.length_append,
        List.length_cons, hlt, if_true, Option.map_some,
        List.set_append_right _ _ (Nat.le_refl _), Nat.sub_self, List.set_cons_zero, List.append_assoc,
        List.singleton_append]
    have := ih (P ++ [⟨0x45, Pen.default⟩]) { b with view := b.view.set row ⟨P ++ [⟨0x45, Pen.default⟩] ++ Q, w⟩ }
      row w (List.getElem?_set_self hrow)
    rw [List.length_append, List.length_singleton] at this
    rw [List.length_cons, Terminal.decalnCols, hp]
    simp only
    rw [this]
    simp only [List.set_set, List.append_assoc, List.singleton_append, List.replicate_succ]

/-- the outer loop started at row `P.length` aligns the remaining rows `Q` and flags them -/
theorem decalnRows_eq (Q : List Line) : ∀ (t : Terminal) (P : List Line) (D₁ D₂ : List Bool),
    t.buffer.view = P ++ Q → t.dirtyLines = D₁ ++ D₂ → D₁.length = P.length → D₂.length = Q.length →
    (∀ l ∈ Q, l.cells.length = t.cols) →
    Terminal.decalnRows t P.length Q.length
      = some (withView t (P ++ Q.map (alignRow t.cols)) (D₁ ++ List.replicate Q.length true)) := by
  induction Q with
  | nil =>
    intro t P D₁ D₂ hv hd _ h2 _
    cases List.eq_nil_of_length_eq_zero h2
    simp only [Terminal.decalnRows, List.length_nil, List.map_nil, List.replicate_zero, ← hv, ← hd]
    rfl
  | cons q Q ih =>
    intro t P D₁ D₂ hv hd h1 h2 hw
    cases D₂ with
    | nil => cases h2
    | cons x D₂ =>
    have hl : t.buffer.view[P.length]? = some ⟨[] ++ q.cells, q.wrapped⟩ := by
      rw [hv, List.getElem?_append_right (Nat.le_refl _), Nat.sub_self]
      rfl
    have hc := decalnCols_eq q.cells [] t.buffer P.length q.wrapped hl
    rw [hw q List.mem_cons_self, hv, List.set_append_right _ _ (Nat.le_refl _), Nat.sub_self,
      List.set_cons_zero] at hc
    have hlt : P.length < P.length + (D₂.length + 1) := by omega
    have hm : ∀ b : Buffer, ({ t with buffer := b } : Terminal).markDirty P.length
        = some { t with buffer := b, dirtyLines := D₁ ++ true :: D₂ } := by
      intro b
      simp only [Terminal.markDirty, Dirty.add, setAt, hd, List.length_append, List.length_cons, h1, hlt,
        if_true, Option.map_some, List.set_append_right _ _ (Nat.le_of_eq h1), Nat.sub_self,
        List.set_cons_zero]
    have ha : (⟨List.replicate t.cols ⟨0x45, Pen.default⟩, q.wrapped⟩ : Line) = alignRow t.cols q := rfl
    simp only [List.length_nil, List.nil_append, ha] at hc
    rw [List.length_cons, Terminal.decalnRows, hc]
    simp only
    rw [hm]
    have := ih { t with buffer := { t.buffer with view := P ++ alignRow t.cols q :: Q },
                        dirtyLines := D₁ ++ true :: D₂ } (P ++ [alignRow t.cols q]) (D₁ ++ [true]) D₂
      (by simp only [List.append_assoc, List.singleton_append]) (by simp only [List.append_assoc, List.singleton_append])
      (by simp only [List.length_append, List.length_singleton, h1]) (Nat.succ.inj h2)
      (fun l hl => hw l (List.mem_cons_of_mem _ hl))
    rw [List.length_append, List.length_singleton] at this
    simp only [this, withView, List.append_assoc, List.singleton_append, List.map_cons, List.replicate_succ]

theorem decaln_eq (t : Terminal) (p : PrintPre t) : t.decaln = some (editSpec t .decaln) := by
  have := decalnRows_eq t.buffer.view t [] [] t.dirtyLines rfl rfl rfl (p.dirty.trans p.hv.symm) p.hvw
  rw [p.hv, List.length_nil, List.nil_append, List.nil_append] at this
  simp only [Terminal.decaln, this, editSpec, markRange, List.nil_append, List.take_zero,
    Nat.sub_zero, List.drop_eq_nil_of_le (Nat.le_of_eq p.dirty), List.append_nil]

theorem edit_eq (t : Terminal) (f : Function) (h : TInv t = true) (hf : coveredEdit f = true) :
    t.execute f = some (editSpec t f) := by
  have k := TOK.of_TInv h
  have p := PrintPre.of_TOK k
  have hc := k.ccol_le
  cases f <;> simp only [coveredEdit, Bool.false_eq_true] at hf
  case ed s => exact ed_eq t s p hc
  case el s => exact el_eq t s p hc
  case ech n => exact ech_eq t n p hc
  case ich n => exact ich_eq t n p hc
  case dch n => exact dch_eq t n p hc
  case decaln => exact decaln_eq t p

end Avt.C07L
