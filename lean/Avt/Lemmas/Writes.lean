/-
  Avt.Lemmas.Writes — which fields of the terminal each function may write.
  `Function.writes f` is the table, put together as the code puts the function together (a switch
  of screens followed by a reflow writes what either writes); `Terminal.execute_same` says that
  `execute f` leaves every field outside `f.writes` as it was.  That a function leaves a field
  alone is then a lookup in the table.
-/
import Avt.Lemmas.Paint
import Avt.Lemmas.TermResize

namespace Avt

namespace Field

/-- `restore_cursor` -/
def restores : Field → Bool
  | .position | .pen | .originMode | .autoWrapMode | .pendingWrap => true
  | _ => false

/-- either switch of screens -/
def switches : Field → Bool
  | .activeBufferType | .savedCtx | .alternateSavedCtx | .otherBuffer | .buffer | .dirtyLines => true
  | _ => false

def reflows : Field → Bool
  | .buffer | .position | .dirtyLines | .pendingWrap | .savedCtx => true
  | _ => false

def resizes (x : Field) : Bool := x matches .cols | .rows | .tabs | .topMargin | .bottomMargin || x.reflows

end Field

def DecMode.setWrites : DecMode → Field → Bool
  | .cursorKeys => (· matches .cursorKeysMode)
  | .origin => fun x => x matches .originMode || x.moves
  | .autoWrap => (· matches .autoWrapMode)
  | .textCursorEnable => (· matches .visible)
  | .altScreenBuffer => fun x => x.switches || x.reflows
  | .saveCursor => (· matches .savedCtx)
  | .saveCursorAltScreenBuffer => fun x => x matches .savedCtx || x.switches || x.reflows

def DecMode.resetWrites : DecMode → Field → Bool
  | .saveCursor => Field.restores
  | .saveCursorAltScreenBuffer => fun x => x.switches || x.restores || x.reflows
  | m => m.setWrites

def AnsiMode.writes : AnsiMode → Field → Bool
  | .insert => (· matches .insertMode)
  | .newLine => (· matches .newLineMode)

/-- the fields `execute f` may write -/
def Function.writes : Function → Field → Bool
  | .ctc _ | .hts | .tbc _ => (· matches .tabs)
  | .decrc | .scorc => Field.restores
  | .decsc | .scosc => (· matches .savedCtx)
  | .decstbm _ _ => fun x => x matches .topMargin | .bottomMargin || x.moves
  | .decstr => (· matches .visible | .topMargin | .bottomMargin | .insertMode | .originMode | .pen
                  | .charsets | .activeCharset | .savedCtx)
  | .g1d4 _ | .gzd4 _ => (· matches .charsets)
  | .si | .so => (· matches .activeCharset)
  | .sgr _ => (· matches .pen)
  | .sm ms | .rm ms => fun x => ms.any (·.writes x)
  | .ris => fun x => !(x matches .cols | .rows | .scrollbackLimit | .xtwinops)
  | .xtwinops _ _ => Field.resizes
  | .decset ms => fun x => ms.any (·.setWrites x)
  | .decrst ms => fun x => ms.any (·.resetWrites x)
  | f => if f.moves then Field.moves else if f.paints then Field.draws else fun _ => false

/-- a function that moves or draws writes at most what drawing writes -/
theorem Function.writes_of_draws {f : Function} {x : Field} (hd : f.draws = true)
    (hx : x.draws = false) : f.writes x = false := by
  have hm : x.moves = false := by cases x <;> first | exact rfl | cases hx
  cases f <;> first | contradiction | exact hx | exact hm

/-- a field that no mode writes is not written by a list of modes -/
theorem any_writes_false {α} {w : α → Field → Bool} {x : Field} (ms : List α)
    (h : ∀ m, w m x = false) : ms.any (w · x) = false :=
  List.any_eq_false.2 fun m _ => Bool.not_eq_true _ ▸ h m

/-- of the modes, only those in `p` write the field, and the list has none of them -/
theorem any_writes_of {α} {w : α → Field → Bool} {p : α → Bool} {x : Field} {ms : List α}
    (hp : ms.any p = false) (h : ∀ m, p m = false → w m x = false) : ms.any (w · x) = false :=
  List.any_eq_false.2 fun m hm =>
    Bool.not_eq_true _ ▸ h m (Bool.not_eq_true _ ▸ List.any_eq_false.1 hp m hm)

namespace Terminal
variable {t t' : Terminal}

theorem set_tabs {x} : Same (· matches .tabs) t { t with tabs := x } := by field_by_field
theorem set_savedCtx {x} : Same (· matches .savedCtx) t { t with savedCtx := x } := by field_by_field
theorem set_charsets {x} : Same (· matches .charsets) t { t with charsets := x } := by field_by_field
theorem set_activeCharset {x} : Same (· matches .activeCharset) t { t with activeCharset := x } := by
  field_by_field
theorem set_cursorKeysMode {x} : Same (· matches .cursorKeysMode) t { t with cursorKeysMode := x } := by
  field_by_field
theorem set_originMode {x} : Same (· matches .originMode) t { t with originMode := x } := by field_by_field
theorem set_autoWrapMode {x} : Same (· matches .autoWrapMode) t { t with autoWrapMode := x } := by
  field_by_field
theorem set_visible {x} : Same (· matches .visible) t { t with cursor := { t.cursor with visible := x } } := by
  field_by_field

/-- SM (`b = true`) or RM of one mode -/
theorem set_ansi (b : Bool) (t : Terminal) (m : AnsiMode) :
    Same m.writes t (match m with
      | .insert => { t with insertMode := b }
      | .newLine => { t with newLineMode := b }) := by
  cases m <;> field_by_field

theorem restoreCursor_same (t : Terminal) : Same Field.restores t t.restoreCursor := by field_by_field

theorem saveCursor_same (h : t.saveCursor = some t') : Same (· matches .savedCtx) t t' := by
  cases saveCursor_eq h
  exact set_savedCtx

theorem switch_same {to : BufferType} (h : t.switchTo to = some t') : Same Field.switches t t' := by
  rcases switchTo_cases h with ⟨_, rfl⟩ | ⟨_, d, rfl⟩
  · exact .refl _
  · unfold swapped; field_by_field

theorem reflow_same (h : t.reflow = some t') : Same Field.reflows t t' := by
  obtain ⟨_, _, _, _, _, rfl⟩ := reflow_eq_some.1 h
  field_by_field

theorem resize_same {c r : Nat} (h : t.resize c r = some t') : Same Field.resizes t t' := by
  rw [resize_eq] at h
  exact .seq (b := t.resized c r) (by field_by_field) (reflow_same h)

theorem decsetOne_same {m : DecMode} (h : t.decsetOne m = some t') : Same m.setWrites t t' := by
  cases m
  case cursorKeys => cases h; exact set_cursorKeysMode
  case origin => exact set_originMode.seq (Moves.moveCursorHome h)
  case autoWrap => cases h; exact set_autoWrapMode
  case textCursorEnable => cases h; exact set_visible
  case altScreenBuffer =>
    obtain ⟨_, h1, h2⟩ := decsetOne_screen rfl h
    exact (switch_same h1).seq (reflow_same h2)
  case saveCursor => exact saveCursor_same h
  case saveCursorAltScreenBuffer =>
    obtain ⟨_, h1, h2⟩ := decsetOne_screen rfl h
    exact (set_savedCtx.seq (switch_same h1)).seq (reflow_same h2)

theorem decrstOne_same {m : DecMode} (h : t.decrstOne m = some t') : Same m.resetWrites t t' := by
  cases m
  case cursorKeys => cases h; exact set_cursorKeysMode
  case origin => exact set_originMode.seq (Moves.moveCursorHome h)
  case autoWrap => cases h; exact set_autoWrapMode
  case textCursorEnable => cases h; exact set_visible
  case altScreenBuffer =>
    obtain ⟨_, h1, h2⟩ := decrstOne_screen rfl h
    exact (switch_same h1).seq (reflow_same h2)
  case saveCursor => cases h; exact t.restoreCursor_same
  case saveCursorAltScreenBuffer =>
    obtain ⟨t1, h1, h2⟩ := decrstOne_screen rfl h
    exact ((switch_same h1).seq t1.restoreCursor_same).seq (reflow_same h2)

/-- a fold over a list of modes writes what one of its steps writes -/
theorem foldM'_same {α} {g : Terminal → α → Option Terminal} {w : α → Field → Bool}
    (step : ∀ {t t' a}, g t a = some t' → Same (w a) t t') {ms : List α}
    (h : foldM' g ms t = some t') : Same (fun x => ms.any (w · x)) t t' :=
  foldM'_inv (Same _ t) (fun _ m _ hm hb hs => hb.trans
    ((step hs).mono fun _ hx => Bool.eq_false_iff.2 fun hw =>
      Bool.eq_false_iff.1 hx (List.any_eq_true.2 ⟨m, hm, hw⟩))) (.refl t) h

theorem foldl_same {α} {g : Terminal → α → Terminal} {w : α → Field → Bool}
    (step : ∀ t a, Same (w a) t (g t a)) (ms : List α) (t : Terminal) :
    Same (fun x => ms.any (w · x)) t (ms.foldl g t) := by
  induction ms generalizing t with
  | nil => exact .refl t
  | cons m ms ih =>
    refine ((step t m).seq (ih (g t m))).mono fun x hx => ?_
    rwa [List.any_cons] at hx

/-- the footprint of every function: `execute f` leaves the fields outside `f.writes` alone -/
theorem execute_same {f : Function} (h : t.execute f = some t') : Same f.writes t t' := by
  cases f
  case ctc op => cases h; obtain ⟨_, e⟩ := t.ctc_upd op; rw [e]; exact set_tabs
  case hts => cases h; obtain ⟨_, e⟩ := t.setTab_upd; rw [e]; exact set_tabs
  case tbc s => cases h; obtain ⟨_, e⟩ := t.tbc_upd s; rw [e]; exact set_tabs
  case decrc => cases h; exact t.restoreCursor_same
  case scorc => cases h; exact t.restoreCursor_same
  case decsc => exact saveCursor_same h
  case scosc => exact saveCursor_same h
  case decstbm a b =>
    obtain ⟨_, _, h1⟩ := decstbm_home h
    exact .seq (b := { t with topMargin := _, bottomMargin := _ }) (by field_by_field)
      (Moves.moveCursorHome h1)
  case decstr =>
    obtain ⟨_, _, rfl⟩ := Option.map_eq_some_iff.mp h
    field_by_field
  case ris =>
    obtain ⟨_, _, rfl⟩ := Option.map_eq_some_iff.mp h
    field_by_field
  case sm ms => cases h; exact foldl_same (set_ansi true) ms t
  case rm ms => cases h; exact foldl_same (set_ansi false) ms t
  case g1d4 c | gzd4 c => cases h; exact set_charsets
  case si | so => cases h; exact set_activeCharset
  case xtwinops c r =>
    change t.xtwinopsF c r = some t' at h
    unfold xtwinopsF at h
    split at h
    · exact resize_same h
    · cases h; exact .refl t
  case decset ms => exact foldM'_same (g := decsetOne) decsetOne_same h
  case decrst ms => exact foldM'_same (g := decrstOne) decrstOne_same h
  all_goals first
    | exact Moves.execute rfl h
    | exact Draws.execute rfl h
    | (cases h; field_by_field)

theorem execute_xtwinops_off {c r : Nat} (hx : t.xtwinops = false)
    (h : t.execute (.xtwinops c r) = some t') : t' = t := by
  change t.xtwinopsF c r = some t' at h
  simp only [xtwinopsF, hx, Bool.false_eq_true, if_false] at h
  exact (Option.some.inj h).symm

end Terminal
end Avt
