/-
  Avt.Lemmas.C11Sound1 — soundness of the normal form `normT` for the buffer-touching functions
  (print / REP, the scrolling commands, erase / insert / delete / DECALN), via their closed-form
  specifications (C04 `printSpec`/`repSpec`, C06 `scrollCmdSpec`, C07 `editSpec`):
  `execute t f = some (spec t f)` under `TInv`, and each specification maps terminals with equal
  normal forms to terminals with equal normal forms.

  `NEq u v` is `normT u = normT v` spelled out field by field.  What each family READS of the normal
  form: the view, `cols`/`rows`, cursor, pen, margins, the modes — never the scrollback, the limits, the
  trim flag, the dirty flags (only their number), the parked buffer or the parked saved context.
-/
import Avt.Lemmas.C11Norm
import Avt.Lemmas.C04Term
import Avt.Lemmas.C06Cmd
import Avt.Lemmas.C07Edit
namespace Avt
namespace Lemmas.C11
open Avt.Spec.C11 Avt.Terminal

structure NEq (u v : Terminal) : Prop where
  cols : u.cols = v.cols
  rows : u.rows = v.rows
  abt : u.activeBufferType = v.activeBufferType
  cursor : u.cursor = v.cursor
  pen : u.pen = v.pen
  charsets : u.charsets = v.charsets
  activeCharset : u.activeCharset = v.activeCharset
  tabs : u.tabs = v.tabs
  insertMode : u.insertMode = v.insertMode
  originMode : u.originMode = v.originMode
  autoWrapMode : u.autoWrapMode = v.autoWrapMode
  newLineMode : u.newLineMode = v.newLineMode
  cursorKeysMode : u.cursorKeysMode = v.cursorKeysMode
  pendingWrap : u.pendingWrap = v.pendingWrap
  topMargin : u.topMargin = v.topMargin
  bottomMargin : u.bottomMargin = v.bottomMargin
  savedCtx : u.savedCtx = v.savedCtx
  xtwinops : u.xtwinops = v.xtwinops
  view : u.buffer.view = v.buffer.view
  bcols : u.buffer.cols = v.buffer.cols
  brows : u.buffer.rows = v.buffer.rows
  other : u.activeBufferType = .primary ∨ (u.otherBuffer.view = v.otherBuffer.view
    ∧ u.otherBuffer.cols = v.otherBuffer.cols ∧ u.otherBuffer.rows = v.otherBuffer.rows)
  actx : clampCtx u.alternateSavedCtx u.cols u.rows = clampCtx v.alternateSavedCtx v.cols v.rows
  dirty : u.dirtyLines.length = v.dirtyLines.length

theorem normB_eq_iff (x y : Buffer) : normB x = normB y ↔ (x.view = y.view ∧ x.cols = y.cols ∧ x.rows = y.rows) := by
  cases x; cases y; simp [normB]

theorem NEq.of_norm {u v : Terminal} (h : normT u = normT v) : NEq u v := by
  have f : ∀ {α : Type} (p : Terminal → α), p (normT u) = p (normT v) := fun p => congrArg p h
  have hb := (normB_eq_iff _ _).1 (f (·.buffer))
  have habt : u.activeBufferType = v.activeBufferType := f (·.activeBufferType)
  have hcols : u.cols = v.cols := f (·.cols)
  have hrows : u.rows = v.rows := f (·.rows)
  refine ⟨hcols, hrows, habt, f (·.cursor), f (·.pen), f (·.charsets), f (·.activeCharset), f (·.tabs),
    f (·.insertMode), f (·.originMode), f (·.autoWrapMode), f (·.newLineMode), f (·.cursorKeysMode),
    f (·.pendingWrap), f (·.topMargin), f (·.bottomMargin), f (·.savedCtx), f (·.xtwinops),
    hb.1, hb.2.1, hb.2.2, ?_, f (·.alternateSavedCtx), ?_⟩
  · have ho := f (·.otherBuffer)
    simp only [normT] at ho
    cases hp : u.activeBufferType with
    | primary => exact Or.inl rfl
    | alternate =>
      right
      rw [← habt, hp] at ho
      simp only [reduceCtorEq, if_false] at ho
      exact (normB_eq_iff _ _).1 ho
  · have hd := f (·.dirtyLines)
    simp only [normT, Dirty.clear] at hd
    have := congrArg List.length hd
    simpa using this

theorem NEq.norm {u v : Terminal} (h : NEq u v) : normT u = normT v := by
  obtain ⟨h1, h2, h3, h4, h5, h6, h7, h8, h9, h10, h11, h12, h13, h14, h15, h16, h17, h18, h19, h20, h21, h22, h23, h24⟩ := h
  have hb : normB u.buffer = normB v.buffer := (normB_eq_iff _ _).2 ⟨h19, h20, h21⟩
  have hd := Dirty.clear_congr h24
  have ho : (if u.activeBufferType = .primary then deadBuffer else normB u.otherBuffer)
      = (if v.activeBufferType = .primary then deadBuffer else normB v.otherBuffer) := by
    rw [← h3]
    rcases h22 with hp | ho
    · simp [hp]
    · rw [(normB_eq_iff _ _).2 ho]
  simp only [normT, hb, hd, ho, h23]
  cases u; cases v
  simp_all

theorem NEq.refl (u : Terminal) : NEq u u := NEq.of_norm rfl
theorem NEq.symm {u v : Terminal} (h : NEq u v) : NEq v u := NEq.of_norm h.norm.symm
theorem NEq.trans {u v w : Terminal} (h1 : NEq u v) (h2 : NEq v w) : NEq u w := NEq.of_norm (h1.norm.trans h2.norm)


/-- flagging the same range of rows as changed keeps two flag lists equal in number (all `NEq.dirty` asks) -/
theorem markedLength {d1 d2 : List Bool} (hd : d1.length = d2.length) (a k b : Nat) :
    (d1.take a ++ List.replicate k true ++ d1.drop b).length
      = (d2.take a ++ List.replicate k true ++ d2.drop b).length := by
  simp only [List.length_append, List.length_take, List.length_drop, List.length_replicate, hd]

/-- a new cursor, pending wrap, active buffer (agreeing where `normB` looks) and flags (equal in number) -/
theorem NEq.draw {u v : Terminal} (h : NEq u v) {c1 c2 : Cursor} (hcur : c1 = c2) {p1 p2 : Bool} (hp : p1 = p2)
    {b1 b2 : Buffer} (hv : b1.view = b2.view) (hc : b1.cols = b2.cols) (hr : b1.rows = b2.rows)
    {d1 d2 : List Bool} (hd : d1.length = d2.length) :
    NEq { u with cursor := c1, pendingWrap := p1, buffer := b1, dirtyLines := d1 }
        { v with cursor := c2, pendingWrap := p2, buffer := b2, dirtyLines := d2 } :=
  { h with cursor := hcur, pendingWrap := hp, view := hv, bcols := hc, brows := hr, dirty := hd }

theorem NEq.setBuffer {u v : Terminal} (h : NEq u v) {b1 b2 : Buffer} (hv : b1.view = b2.view)
    (hc : b1.cols = b2.cols) (hr : b1.rows = b2.rows) {d1 d2 : List Bool} (hd : d1.length = d2.length) :
    NEq { u with buffer := b1, dirtyLines := d1 } { v with buffer := b2, dirtyLines := d2 } :=
  h.draw h.cursor h.pendingWrap hv hc hr hd

section print
open Avt.Spec.C04

theorem putStep_neq {u v : Terminal} (h : NEq u v) (g : Nat) : NEq (putStep u g) (putStep v g) := by
  have e1 : (u.cursor.col + 1 ≥ u.cols) = (v.cursor.col + 1 ≥ v.cols) := by rw [h.cursor, h.cols]
  have hd : (u.dirtyLines.set u.cursor.row true).length = (v.dirtyLines.set v.cursor.row true).length := by
    rw [List.length_set, List.length_set, h.dirty]
  unfold putStep
  dsimp only
  by_cases c1 : v.cursor.col + 1 ≥ v.cols
  · rw [if_pos (e1 ▸ c1), if_pos c1]
    have hb : (bufOnRow u.buffer u.cursor.row (putCell (u.cols - 1) ⟨g, u.pen⟩)).view
        = (bufOnRow v.buffer v.cursor.row (putCell (v.cols - 1) ⟨g, v.pen⟩)).view := by
      simp only [bufOnRow, h.view, h.cursor, h.cols, h.pen]
    by_cases c2 : v.autoWrapMode = true
    · rw [if_pos (h.autoWrapMode ▸ c2), if_pos c2]
      exact h.draw (by rw [h.cursor, h.cols]) rfl hb h.bcols h.brows hd
    · rw [if_neg (h.autoWrapMode ▸ c2), if_neg c2]
      exact h.setBuffer hb h.bcols h.brows hd
  · rw [if_neg (e1 ▸ c1), if_neg c1]
    have hb : (bufOnRow u.buffer u.cursor.row (if u.insertMode then insertCell u.cursor.col ⟨g, u.pen⟩
          else putCell u.cursor.col ⟨g, u.pen⟩)).view
        = (bufOnRow v.buffer v.cursor.row (if v.insertMode then insertCell v.cursor.col ⟨g, v.pen⟩
          else putCell v.cursor.col ⟨g, v.pen⟩)).view := by
      simp only [bufOnRow, h.view, h.cursor, h.insertMode, h.pen]
    exact h.draw (by rw [h.cursor]) rfl hb h.bcols h.brows hd

theorem wrapStep_neq {u v : Terminal} (h : NEq u v) : NEq (wrapStep u) (wrapStep v) := by
  have e1 : (u.cursor.row = u.bottomMargin) = (v.cursor.row = v.bottomMargin) := by
    rw [h.cursor, h.bottomMargin]
  have e2 : (u.cursor.row + 1 < u.rows) = (v.cursor.row + 1 < v.rows) := by rw [h.cursor, h.rows]
  unfold wrapStep
  dsimp only
  by_cases c1 : v.cursor.row = v.bottomMargin
  · rw [if_pos (e1 ▸ c1), if_pos c1]
    have hb : (scrollRegionUp1 (bufOnRow u.buffer u.cursor.row markWrapped) u.topMargin u.bottomMargin u.pen).view
        = (scrollRegionUp1 (bufOnRow v.buffer v.cursor.row markWrapped) v.topMargin v.bottomMargin v.pen).view := by
      simp only [scrollRegionUp1, bufOnRow, h.view, h.cursor, h.topMargin, h.bottomMargin, h.pen, h.bcols]
    exact h.draw (by rw [h.cursor]) rfl hb h.bcols h.brows
      (by rw [h.topMargin, h.bottomMargin]; exact markedLength h.dirty _ _ _)
  · rw [if_neg (e1 ▸ c1), if_neg c1]
    by_cases c2 : v.cursor.row + 1 < v.rows
    · rw [if_pos (e2 ▸ c2), if_pos c2]
      have hb : (bufOnRow u.buffer u.cursor.row markWrapped).view
          = (bufOnRow v.buffer v.cursor.row markWrapped).view := by
        simp only [bufOnRow, h.view, h.cursor]
      exact h.draw (by rw [h.cursor]) rfl hb h.bcols h.brows h.dirty
    · rw [if_neg (e2 ▸ c2), if_neg c2]
      exact h.draw (by rw [h.cursor]) rfl h.view h.bcols h.brows h.dirty

theorem printSpec_neq {u v : Terminal} (h : NEq u v) (ch : Nat) : NEq (printSpec u ch) (printSpec v ch) := by
  have hg : glyph u ch = glyph v ch := by
    simp only [glyph, activeSet, h.activeCharset, h.charsets]
  unfold printSpec
  rw [hg, h.autoWrapMode, h.pendingWrap]
  split
  · exact putStep_neq (wrapStep_neq h) _
  · exact putStep_neq h _

theorem printTimes_neq (ch : Nat) : ∀ (k : Nat) {u v : Terminal}, NEq u v → NEq (printTimes ch k u) (printTimes ch k v)
  | 0, _, _, h => h
  | k + 1, _, _, h => printTimes_neq ch k (printSpec_neq h ch)

theorem repSpec_neq {u v : Terminal} (h : NEq u v) (n : Nat) : NEq (repSpec u n) (repSpec v n) := by
  have hc : charLeftOfCursor u = charLeftOfCursor v := by
    simp only [charLeftOfCursor, h.view, h.cursor]
  unfold repSpec
  rw [h.cursor, hc]
  split
  · exact h
  · exact printTimes_neq _ _ h

end print

section scroll
open Avt.Spec.C06

/-- rows `a..b` scrolled, up or down, and flagged: the range is read off the normal form, the two
    specifications read the view, the width and the height of the buffer -/
theorem NEq.scrolled {u v : Terminal} (h : NEq u v) {a a' b b' : Nat} (ha : a = a') (hb : b = b') (n : Nat) :
    NEq { u with buffer := scrollUpSpec a b n u.pen u.buffer, dirtyLines := markRange u.dirtyLines a b }
        { v with buffer := scrollUpSpec a' b' n v.pen v.buffer, dirtyLines := markRange v.dirtyLines a' b' }
    ∧ NEq { u with buffer := scrollDownSpec a b n u.pen u.buffer, dirtyLines := markRange u.dirtyLines a b }
        { v with buffer := scrollDownSpec a' b' n v.pen v.buffer, dirtyLines := markRange v.dirtyLines a' b' } := by
  subst ha hb
  exact ⟨{ h with view := by simp only [scrollUpSpec, h.pen, h.view, h.bcols, h.brows]
                  dirty := markedLength h.dirty _ _ _ },
    { h with view := by simp only [scrollDownSpec, h.pen, h.view, h.bcols]
             dirty := markedLength h.dirty _ _ _ }⟩

theorem regionUp_neq {u v : Terminal} (h : NEq u v) (n : Nat) : NEq (regionUp u n) (regionUp v n) :=
  (h.scrolled h.topMargin (congrArg (· + 1) h.bottomMargin) n).1

theorem regionDown_neq {u v : Terminal} (h : NEq u v) (n : Nat) : NEq (regionDown u n) (regionDown v n) :=
  (h.scrolled h.topMargin (congrArg (· + 1) h.bottomMargin) n).2

theorem toCol0_neq {u v : Terminal} (h : NEq u v) : NEq (toCol0 u) (toCol0 v) :=
  { h with cursor := by simp only [toCol0, h.cursor], pendingWrap := rfl }

theorem toRow_neq {u v : Terminal} (h : NEq u v) (row : Nat) : NEq (toRow u row) (toRow v row) :=
  { h with cursor := by simp only [toRow, h.cursor, h.cols], pendingWrap := rfl }

theorem down1_neq {u v : Terminal} (h : NEq u v) : NEq (down1 u) (down1 v) := by
  unfold down1
  rw [h.cursor, h.bottomMargin, h.rows]
  split
  · exact regionUp_neq h 1
  · split
    · exact toRow_neq h _
    · exact h

theorem up1_neq {u v : Terminal} (h : NEq u v) : NEq (up1 u) (up1 v) := by
  unfold up1
  rw [h.cursor, h.topMargin]
  split
  · exact regionDown_neq h 1
  · split
    · exact toRow_neq h _
    · exact h

theorem lineRange_eq {u v : Terminal} (h : NEq u v) : lineRange u = lineRange v := by
  simp only [lineRange, h.cursor, h.bottomMargin, h.rows]

theorem insertLines_neq {u v : Terminal} (h : NEq u v) (n : Nat) : NEq (insertLines u n) (insertLines v n) :=
  (h.scrolled (congrArg Prod.fst (lineRange_eq h)) (congrArg Prod.snd (lineRange_eq h)) n).2

theorem deleteLines_neq {u v : Terminal} (h : NEq u v) (n : Nat) : NEq (deleteLines u n) (deleteLines v n) :=
  (h.scrolled (congrArg Prod.fst (lineRange_eq h)) (congrArg Prod.snd (lineRange_eq h)) n).1

/-- the buffer-touching scrolling commands: `Spec.C06.coveredScroll` without DECSTBM and CR, which touch no
    buffer and are among `simpleFn` (C11Norm) -/
def scrollFn : Function → Bool
  | .lf | .nel | .ri | .su _ | .sd _ | .il _ | .dl _ => true
  | _ => false

theorem scrollCmdSpec_neq {u v : Terminal} (h : NEq u v) (f : Function) (hf : scrollFn f = true) :
    NEq (scrollCmdSpec u f) (scrollCmdSpec v f) := by
  cases f <;> simp only [scrollFn, Bool.false_eq_true] at hf <;> simp only [scrollCmdSpec]
  case lf =>
    have hd := down1_neq h
    rw [hd.newLineMode]
    split
    · exact toCol0_neq hd
    · exact hd
  case nel => exact toCol0_neq (down1_neq h)
  case ri => exact up1_neq h
  case su n => exact regionUp_neq h _
  case sd n => exact regionDown_neq h _
  case il n => exact insertLines_neq h _
  case dl n => exact deleteLines_neq h _

end scroll

section edit
open Avt.Spec.C07

theorem withView_neq {u v : Terminal} (h : NEq u v) (vw : List Line) {d1 d2 : List Bool}
    (hd : d1.length = d2.length) : NEq (withView u vw d1) (withView v vw d2) :=
  h.setBuffer (b1 := { u.buffer with view := vw }) (b2 := { v.buffer with view := vw }) rfl h.bcols h.brows hd

theorem onRow_neq {u v : Terminal} (h : NEq u v) (g : Line → Line) : NEq (onRow u g) (onRow v g) := by
  unfold onRow
  rw [h.view, h.cursor]
  exact withView_neq h _ (markedLength h.dirty _ _ _)

theorem leavePending_neq {u v : Terminal} (h : NEq u v) : NEq (leavePending u) (leavePending v) := by
  have e : (u.cursor.col ≥ u.cols) = (v.cursor.col ≥ v.cols) := by rw [h.cursor, h.cols]
  unfold leavePending
  by_cases hc : v.cursor.col ≥ v.cols
  · rw [if_pos (e ▸ hc), if_pos hc]
    exact { h with cursor := by simp only [h.cursor, h.cols], pendingWrap := rfl }
  · rw [if_neg (e ▸ hc), if_neg hc]; exact h

/-- every edit is `withView` / `onRow` of arguments read off the normal form -/
theorem editSpec_neq {u v : Terminal} (h : NEq u v) (f : Function) (hf : coveredEdit f = true) :
    NEq (editSpec u f) (editSpec v f) := by
  have hd := h.dirty
  cases f <;> try cases hf
  case el sc => cases sc <;> simp only [editSpec, h.cols, h.cursor, h.pen] <;> exact onRow_neq h _
  case ech n => simp only [editSpec, h.cols, h.cursor, h.pen]; exact onRow_neq h _
  case ich n => simp only [editSpec, h.cols, h.cursor, h.pen]; exact onRow_neq h _
  case dch n =>
    simp only [editSpec, h.cols, h.pen, (leavePending_neq h).cursor]
    exact onRow_neq (leavePending_neq h) _
  case ed sc =>
    cases sc <;> simp only [editSpec, h.cols, h.rows, h.cursor, h.pen, h.view]
    · exact withView_neq h _ (markedLength hd _ _ _)
    · exact withView_neq h _ (markedLength hd _ _ _)
    · exact withView_neq h _ (markedLength hd _ _ _)
    · exact h
  case decaln =>
    simp only [editSpec, h.cols, h.rows, h.view]
    exact withView_neq h _ (markedLength hd _ _ _)

end edit

/-- print / REP, scrolling commands, erase / insert / delete / DECALN -/
def bufferFn (f : Function) : Bool :=
  Spec.C04.covered f || scrollFn f || Spec.C07.coveredEdit f

theorem norm_sound_buffer (f : Function) (hf : bufferFn f = true) (s t : Terminal)
    (hs : TInv s = true) (ht : TInv t = true) (e : normT s = normT t) :
    (s.execute f).map normT = (t.execute f).map normT := by
  have h := NEq.of_norm e
  have step : ∀ {s' t'}, s.execute f = some s' → t.execute f = some t' → NEq s' t' →
      (s.execute f).map normT = (t.execute f).map normT :=
    fun es et h' => by rw [es, et]; exact congrArg some h'.norm
  simp only [bufferFn, Bool.or_eq_true] at hf
  rcases hf with (hf | hf) | hf
  · cases f <;> simp only [Spec.C04.covered, Bool.false_eq_true] at hf
    case print ch =>
      exact step (C04L.print_spec s ch (.of_TInv hs)) (C04L.print_spec t ch (.of_TInv ht))
        (printSpec_neq h ch)
    case rep n =>
      exact step (C04L.rep_spec s n (.of_TInv hs)) (C04L.rep_spec t n (.of_TInv ht)) (repSpec_neq h n)
  · have hc : Spec.C06.coveredScroll f = true := by
      cases f <;> simp only [scrollFn, Bool.false_eq_true] at hf <;> rfl
    exact step (C06L.scrollCmd_eq s f hs hc) (C06L.scrollCmd_eq t f ht hc) (scrollCmdSpec_neq h f hf)
  · exact step (C07L.edit_eq s f hs hf) (C07L.edit_eq t f ht hf) (editSpec_neq h f hf)

end Lemmas.C11
end Avt
