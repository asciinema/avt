/-
  Avt.Lemmas.PenDump — `Pen::dump` in closed form, from the model alone: the SGR parameter list it writes
  (`penRegs`) and `Pen.dump p = ESC [ <penRegs p rendered> m` for every pen (`pen_dump_eq`; colour
  components are unbounded in the model and only rendered, so no condition on the pen is needed).
-/
import Avt.Model.Buffer

namespace Avt
namespace Lemmas.C11

/-- the parameters in use, each as the list of its parts in use -/
abbrev Regs := List (List Nat)

/-- `Param::to_string` on the parts in use: `a:b:c` -/
def renderParts : List Nat → List Nat
  | [] => []
  | x :: xs => renderDec x ++ (xs.map fun y => 0x3a :: renderDec y).flatten

/-- the parameter list as `dump()` writes it: `p;p:q;…` -/
def renderAll (A : Regs) : List Nat := List.intercalate [0x3b] (A.map renderParts)

theorem renderParts_cons₂ (x y : Nat) (ys : List Nat) :
    renderParts (x :: y :: ys) = renderDec x ++ 0x3a :: renderParts (y :: ys) := by
  simp [renderParts]

theorem renderAll_cons₂ (ps qs : List Nat) (A : Regs) :
    renderAll (ps :: qs :: A) = renderParts ps ++ 0x3b :: renderAll (qs :: A) := by
  simp [renderAll, List.intercalate]

theorem renderAll_single (ps : List Nat) : renderAll [ps] = renderParts ps := by
  simp [renderAll, List.intercalate]

/-- the parameter `Color::sgr_params(base)` writes: `base + n` for the eight standard colours,
    `base + 52 + n` (90–97, 100–107) for the eight bright ones, otherwise `base + 8` (38/48) with the
    selector `5` and the index, or with the selector `2` and `r:g:b` -/
def colorRegs (base : Nat) : Color → Regs
  | .indexed n =>
    if n < 8 then [[base + n]] else if n < 16 then [[base + 52 + n]] else [[base + 8, 5, n]]
  | .rgb r g b => [[base + 8, 2, r, g, b]]

/-- `;n` if the attribute is set -/
def optRegs (b : Bool) (n : Nat) : Regs := if b then [[n]] else []

/-- the parameters of `Pen::dump` in its order: `0` (reset), foreground (base 30), background
    (base 40), `1` bold / `2` faint, then `3` italic, `4` underline, `5` blink, `7` inverse,
    `9` strikethrough -/
def penRegs (p : Pen) : Regs :=
  [[0]]
    ++ (match p.fg with | some c => colorRegs 30 c | none => [])
    ++ (match p.bg with | some c => colorRegs 40 c | none => [])
    ++ (match p.intensity with | .normal => [] | .bold => [[1]] | .faint => [[2]])
    ++ optRegs p.isItalic 3 ++ optRegs p.isUnderline 4 ++ optRegs p.isBlink 5
    ++ optRegs p.isInverse 7 ++ optRegs p.isStrikethrough 9

theorem renderDec_2 : renderDec 2 = [0x32] := rfl
theorem renderDec_5 : renderDec 5 = [0x35] := rfl

/-- the characters after the first parameter: every further parameter with its `;` -/
def tailChars (A : Regs) : List Nat := (A.map fun qs => 0x3b :: renderParts qs).flatten

theorem renderAll_cons (ps : List Nat) : ∀ (A : Regs), renderAll (ps :: A) = renderParts ps ++ tailChars A
  | [] => by simp [renderAll_single, tailChars]
  | qs :: A => by
    rw [renderAll_cons₂, renderAll_cons qs A]
    simp [tailChars]

theorem tailChars_append (A B : Regs) : tailChars (A ++ B) = tailChars A ++ tailChars B := by
  simp only [tailChars, List.map_append, List.flatten_append]

theorem tailChars_optRegs (b : Bool) (n : Nat) :
    tailChars (optRegs b n) = if b = true then 0x3b :: renderDec n else [] := by
  cases b <;> simp [tailChars, optRegs, renderParts]

/-- `Color::sgr_params(base)` writes the one parameter `colorRegs base c`.  `Pen::dump` calls it with
    `base` 30 and 40; the bound keeps the largest checked `u8` sum, `base + 52 + n` with `n < 16`, below
    256 (anything up to 188 would do). -/
theorem sgrParams_eq (base : Nat) (hb : base ≤ 40) (c : Color) :
    (c.sgrParams base).map (fun x => 0x3b :: x) = some (tailChars (colorRegs base c)) := by
  cases c with
  | indexed n =>
    by_cases h8 : n < 8
    · simp [colorRegs, tailChars, Color.sgrParams, Gen.colorLt1, h8, show base + n < 256 by omega, renderParts]
    · by_cases h16 : n < 16
      · simp [colorRegs, tailChars, Color.sgrParams, Gen.colorLt1, Gen.colorLt2, Gen.colorBrightAdd, h8, h16,
          show base + 52 < 256 by omega, show base + 52 + n < 256 by omega, renderParts]
      · simp [colorRegs, tailChars, Color.sgrParams, Gen.colorLt1, Gen.colorLt2, Gen.colorIdxAdd, h8, h16,
          show base + 8 < 256 by omega, renderParts, renderDec_5]
  | rgb r g b =>
    simp [colorRegs, tailChars, Color.sgrParams, Gen.colorRgbAdd, show base + 8 < 256 by omega, renderParts, renderDec_2]

theorem tailChars_optColor (base : Nat) (hb : base ≤ 40) (oc : Option Color) :
    (match (generalizing := false) oc with | some c => (c.sgrParams base).map fun x => 0x3b :: x | none => some [])
      = some (tailChars (match (generalizing := false) oc with | some c => colorRegs base c | none => [])) := by
  cases oc with
  | none => rfl
  | some c => exact sgrParams_eq base hb c

theorem pen_dump_eq (p : Pen) : p.dump = some (0x1b :: 0x5b :: renderAll (penRegs p) ++ [0x6d]) := by
  have r3 : renderDec 3 = [0x33] := rfl
  have r4 : renderDec 4 = [0x34] := rfl
  have r7 : renderDec 7 = [0x37] := rfl
  have r9 : renderDec 9 = [0x39] := rfl
  -- `Pen.dump` and `penRegs` match on the colours through different auxiliary matchers
  have e1 : Pen.dump.match_1 _ p.fg _ _ = _ := tailChars_optColor 30 (by decide) p.fg
  have e2 : Pen.dump.match_1 _ p.bg _ _ = _ := tailChars_optColor 40 (by decide) p.bg
  simp only [Pen.dump, e1, e2, penRegs, List.cons_append, List.nil_append, renderAll_cons, tailChars_append,
    tailChars_optRegs, r3, r4, renderDec_5, r7, r9, show renderParts [0] = [0x30] from rfl,
    List.append_assoc]
  cases p.intensity <;> rfl

end Lemmas.C11
end Avt
