/-
  Avt.Lemmas.ParserSem — from the table equality to the reference parser.
  `feed p c = sem (williams p.state c) p c` (`feed_eq_sem`); under the register invariant the register
  actions of `sem` do what the reference says on the parameters as written, and the generated dispatch
  tables are the reference's: `execute_eq` (key by key), `escDispatch_eq` (the arms of `esc_dispatch`, at
  the endpoints of the ranges either side tests), `csiDispatch_eq` (the arms of `csi_dispatch`, one by one,
  on the parameters as written).  Hence one step of `Parser.feed` is one step of the reference parser
  (`feed_abs`, for every `c : Nat`; given outright for the kinds ignore, print, execute, collect, clear:
  `feed_ignore` … `feed_clear`), and so are whole strings (`run_refRun`).  `afterEsc`, `feed_esc`,
  `feed_c_afterEsc` are the two steps of `ESC c`, from which C19 is proved.
-/
import Avt.Lemmas.ParserTable
import Avt.Lemmas.C08Decode

namespace Avt.ParserSem
open Avt Avt.Lookup Avt.Spec.C03 Avt.ParserTable

/-- what `Parser.feed` does for a transition of kind `w.1` into state `w.2` -/
def sem (w : Kind × PState) (p : Parser) (c : Nat) : Option (Parser × Option Function) :=
  match w.1 with
  | .ignore | .put | .oscPut => some ({ p with state := w.2 }, none)
  | .print => some ({ p with state := w.2 }, some (.print c))
  | .execute => some ({ p with state := w.2 }, Parser.execute c)
  | .collect => some ({ p with state := w.2, intermediate := some c }, none)
  | .clear => p.clear.map fun p' => ({ p' with state := w.2 }, none)
  | .param => (p.param c).map fun p' => ({ p' with state := w.2 }, none)
  | .dispatchCsi => (p.csiDispatch c).map fun f => ({ p with state := w.2 }, f)
  | .dispatchEsc => ({ p with state := w.2 } : Parser).escDispatch c

theorem clear_setState (p : Parser) (s : PState) :
    ({ p with state := s } : Parser).clear = p.clear.map fun p' => { p' with state := s } := by
  unfold Parser.clear
  simp only
  split
  · split <;> rfl
  · rfl

theorem param_setState (p : Parser) (s : PState) (c : Nat) :
    ({ p with state := s } : Parser).param c = (p.param c).map fun p' => { p' with state := s } := by
  unfold Parser.param
  simp only
  split
  · rfl
  · split
    · split <;> rfl
    · split
      · rfl
      · split <;> rfl

/-- a register action that commutes with assignments to the state keeps the state: assign the
    state `p` has -/
theorem state_of_setState {f : Parser → Option Parser}
    (hf : ∀ (p : Parser) (s : PState), f { p with state := s } = (f p).map fun p' => { p' with state := s })
    {p p' : Parser} (h : f p = some p') : p'.state = p.state := by
  have := hf p p.state
  rw [show ({ p with state := p.state } : Parser) = p from rfl, h] at this
  exact (congrArg Parser.state (Option.some.inj this)).trans rfl

theorem clear_state {p p' : Parser} (h : p.clear = some p') : p'.state = p.state :=
  state_of_setState clear_setState h

theorem param_state {p p' : Parser} {c : Nat} (h : p.param c = some p') : p'.state = p.state :=
  state_of_setState (f := fun p => p.param c) (fun p s => param_setState p s c) h

theorem sem_setState (w : Kind × PState) (p : Parser) (s : PState) (c : Nat) :
    sem w { p with state := s } c = sem w p c := by
  obtain ⟨k, st⟩ := w
  cases k <;> simp only [sem] <;> try rfl
  · rw [param_setState]; cases p.param c <;> rfl
  · rw [clear_setState]; cases p.clear <;> rfl

theorem runActs_onlySetStates (as : List Act) (p : Parser) (c : Nat) (s : PState)
    (h : onlySetStates as p.state = some s) : Parser.runActs as p c = some ({ p with state := s }, none) := by
  induction as generalizing p with
  | nil => simp only [onlySetStates] at h; cases h; rfl
  | cons a as ih =>
    cases a <;> simp only [onlySetStates] at h <;> try cases h
    rename_i s'
    simp only [Parser.runActs]
    exact ih { p with state := s' } h

theorem runActs_classify (as : List Act) (p : Parser) (c : Nat) (w : Kind × PState)
    (h : classify as p.state = some w) : Parser.runActs as p c = sem w p c := by
  induction as generalizing p with
  | nil => simp only [classify] at h; cases h; rfl
  | cons a as ih =>
    cases a with
    | setState s =>
      simp only [classify] at h
      simp only [Parser.runActs]
      rw [ih { p with state := s } h, sem_setState]
    | retPrint | retExecute | retCsiDispatch | retEscDispatch => simp only [classify] at h; cases h; rfl
    | clear =>
      simp only [classify, Option.map_eq_some_iff] at h
      obtain ⟨s, hs, rfl⟩ := h
      simp only [Parser.runActs, sem]
      cases hc : p.clear with
      | none => rfl
      | some p' =>
        simp only [Option.map_some]
        exact runActs_onlySetStates as p' c s (by rw [clear_state hc]; exact hs)
    | collect | put | oscPut =>
      simp only [classify, Option.map_eq_some_iff] at h
      obtain ⟨s, hs, rfl⟩ := h
      simp only [Parser.runActs, sem]
      exact runActs_onlySetStates as _ c s hs
    | param =>
      simp only [classify, Option.map_eq_some_iff] at h
      obtain ⟨s, hs, rfl⟩ := h
      simp only [Parser.runActs, sem]
      cases hc : p.param c with
      | none => rfl
      | some p' =>
        simp only [Option.map_some]
        exact runActs_onlySetStates as p' c s (by rw [param_state hc]; exact hs)

/-- **Semantics of `Parser::feed` through the diagram**: for every register file and every code point,
    `feed` performs the action Williams' table names and moves to the state it names. -/
theorem feed_eq_sem (p : Parser) (c : Nat) : p.feed c = sem (williams p.state c) p c := by
  have h := table_eq p.state c
  unfold kindAndNext at h
  unfold Parser.feed
  cases hf : Parser.findArm Gen.feedArms p.state (Parser.premap c) with
  | none =>
    rw [hf] at h
    simp only [Option.some.injEq] at h
    rw [← h]; rfl
  | some arm =>
    rw [hf] at h
    exact runActs_classify _ _ _ _ h

theorem zero_param {q : Param} (hok : Param.ok q = true) (hz : Param.isZero q = true) : q = {} := by
  obtain ⟨cp, parts⟩ := q
  rw [ok_iff] at hok
  rw [isZero_iff] at hz
  simp only at hok hz
  obtain ⟨rfl, hz⟩ := hz
  have := List.eq_replicate_of_mem hz
  rw [hok.1] at this
  subst this
  rfl

theorem ok_default : Param.ok {} = true := by decide

theorem param_clear {q : Param} (hok : Param.ok q = true) : q.clear = some {} := by
  obtain ⟨cp, parts⟩ := q
  rw [ok_iff] at hok
  simp only at hok
  obtain ⟨hlen, hcp, hdrop, -⟩ := hok
  have hd := List.eq_replicate_of_mem hdrop
  simp only [List.length_drop, hlen] at hd
  unfold Param.clear fillRange
  simp only [Nat.zero_le, true_and, hlen, Nat.sub_zero, List.take_zero, List.nil_append]
  rw [if_pos (by omega), hd, List.replicate_append_replicate]
  have : cp + 1 + (6 - (cp + 1)) = 6 := by omega
  rw [this]
  rfl

theorem mapM_eq_map {α β : Type} (f : α → Option β) (h : α → β) (l : List α) (hl : ∀ x ∈ l, f x = some (h x)) :
    l.mapM f = some (l.map h) := by
  induction l with
  | nil => rfl
  | cons a as ih =>
    rw [List.mapM_cons, hl a List.mem_cons_self, ih (fun x hx => hl x (List.mem_cons_of_mem _ hx))]
    rfl

theorem clear_eq {p : Parser} (hp : PInv p = true) : p.clear = some { state := p.state } := by
  rw [pinv_iff] at hp
  obtain ⟨hlen, hcp, hok, hz⟩ := hp
  unfold Parser.clear
  rw [if_pos (by omega)]
  have h1 : (p.params.take (p.curParam + 1)).mapM Param.clear
      = some (List.replicate (p.curParam + 1) {}) := by
    have := mapM_eq_map Param.clear (fun _ => {}) (p.params.take (p.curParam + 1))
      (fun q hq => param_clear (hok q (List.mem_of_mem_take hq)))
    rw [this, List.map_const', List.length_take, hlen]
    congr 2; omega
  rw [h1]
  simp only
  have h2 : p.params.drop (p.curParam + 1) = List.replicate (32 - (p.curParam + 1)) {} := by
    have := List.eq_replicate_of_mem (l := p.params.drop (p.curParam + 1))
      (fun q hq => zero_param (hok q (List.mem_of_mem_drop hq)) (hz q hq))
    rw [this, List.length_drop, hlen]
  rw [h2, List.replicate_append_replicate]
  have : p.curParam + 1 + (32 - (p.curParam + 1)) = 32 := by omega
  rw [this]
  rfl

theorem pinv_zero (s : PState) : PInv { state := s } = true := by cases s <;> decide

theorem written_zero (s : PState) : written { state := s } = [[0]] := by cases s <;> decide

theorem modLast_append {α : Type} (xs : List α) (x : α) (f : α → α) : modLast (xs ++ [x]) f = xs ++ [f x] := by
  induction xs with
  | nil => rfl
  | cons a as ih =>
    cases as with
    | nil => rfl
    | cons b bs =>
      show a :: modLast (b :: bs ++ [x]) f = _
      rw [ih]; rfl

theorem stepW_digit (S : List (List Nat)) (P : List Nat) (v c : Nat) (h1 : 0x30 ≤ c) (h2 : c ≤ 0x39) :
    stepW (S ++ [P ++ [v]]) c = S ++ [P ++ [(10 * v + (c - 0x30)) % 65536]] := by
  unfold stepW
  rw [if_neg (by omega), if_neg (by omega), modLast_append, modLast_append]

theorem stepW_colon (S : List (List Nat)) (P : List Nat) :
    stepW (S ++ [P]) 0x3a = S ++ [if P.length < 6 then P ++ [0] else P] := by
  unfold stepW
  rw [if_neg (by decide), if_pos rfl, modLast_append]

theorem stepW_semi (A : List (List Nat)) : stepW A 0x3b = if A.length < 32 then A ++ [[0]] else A := by
  unfold stepW
  rw [if_pos rfl]

/-- a digit string extends the last sub-part in decimal; reducing mod 65536 at every digit (`Param::add_digit`)
    or once at the end is the same -/
theorem foldl_stepW_digits (S : List (List Nat)) (P : List Nat) (ds : List Nat)
    (hd : ∀ d ∈ ds, 0x30 ≤ d ∧ d ≤ 0x39) (v : Nat) :
    ds.foldl stepW (S ++ [P ++ [v % 65536]])
      = S ++ [P ++ [ds.foldl (fun a d => 10 * a + (d - 0x30)) v % 65536]] := by
  induction ds generalizing v with
  | nil => rfl
  | cons d ds ih =>
    have h := hd d List.mem_cons_self
    rw [List.foldl_cons, stepW_digit S P _ d h.1 h.2, Nat.add_mod, Nat.mul_mod_mod, ← Nat.add_mod]
    exact ih (fun x hx => hd x (List.mem_cons_of_mem _ hx)) _

theorem written_eq (p : Parser) (h : p.curParam < p.params.length) :
    written p = (p.params.take p.curParam).map wparts ++ [wparts p.params[p.curParam]] := by
  unfold written
  rw [List.take_succ_eq_append_getElem h, List.map_append]
  rfl

theorem pinv_set {p : Parser} (hp : PInv p = true) {q' : Param} (hq : Param.ok q' = true) :
    PInv { p with params := p.params.set p.curParam q' } = true := by
  rw [pinv_iff] at hp ⊢
  obtain ⟨hlen, hcp, hok, hz⟩ := hp
  refine ⟨by simpa using hlen, hcp, ?_, ?_⟩
  · intro q hq'
    rcases List.mem_or_eq_of_mem_set hq' with h | h
    · exact hok q h
    · rw [h]; exact hq
  · intro q hq'
    simp only at hq'
    rw [List.drop_set_of_lt (Nat.lt_succ_self _)] at hq'
    exact hz q hq'

theorem wparts_default : wparts {} = [0] := by decide

theorem addPart_spec {q : Param} (hq : Param.ok q = true) :
    Param.ok q.addPart = true
      ∧ wparts q.addPart = if (wparts q).length < 6 then wparts q ++ [0] else wparts q := by
  have hq' := hq
  rw [ok_iff] at hq'
  obtain ⟨qlen, qcp, qdrop, qlt⟩ := hq'
  constructor
  · rw [ok_iff]
    unfold Param.addPart
    rw [show Gen.maxParamLen = 6 from rfl]
    refine ⟨qlen, by simp only; omega, ?_, qlt⟩
    intro x hx
    apply qdrop x
    have hle : q.curPart + 1 ≤ min (q.curPart + 1) (6 - 1) + 1 := by omega
    obtain ⟨k, hk⟩ := Nat.exists_eq_add_of_le hle
    rw [hk, ← List.drop_drop] at hx
    exact List.mem_of_mem_drop hx
  · unfold wparts Param.addPart
    rw [show Gen.maxParamLen = 6 from rfl]
    simp only [List.length_take, qlen]
    by_cases h5 : q.curPart + 1 < 6
    · rw [if_pos (by omega)]
      have e : min (q.curPart + 1) (6 - 1) = q.curPart + 1 := by omega
      rw [e]
      have hlt : q.curPart + 1 < q.parts.length := by omega
      rw [List.take_succ_eq_append_getElem hlt]
      congr 2
      apply qdrop
      exact List.mem_drop_iff_getElem.2 ⟨0, by simpa using hlt, rfl⟩
    · rw [if_neg (by omega)]
      have e : min (q.curPart + 1) (6 - 1) = q.curPart := by omega
      rw [e]

/-- `d ≤ 11` is `0x3B - 0x30`: all that the character range of the `param` action gives `param_spec`.
    The overflow test of `Param.addDigit` needs no more than `10 * 65535 + d < 2^32`. -/
theorem addDigit_spec {q : Param} (hq : Param.ok q = true) {d : Nat} (hd : d ≤ 11) :
    ∃ q', q.addDigit d = some q' ∧ Param.ok q' = true
      ∧ wparts q' = modLast (wparts q) fun v => (10 * v + d) % 65536 := by
  have hq' := hq
  rw [ok_iff] at hq'
  obtain ⟨qlen, qcp, qdrop, qlt⟩ := hq'
  have hcur : q.curPart < q.parts.length := by omega
  have hn := qlt _ (List.getElem_mem hcur)
  unfold Param.addDigit
  rw [List.getElem?_eq_getElem hcur]
  simp only
  rw [if_pos (by omega)]
  refine ⟨_, rfl, ?_, ?_⟩
  · rw [ok_iff]
    refine ⟨by simpa using qlen, qcp, ?_, ?_⟩
    · intro x hx
      simp only at hx
      rw [List.drop_set_of_lt (Nat.lt_succ_self _)] at hx
      exact qdrop x hx
    · intro x hx
      rcases List.mem_or_eq_of_mem_set hx with h | h
      · exact qlt x h
      · rw [h]; exact Nat.mod_lt _ (by decide)
  · unfold wparts
    simp only
    have hcur' : q.curPart < (q.parts.set q.curPart ((10 * q.parts[q.curPart] + d) % 65536)).length := by
      simpa using hcur
    rw [List.take_succ_eq_append_getElem hcur', List.take_succ_eq_append_getElem hcur, modLast_append]
    simp only [List.take_set_of_le (Nat.le_refl _), List.getElem_set_self]

theorem written_set_cur {p : Parser} (h : p.curParam < p.params.length) {q' : Param}
    (g : List Nat → List Nat) (hw : wparts q' = g (wparts p.params[p.curParam])) :
    written { p with params := p.params.set p.curParam q' } = modLast (written p) g := by
  have h' : p.curParam < (p.params.set p.curParam q').length := by simpa using h
  rw [written_eq _ h', written_eq p h, modLast_append, ← hw]
  simp only [List.take_set_of_le (Nat.le_refl _), List.getElem_set_self]

theorem param_spec {p : Parser} (hp : PInv p = true) {c : Nat} (h1 : 0x30 ≤ c) (h2 : c ≤ 0x3B) :
    ∃ p', p.param c = some p' ∧ PInv p' = true ∧ p'.state = p.state ∧ p'.intermediate = p.intermediate
      ∧ written p' = stepW (written p) c := by
  have hp' := hp
  rw [pinv_iff] at hp'
  obtain ⟨hlen, hcp, hok, hz⟩ := hp'
  have hcpl : p.curParam < p.params.length := by omega
  have hwl : (written p).length = p.curParam + 1 := by
    unfold written; rw [List.length_map, List.length_take]; omega
  unfold Parser.param
  rw [show Gen.paramsLen = 32 from rfl]
  by_cases hsemi : c = 0x3B
  · subst hsemi
    simp only [if_true]
    refine ⟨_, rfl, ?_, rfl, rfl, ?_⟩
    · rw [pinv_iff]
      refine ⟨hlen, ?_, hok, ?_⟩
      · show (if p.curParam + 1 = 32 then 32 - 1 else p.curParam + 1) < 32
        split <;> omega
      · intro q hq
        simp only at hq
        apply hz q
        split at hq
        · have : p.curParam = 31 := by omega
          simpa [this] using hq
        · have := List.drop_drop (i := 1) (j := p.curParam + 1) (l := p.params)
          rw [← this] at hq
          exact List.mem_of_mem_drop hq
    · unfold stepW
      simp only [if_true, hwl]
      by_cases h31 : p.curParam + 1 = 32
      · rw [if_pos h31, if_neg (by omega)]
        have : p.curParam = 31 := by omega
        unfold written
        simp only [this]
      · rw [if_neg h31, if_pos (by omega)]
        have hlt : p.curParam + 1 < p.params.length := by omega
        unfold written
        simp only
        rw [List.take_succ_eq_append_getElem hlt, List.map_append]
        congr 1
        have hmem : p.params[p.curParam + 1] ∈ p.params.drop (p.curParam + 1) :=
          List.mem_drop_iff_getElem.2 ⟨0, by simpa using hlt, rfl⟩
        have := zero_param (hok _ (List.getElem_mem hlt)) (hz _ hmem)
        simp only [List.map_cons, List.map_nil, this]
        rfl
  · rw [if_neg hsemi]
    have hq := hok _ (List.getElem_mem hcpl)
    by_cases hcolon : c = 0x3A
    · subst hcolon
      simp only [if_true]
      unfold modAt
      rw [List.getElem?_eq_getElem hcpl]
      obtain ⟨hok', hw⟩ := addPart_spec hq
      refine ⟨_, rfl, pinv_set hp hok', rfl, rfl, ?_⟩
      rw [written_set_cur hcpl (fun q => if q.length < 6 then q ++ [0] else q) hw]
      unfold stepW
      simp only [if_true, show (0x3A : Nat) ≠ 0x3B by decide, if_false]
    · rw [if_neg hcolon]
      have hc256 : c % 256 = c := Nat.mod_eq_of_lt (by omega)
      unfold csub
      rw [hc256, if_pos h1]
      unfold modAtM
      rw [List.getElem?_eq_getElem hcpl]
      obtain ⟨q', hq1, hok', hw⟩ := addDigit_spec hq (d := c - 0x30) (by omega)
      simp only [hq1]
      refine ⟨_, rfl, pinv_set hp hok', rfl, rfl, ?_⟩
      rw [written_set_cur hcpl (fun q => modLast q fun v => (10 * v + (c - 0x30)) % 65536) hw]
      unfold stepW
      rw [if_neg hsemi, if_neg hcolon]

theorem lookup_none_of_not_mem {β : Type} (t : List (Nat × β)) (c : Nat) (h : c ∉ t.map (·.1)) :
    t.lookup c = none :=
  List.lookup_eq_none_iff.2 fun p hp => bne_iff_ne.2 fun e => h (List.mem_map.2 ⟨p, hp, e.symm⟩)

theorem lookup_ext {β : Type} [DecidableEq β] (t1 t2 : List (Nat × β))
    (h : (t1.map (·.1) ++ t2.map (·.1)).all (fun k => decide (t1.lookup k = t2.lookup k)) = true) (c : Nat) :
    t1.lookup c = t2.lookup c := by
  by_cases hc : c ∈ t1.map (·.1) ++ t2.map (·.1)
  · simpa using List.all_eq_true.1 h c hc
  · rw [List.mem_append, not_or] at hc
    rw [lookup_none_of_not_mem t1 c hc.1, lookup_none_of_not_mem t2 c hc.2]

theorem execute_eq (c : Nat) : Parser.execute c = refExecute c :=
  lookup_ext Gen.execTable refExecTable (by decide) c

theorem ansiModes_eq (n : Nat) : Gen.ansiModes.lookup n = refAnsiMode n :=
  lookup_ext Gen.ansiModes refAnsiModes (by decide) n

theorem decModes_eq (n : Nat) : Gen.decModes.lookup n = refDecMode n :=
  lookup_ext Gen.decModes refDecModes (by decide) n

/-- what the generated arm list of `esc_dispatch` selects; `none`: a shape the reference cannot express
    (`execute(input + k)` with `k ≠ 0x40`, or an arm on which `(input as u8) + k` could overflow) -/
def modelEscSel (interm : Option Nat) (c : Nat) : Option EscSel :=
  match Gen.escArms.find? (fun a => Parser.EscArm.matches a interm c) with
  | none => some .none
  | some a =>
    match a.rhs with
    | .execPlus k => if k = 0x40 ∧ a.hi + k < 256 then some .fe else none
    | .fn f => some (.fn f)
    | .fnGround f => some (.fn f)

/-- the endpoints of the generated arms, of the ranges `refEscSel` tests (`@`–`_`, `7`, `8`, `c`, `0`) and
    of the code points -/
def escB : List Nat := escBounds Gen.escArms ++ [0x40, 0x60, 0x37, 0x38, 0x39, 0x63, 0x64, 0x30, 0x31, 0, 0x110000]

theorem stable_modelEscSel (interm : Option Nat) : Stable escB (fun c => modelEscSel interm c) := by
  have h := (stable_findEsc Gen.escArms interm).mono (B' := escB) (by intro b hb; simp [escB, hb])
  intro c d a
  have := h c d a
  simp only at this
  simp only [modelEscSel, this]

theorem stable_refEscSel (interm : Option Nat) : Stable escB (fun c => refEscSel interm c) := by
  intro c d a
  have h1 := stable_inR (B := escB) (lo := 0x40) (hi := 0x5F) (by decide) (by decide) c d a
  have h2 := stable_inR (B := escB) (lo := 0x37) (hi := 0x37) (by decide) (by decide) c d a
  have h3 := stable_inR (B := escB) (lo := 0x38) (hi := 0x38) (by decide) (by decide) c d a
  have h4 := stable_inR (B := escB) (lo := 0x63) (hi := 0x63) (by decide) (by decide) c d a
  have h5 := stable_inR (B := escB) (lo := 0x30) (hi := 0x30) (by decide) (by decide) c d a
  simp only at h1 h2 h3 h4 h5
  unfold refEscSel
  simp only [h1, h2, h3, h4, h5]

/-- the intermediates for which some ESC sequence is implemented -/
def escKeys : List (Option Nat) := [none, some 0x23, some 0x28, some 0x29]

/-- for code points only: the translator renders Rust's `_` pattern as `0 ..= 0x10FFFF`, so beyond it no
    generated arm matches, while `refEscSel` still selects (`ESC ( x`) -/
theorem escSel_check : (escKeys.all fun i => (0 :: escB).all fun c =>
    !inR 0 0x10FFFF c || decide (modelEscSel i c = some (refEscSel i c))) = true := by
  decide +kernel

theorem escArms_keys : (Gen.escArms.all fun a => escKeys.contains a.interm) = true := by decide

theorem refEscSel_other (interm : Option Nat) (h : interm ∉ escKeys) (c : Nat) : refEscSel interm c = .none := by
  unfold refEscSel
  split <;> simp_all [escKeys]

theorem modelEscSel_eq (interm : Option Nat) (c : Nat) (hc : c < 0x110000) :
    modelEscSel interm c = some (refEscSel interm c) := by
  by_cases hk : interm ∈ escKeys
  · have hall := List.all_eq_true.1 escSel_check interm hk
    have hP : Stable escB (fun c => !inR 0 0x10FFFF c || decide (modelEscSel interm c = some (refEscSel interm c))) :=
      Stable.map2 (stable_inR (lo := 0) (hi := 0x10FFFF) (by decide) (by decide))
        (Stable.map2 (stable_modelEscSel interm) (stable_refEscSel interm) (fun x y => decide (x = some y)))
        (fun x y => !x || y)
    have := forall_of_reps hP hall c
    have hr : inR 0 0x10FFFF c = true := by rw [inR_iff]; omega
    simpa [hr] using this
  · rw [refEscSel_other interm hk]
    unfold modelEscSel
    have : Gen.escArms.find? (fun a => Parser.EscArm.matches a interm c) = none := by
      rw [List.find?_eq_none]
      intro a ha hm
      have hin := List.all_eq_true.1 escArms_keys a ha
      simp only [Parser.EscArm.matches, Bool.and_eq_true, beq_iff_eq] at hm
      rw [hm.1.1] at hin
      exact hk (by simpa using hin)
    rw [this]

/-- `esc_dispatch` in state Ground (where `Parser::feed` calls it) returns the reference's function and
    leaves the parser alone -/
theorem escDispatch_eq (p : Parser) (c : Nat) (hc : c < 0x110000) (hs : p.state = .Ground) :
    p.escDispatch c = some (p, refDispatchEsc p.intermediate c) := by
  have h := modelEscSel_eq p.intermediate c hc
  unfold modelEscSel at h
  unfold Parser.escDispatch refDispatchEsc
  cases hf : Gen.escArms.find? (fun a => Parser.EscArm.matches a p.intermediate c) with
  | none =>
    rw [hf] at h
    simp only [Option.some.injEq] at h
    rw [← h]
  | some a =>
    rw [hf] at h
    simp only at h ⊢
    have hm := List.find?_some hf
    simp only [Parser.EscArm.matches, Bool.and_eq_true, decide_eq_true_eq] at hm
    cases hr : a.rhs with
    | execPlus k =>
      rw [hr] at h
      simp only at h
      split at h
      · rename_i hk
        simp only [Option.some.injEq] at h
        rw [← h]
        simp only
        have hc : c % 256 = c := Nat.mod_eq_of_lt (by omega)
        rw [hc, if_pos (by omega), hk.1, execute_eq]
      · cases h
    | fn f =>
      rw [hr] at h
      simp only [Option.some.injEq] at h
      rw [← h]
    | fnGround f =>
      rw [hr] at h
      simp only [Option.some.injEq] at h
      rw [← h]
      simp only
      rw [← hs]

/-- the right-hand side of a `csi_dispatch` arm, evaluated on the register file -/
def evalRhs (rhs : CsiRhs) (p : Parser) : Option (Option Function) :=
  match rhs with
  | .f1 g => (p.paramU16 0).map fun n => some (g n)
  | .f2 g =>
    match p.paramU16 0, p.paramU16 1 with
    | some a, some b => some (some (g a b))
    | _, _ => none
  | .sel cases => (p.paramU16 0).map fun n => cases.lookup n
  | .const f => some (some f)
  | .sm => (p.collectModes Parser.ansiMode).map fun ms => some (.sm ms)
  | .rm => (p.collectModes Parser.ansiMode).map fun ms => some (.rm ms)
  | .decset => (p.collectModes Parser.decMode).map fun ms => some (.decset ms)
  | .decrst => (p.collectModes Parser.decMode).map fun ms => some (.decrst ms)
  | .sgr =>
    match p.activeParams with
    | none => none
    | some ps => (Parser.sgrOps ps).map fun ops => some (.sgr ops)
  | .xtwinops k =>
    match p.paramU16 0, p.paramU16 1, p.paramU16 2 with
    | some a, some rows, some cols => some (if a = k then some (.xtwinops cols rows) else none)
    | _, _, _ => none

theorem csiDispatch_unfold (p : Parser) (c : Nat) :
    p.csiDispatch c = match Gen.csiArms.find? (fun a => Parser.CsiArm.matches a p.intermediate c) with
      | none => some none
      | some a => evalRhs a.rhs p := by
  unfold Parser.csiDispatch evalRhs
  rfl

/-- the same right-hand side evaluated on the parameters as written -/
def evalRhsW (rhs : CsiRhs) (ps : List (List Nat)) : Option Function :=
  match rhs with
  | .f1 g => some (g (arg ps 0))
  | .f2 g => some (g (arg ps 0) (arg ps 1))
  | .sel cases => cases.lookup (arg ps 0)
  | .const f => some f
  | .sm => some (.sm (ps.filterMap fun q => refAnsiMode (q.headD 0)))
  | .rm => some (.rm (ps.filterMap fun q => refAnsiMode (q.headD 0)))
  | .decset => some (.decset (ps.filterMap fun q => refDecMode (q.headD 0)))
  | .decrst => some (.decrst (ps.filterMap fun q => refDecMode (q.headD 0)))
  | .sgr => (Parser.sgrOps (ps.map mkParam)).map .sgr
  | .xtwinops k => if arg ps 0 = k then some (.xtwinops (arg ps 2) (arg ps 1)) else none

/-- a parameter register read by `as_u16` holds the first sub-part as written, and 0 when the
    parameter was not written (this is where the invariant "zero beyond `cur_param`" is used) -/
theorem paramU16_eq {p : Parser} (hp : PInv p = true) (i : Nat) (hi : i < 32) :
    p.paramU16 i = some (arg (written p) i) := by
  rw [pinv_iff] at hp
  obtain ⟨hlen, hcp, hok, hz⟩ := hp
  have hil : i < p.params.length := by omega
  have hqok := hok _ (List.getElem_mem hil)
  unfold Parser.paramU16
  rw [List.getElem?_eq_getElem hil]
  simp only
  rw [asU16_ok hqok]
  congr 1
  unfold arg written
  rw [List.getElem?_map, List.getElem?_take]
  by_cases hic : i < p.curParam + 1
  · rw [if_pos hic, List.getElem?_eq_getElem hil]
    obtain ⟨r, hr⟩ := wparts_cons hqok
    simp only [Option.map_some]
    unfold wparts at hr
    rw [hr]
  · rw [if_neg hic]
    simp only [Option.map_none]
    have hmem : p.params[i] ∈ p.params.drop (p.curParam + 1) :=
      List.mem_drop_iff_getElem.2 ⟨i - (p.curParam + 1), by omega, by congr 1; omega⟩
    have := zero_param hqok (hz _ hmem)
    rw [this]
    rfl

theorem filterMap_congr' {α β : Type} (f g : α → Option β) (l : List α) (h : ∀ x ∈ l, f x = g x) :
    l.filterMap f = l.filterMap g := by
  induction l with
  | nil => rfl
  | cons a as ih =>
    rw [List.filterMap_cons, List.filterMap_cons, h a List.mem_cons_self,
      ih (fun x hx => h x (List.mem_cons_of_mem _ hx))]

theorem collectModes_eq {α : Type} {p : Parser} (hp : PInv p = true) (f : Param → Option (Option α))
    (g : Nat → Option α) (hf : ∀ q, f q = q.asU16.map g) :
    p.collectModes f = some ((written p).filterMap fun w => g (w.headD 0)) := by
  unfold Parser.collectModes
  rw [activeParams_eq hp]
  simp only
  have hokt := ok_of_mem_active hp
  rw [mapM_eq_map f (fun q => g (q.parts.headD 0)) _
    (fun q hq => by rw [hf, asU16_ok (hokt q hq)]; rfl)]
  simp only
  congr 1
  unfold written
  rw [List.filterMap_map, List.filterMap_map]
  apply filterMap_congr'
  intro q hq
  simp only [Function.comp, id]
  show g (q.parts.headD 0) = g ((wparts q).headD 0)
  rw [wparts_head (hokt q hq)]

theorem mkParam_wparts {q : Param} (hq : Param.ok q = true) : mkParam (wparts q) = q := by
  rw [ok_iff] at hq
  obtain ⟨qlen, qcp, qdrop, -⟩ := hq
  obtain ⟨cp, parts⟩ := q
  simp only at qlen qcp qdrop
  unfold mkParam wparts
  simp only [List.length_take, qlen]
  have e1 : min (cp + 1) 6 - 1 = cp := by omega
  have e2 : 6 - min (cp + 1) 6 = 6 - (cp + 1) := by omega
  rw [e1, e2]
  congr 1
  have hd := List.eq_replicate_of_mem qdrop
  rw [List.length_drop, qlen] at hd
  rw [← hd, List.take_append_drop]

theorem written_mkParam {p : Parser} (hp : PInv p = true) :
    (written p).map mkParam = p.params.take (p.curParam + 1) := by
  unfold written
  rw [List.map_map]
  conv => rhs; rw [← List.map_id (p.params.take (p.curParam + 1))]
  apply List.map_congr_left
  intro q hq
  exact mkParam_wparts (ok_of_mem_active hp q hq)

theorem sgrOps_written {p : Parser} (hp : PInv p = true) :
    Parser.sgrOps ((written p).map mkParam) = some (Spec.C08.sgrRefOps (written p)) := by
  rw [written_mkParam hp]
  exact Spec.C08.sgrOps_eq_ref _ (ok_of_mem_active hp)

theorem evalRhs_eq {p : Parser} (hp : PInv p = true) (rhs : CsiRhs) :
    evalRhs rhs p = some (evalRhsW rhs (written p)) := by
  have h0 := paramU16_eq hp 0 (by decide)
  have h1 := paramU16_eq hp 1 (by decide)
  have h2 := paramU16_eq hp 2 (by decide)
  have ha := collectModes_eq hp Parser.ansiMode refAnsiMode
    (fun q => by unfold Parser.ansiMode; rw [show (fun n => Gen.ansiModes.lookup n) = refAnsiMode from funext ansiModes_eq])
  have hd := collectModes_eq hp Parser.decMode refDecMode
    (fun q => by unfold Parser.decMode; rw [show (fun n => Gen.decModes.lookup n) = refDecMode from funext decModes_eq])
  cases rhs with
  | f1 g => simp only [evalRhs, evalRhsW, h0, Option.map_some]
  | f2 g => simp only [evalRhs, evalRhsW, h0, h1]
  | sel cases => simp only [evalRhs, evalRhsW, h0, Option.map_some]
  | const f => rfl
  | sm => simp only [evalRhs, evalRhsW, ha, Option.map_some]
  | rm => simp only [evalRhs, evalRhsW, ha, Option.map_some]
  | decset => simp only [evalRhs, evalRhsW, hd, Option.map_some]
  | decrst => simp only [evalRhs, evalRhsW, hd, Option.map_some]
  | sgr =>
    simp only [evalRhs, evalRhsW, activeParams_eq hp, sgrOps_written hp, ← written_mkParam hp,
      Option.map_some]
  | xtwinops k => simp only [evalRhs, evalRhsW, h0, h1, h2]

/-- the (intermediate, final) pairs the generated `csi_dispatch` has an arm for -/
def csiKeys : List (Option Nat × Nat) := Gen.csiArms.map fun a => (a.interm, a.final)

/-- what the generated arm list of `csi_dispatch` yields on written parameters -/
def modelCsi (interm : Option Nat) (c : Nat) (ps : List (List Nat)) : Option Function :=
  match Gen.csiArms.find? (fun a => Parser.CsiArm.matches a interm c) with
  | none => none
  | some a => evalRhsW a.rhs ps

theorem refDispatchCsi_none (interm : Option Nat) (c : Nat) (ps : List (List Nat))
    (hk : (interm, c) ∉ csiKeys) : refDispatchCsi interm c ps = none := by
  unfold refDispatchCsi
  split
  all_goals first | rfl | (exfalso; apply hk; decide)

theorem modelCsi_eq (interm : Option Nat) (c : Nat) (ps : List (List Nat)) :
    modelCsi interm c ps = refDispatchCsi interm c ps := by
  by_cases hk : (interm, c) ∈ csiKeys
  · simp only [csiKeys, Gen.csiArms, List.map_cons, List.map_nil, List.mem_cons, Prod.mk.injEq,
      List.not_mem_nil] at hk
    -- one goal per generated arm: `find?` evaluates to it, and its `evalRhsW` is by `rfl` that key's line of
    -- `refDispatchCsi`; for ED, EL, CTC, TBC both sides look the selector up, and the tables agree key by key
    repeat' (rcases hk with ⟨rfl, rfl⟩ | hk)
    all_goals first
      | exact hk.elim
      | rfl
      | (refine lookup_ext (β := Function) _ _ ?_ _; decide)
  · rw [refDispatchCsi_none interm c ps hk]
    unfold modelCsi
    have : Gen.csiArms.find? (fun a => Parser.CsiArm.matches a interm c) = none := by
      rw [List.find?_eq_none]
      intro a ha hm
      simp only [Parser.CsiArm.matches, Bool.and_eq_true, beq_iff_eq] at hm
      apply hk
      rw [← hm.1, ← hm.2]
      exact List.mem_map.2 ⟨a, ha, rfl⟩
    rw [this]

theorem csiDispatch_eq {p : Parser} (hp : PInv p = true) (c : Nat) :
    p.csiDispatch c = some (refDispatchCsi p.intermediate c (written p)) := by
  rw [csiDispatch_unfold, ← modelCsi_eq]
  unfold modelCsi
  cases Gen.csiArms.find? (fun a => Parser.CsiArm.matches a p.intermediate c) with
  | none => rfl
  | some a => exact evalRhs_eq hp a.rhs

/-- a Boolean disjunction like `dispatchEsc_ground`: `feed_abs` generalizes `williams p.state c` with both
    attached and opens them by one `simp only` -/
theorem param_char (st : PState) (c : Nat) : ((williams st c).1 != .param || inR 0x30 0x3B c) = true := by
  cases hk : (williams st c).1 != .param
  · have hw := kind_within (lo := 0x30) (hi := 0x3B) (by decide) (by decide +kernel)
      (Prod.ext (by simpa using hk) rfl : williams st c = (.param, (williams st c).2))
    have hle : classChar c ≤ 0x3B := ((inR_iff _ _ _).1 hw).2
    rw [classChar_eq hle (by decide)] at hw
    rw [hw]; rfl
  · rfl

/-- a Boolean predicate of the pair, the form `williams_outs` checks row by row -/
theorem dispatchEsc_ground (st : PState) (c : Nat) :
    ((williams st c).1 != .dispatchEsc || (williams st c).2 == .Ground) = true :=
  williams_outs PState.all (fun _ w => w.1 != .dispatchEsc || w.2 == .Ground) (by decide +kernel)
    st (mem_all st) c

theorem feed_ignore {p : Parser} {c : Nat} {s : PState} (hw : williams p.state c = (.ignore, s)) :
    p.feed c = some ({ p with state := s }, none) := by
  rw [feed_eq_sem, hw]; rfl

theorem feed_print {p : Parser} {c : Nat} {s : PState} (hw : williams p.state c = (.print, s)) :
    p.feed c = some ({ p with state := s }, some (.print c)) := by
  rw [feed_eq_sem, hw]; rfl

theorem feed_execute {p : Parser} {c : Nat} {s : PState} (hw : williams p.state c = (.execute, s)) :
    p.feed c = some ({ p with state := s }, refExecute c) := by
  rw [feed_eq_sem, hw]
  simp only [sem, execute_eq]

theorem feed_collect {p : Parser} {c : Nat} {s : PState} (hw : williams p.state c = (.collect, s)) :
    p.feed c = some ({ p with state := s, intermediate := some c }, none) := by
  rw [feed_eq_sem, hw]; rfl

theorem feed_clear {p : Parser} {c : Nat} {s : PState} (h : PInv p = true)
    (hw : williams p.state c = (.clear, s)) : p.feed c = some ({ state := s }, none) := by
  rw [feed_eq_sem, hw]
  simp only [sem, clear_eq h]
  rfl

/-- the 7-bit and 8-bit introducers lead out of every state (rows "anywhere" of the diagram): `ESC`,
    `CSI` and `DCS` clear the registers on entry, the string introducers leave them alone -/
theorem introducers_anywhere (st : PState) :
    williams st 0x1b = (.clear, .Escape) ∧ williams st 0x9b = (.clear, .CsiEntry)
      ∧ williams st 0x90 = (.clear, .DcsEntry) ∧ williams st 0x9d = (.ignore, .OscString)
      ∧ williams st 0x98 = (.ignore, .SosPmApcString) :=
  ⟨williams_anywhere rfl st, williams_anywhere rfl st, williams_anywhere rfl st, williams_anywhere rfl st,
    williams_anywhere rfl st⟩

/-- the parser right after `ESC` (from any state, under the register invariant) -/
def afterEsc : Parser := { state := .Escape }

theorem feed_esc (p : Parser) (h : PInv p = true) : p.feed 0x1b = some (afterEsc, none) :=
  feed_clear h (introducers_anywhere _).1

theorem feed_c_afterEsc : afterEsc.feed 0x63 = some (Parser.new, some Function.ris) := by decide

theorem abs_setState (p : Parser) (s : PState) : abs { p with state := s } = { abs p with state := s } := rfl

theorem escHisSmall : Gen.escArms.all (fun a => decide (a.hi < 0x110000)) = true := by decide

/-- beyond the code points no arm of `esc_dispatch` matches (the translator renders `_` as `0 ..= 0x10FFFF`) -/
theorem escDispatch_big (p : Parser) {c : Nat} (hc : 0x110000 ≤ c) : p.escDispatch c = some (p, none) := by
  have hn : Gen.escArms.find? (fun a => Parser.EscArm.matches a p.intermediate c) = none := by
    rw [List.find?_eq_none]
    intro a ha
    have h1 := List.all_eq_true.1 escHisSmall a ha
    have h2 : a.hi < 0x110000 := of_decide_eq_true h1
    have h3 : decide (c ≤ a.hi) = false := by
      rw [decide_eq_false_iff_not]; omega
    simp [Parser.EscArm.matches, h3]
  unfold Parser.escDispatch
  rw [hn]

theorem escDispatch_total (p : Parser) (c : Nat) (hs : p.state = .Ground) :
    p.escDispatch c = some (p, if c < 0x110000 then refDispatchEsc p.intermediate c else none) := by
  split
  · exact escDispatch_eq p c ‹_› hs
  · exact escDispatch_big p (by omega)

/-- **One step, every `c : Nat`.**  For every register file satisfying the invariant, `feed` does not panic,
    ends in registers that encode the reference parser's abstract state and re-establishes the invariant; for a
    code point it emits exactly the reference parser's function (the bound is needed for the function of an ESC
    dispatch only). -/
theorem feed_abs {p : Parser} (hp : PInv p = true) (c : Nat) :
    ∃ p' f, p.feed c = some (p', f) ∧ abs p' = (refStep (abs p) c).1 ∧ PInv p' = true
      ∧ (c < 0x110000 → f = (refStep (abs p) c).2) := by
  rw [feed_eq_sem]
  have hf := And.intro (param_char p.state c) (dispatchEsc_ground p.state c)
  unfold refStep sem
  simp only [show (abs p).state = p.state from rfl]
  generalize williams p.state c = w at hf ⊢
  obtain ⟨k, st'⟩ := w
  simp only [Bool.or_eq_true, bne_iff_ne, ne_eq, beq_iff_eq] at hf
  cases k with
  | ignore | put | oscPut | print | collect => exact ⟨_, _, rfl, rfl, hp, fun _ => rfl⟩
  | execute => exact ⟨_, _, rfl, rfl, hp, fun _ => execute_eq c⟩
  | clear =>
    simp only [clear_eq hp, Option.map_some]
    refine ⟨_, _, rfl, ?_, pinv_zero st', fun _ => rfl⟩
    show abs { state := st' } = _
    unfold abs
    rw [written_zero]
  | param =>
    have hr : inR 0x30 0x3B c = true := by simpa using hf.1
    rw [inR_iff] at hr
    obtain ⟨p', h1, h2, h3, h4, h5⟩ := param_spec hp hr.1 hr.2
    simp only [h1, Option.map_some]
    refine ⟨_, _, rfl, ?_, h2, fun _ => rfl⟩
    unfold abs; simp only [h4, ← h5]; rfl
  | dispatchCsi =>
    simp only [csiDispatch_eq hp, Option.map_some]
    exact ⟨_, _, rfl, rfl, hp, fun _ => rfl⟩
  | dispatchEsc =>
    have hg : st' = .Ground := by simpa using hf.2
    subst hg
    exact ⟨_, _, escDispatch_total { p with state := .Ground } c rfl, rfl, hp, fun h => if_pos h⟩

theorem feed_refStep {p : Parser} (hp : PInv p = true) (c : Nat) (hc : c < 0x110000) :
    ∃ p', p.feed c = some (p', (refStep (abs p) c).2) ∧ abs p' = (refStep (abs p) c).1 ∧ PInv p' = true := by
  obtain ⟨p', f, h1, h2, h3, h4⟩ := feed_abs hp c
  exact ⟨p', h4 hc ▸ h1, h2, h3⟩

theorem run_refRun {p : Parser} (hp : PInv p = true) (s : List Nat) (hs : ∀ c ∈ s, c < 0x110000) :
    ∃ q, run p s = some (q, (refRun (abs p) s).2) ∧ abs q = (refRun (abs p) s).1 ∧ PInv q = true := by
  induction s generalizing p with
  | nil => exact ⟨p, rfl, rfl, hp⟩
  | cons c cs ih =>
    obtain ⟨p', h1, h2, h3⟩ := feed_refStep hp c (hs c List.mem_cons_self)
    obtain ⟨q, g1, g2, g3⟩ := ih h3 (fun x hx => hs x (List.mem_cons_of_mem _ hx))
    refine ⟨q, ?_, ?_, g3⟩
    · simp only [run, h1, g1, refRun, h2]
    · simp only [refRun, ← h2, g2]

end Avt.ParserSem
