/-
  Avt.Lemmas.Run — `Vt.feedAll` is the run of the parser (`Spec.C03.run`) followed by the fold of `execute`
  over the functions it emits: the parser never looks at the terminal.  `Frame.emitted` is the list of
  functions of that run, cut off where the parser panics; `emitted_of_run` and `emitted_append` are all
  there is to know about it.
-/
import Avt.Spec.C03
import Avt.Lemmas.FoldM

namespace Avt.Frame
open Avt

/-- functions the parser emits for `input` from parser state `p` (what the driver calls `emitted`) -/
def emitted : Parser → List Nat → List Function
  | _, [] => []
  | p, c :: cs =>
    match p.feed c with
    | none => []
    | some (p', none) => emitted p' cs
    | some (p', some f) => f :: emitted p' cs

theorem emitted_of_run : ∀ {xs : List Nat} {p q : Parser} {fs : List Function},
    Spec.C03.run p xs = some (q, fs) → emitted p xs = fs
  | [], _, _, _, h => by cases h; rfl
  | c :: cs, p, q, fs, h => by
    simp only [Spec.C03.run] at h
    split at h
    · cases h
    · rename_i p' o hf
      split at h
      · cases h
      · rename_i hr
        cases h
        simp only [emitted, hf]
        cases o <;> simp [emitted_of_run hr]

theorem emitted_append (p : Parser) (xs ys : List Nat) :
    emitted p (xs ++ ys) = emitted p xs ++
      match Spec.C03.run p xs with | some (q, _) => emitted q ys | none => [] := by
  induction xs generalizing p with
  | nil => simp [emitted, Spec.C03.run]
  | cons c cs ih =>
    simp only [List.cons_append, emitted, Spec.C03.run]
    cases p.feed c with
    | none => rfl
    | some r =>
      obtain ⟨p', o⟩ := r
      cases o <;> simp only [ih p', List.cons_append] <;> cases Spec.C03.run p' cs <;> rfl

theorem emitted_prefix (a b : List Nat) (p : Parser) (f : Function) (h : f ∈ emitted p a) :
    f ∈ emitted p (a ++ b) := by
  rw [emitted_append]; exact List.mem_append_left _ h

end Avt.Frame

namespace Avt.Run
open Avt Avt.Spec.C03

theorem run_append (p : Parser) (xs ys : List Nat) :
    run p (xs ++ ys) = (run p xs).bind fun r => (run r.1 ys).map fun r' => (r'.1, r.2 ++ r'.2) := by
  induction xs generalizing p with
  | nil =>
    simp only [List.nil_append, run, Option.bind_some]
    cases run p ys <;> rfl
  | cons x xs ih =>
    simp only [List.cons_append, run]
    cases p.feed x with
    | none => rfl
    | some r =>
      obtain ⟨p', f⟩ := r
      simp only [ih p']
      cases run p' xs with
      | none => rfl
      | some r1 =>
        obtain ⟨q, fs⟩ := r1
        simp only [Option.bind_some]
        cases run q ys with
        | none => rfl
        | some r2 => simp [List.append_assoc]

theorem run_append_of {xs ys : List Nat} {p q r : Parser} {fs gs : List Function}
    (h1 : run p xs = some (q, fs)) (h2 : run q ys = some (r, gs)) : run p (xs ++ ys) = some (r, fs ++ gs) := by
  rw [run_append, h1, Option.bind_some, h2]
  rfl

theorem feedAll_eq_run (v : Vt) (xs : List Nat) :
    v.feedAll xs = (run v.parser xs).bind fun r =>
      (Terminal.foldM' Terminal.execute r.2 v.terminal).map fun t => { parser := r.1, terminal := t } := by
  induction xs generalizing v with
  | nil => rfl
  | cons x xs ih =>
    simp only [Vt.feedAll, Vt.feed, run]
    cases v.parser.feed x with
    | none => rfl
    | some r =>
      obtain ⟨p', f⟩ := r
      cases f with
      | none =>
        simp only [ih, Option.toList_none, List.nil_append]
        cases run p' xs <;> rfl
      | some f =>
        simp only [Option.toList_some]
        cases he : v.terminal.execute f with
        | none =>
          simp only [Option.map_none]
          cases run p' xs with
          | none => rfl
          | some r1 => simp [Terminal.foldM', he]
        | some t =>
          simp only [Option.map_some, ih]
          cases run p' xs with
          | none => rfl
          | some r1 => simp [Terminal.foldM', he]

/-- the run succeeds and the fold succeeds: the form in which the decomposition is used -/
theorem feedAll_of_run {v : Vt} {xs : List Nat} {q : Parser} {fs : List Function} {t' : Terminal}
    (hr : run v.parser xs = some (q, fs)) (he : Terminal.foldM' Terminal.execute fs v.terminal = some t') :
    v.feedAll xs = some ⟨q, t'⟩ := by
  rw [feedAll_eq_run, hr, Option.bind_some, he]
  rfl

theorem feedStr_of_run {v : Vt} {xs : List Nat} {q : Parser} {fs : List Function} {t' : Terminal}
    (hr : run v.parser xs = some (q, fs)) (he : Terminal.foldM' Terminal.execute fs v.terminal = some t') :
    v.feedStr xs = some (⟨q, Spec.finishT t'⟩, ⟨Dirty.toVec t'.dirtyLines, ((t'.changes).1.gc).2⟩) :=
  Vt.feedStr_of_feedAll (feedAll_of_run hr he)

theorem feedAll_emitted {v v' : Vt} {xs : List Nat} (h : v.feedAll xs = some v') :
    run v.parser xs = some (v'.parser, Frame.emitted v.parser xs)
      ∧ Terminal.foldM' Terminal.execute (Frame.emitted v.parser xs) v.terminal = some v'.terminal := by
  rw [feedAll_eq_run] at h
  obtain ⟨⟨q, fs⟩, hr, h⟩ := Option.bind_eq_some_iff.1 h
  obtain ⟨t, ht, rfl⟩ := Option.map_eq_some_iff.1 h
  rw [Frame.emitted_of_run hr]; exact ⟨hr, ht⟩

end Avt.Run
