/-
  Avt.Lemmas.C09Typewriter — the "typewriter" invariant behind C09 and what it implies for `text()`
  and for the `TextUnwrapper`.
-/
import Avt.Lemmas.C09Text

namespace Avt.Lemmas
open Avt Avt.Spec.C09

/-- the terminal modes under which printable text + CR LF behaves like a typewriter: margins span the
    whole screen, auto-wrap on, replace mode, ASCII charset active, primary screen with unlimited
    scrollback -/
structure TWMode (t : Terminal) : Prop where
  top : t.topMargin = 0
  bottom : t.bottomMargin + 1 = t.rows
  autoWrap : t.autoWrapMode = true
  replace : t.insertMode = false
  charset : t.activeCharset = 0 ∧ t.charsets.1 = .ascii
  primary : t.activeBufferType = .primary
  unlimited : t.buffer.limit = none

/-- the geometric facts (part of `TInv`) the typewriter steps rely on -/
structure TWGeom (t : Terminal) : Prop where
  cols_pos : 1 ≤ t.cols
  rows_pos : 1 ≤ t.rows
  bcols : t.buffer.cols = t.cols
  brows : t.buffer.rows = t.rows
  view_len : t.buffer.view.length = t.rows
  row_lt : t.cursor.row < t.rows
  pending : (t.pendingWrap = true ∧ t.cursor.col = t.cols) ∨ (t.pendingWrap = false ∧ t.cursor.col < t.cols)
  dirty_len : t.dirtyLines.length = t.rows

theorem TWMode.row_eq_bottom {t : Terminal} (hm : TWMode t) (h : t.cursor.row + 1 = t.rows) :
    t.cursor.row = t.bottomMargin := Nat.add_right_cancel (h.trans hm.bottom.symm)

theorem TWMode.row_ne_bottom {t : Terminal} (hm : TWMode t) (h : t.cursor.row + 1 < t.rows) :
    ¬ t.cursor.row = t.bottomMargin := fun e => Nat.ne_of_lt h (e ▸ hm.bottom)

theorem TWGeom.col_lt {t : Terminal} (hg : TWGeom t) (hp : t.pendingWrap = false) : t.cursor.col < t.cols := by
  rcases hg.pending with ⟨h1, _⟩ | ⟨_, h2⟩
  · rw [hp] at h1; cases h1
  · exact h2

def rowsText (rows : List Line) : List Nat := (rows.map Line.text).flatten

/-- **The typewriter invariant.**  `logical` (non-empty: `done ++ [cur]`) is the text typed so far.
    The rows of `sb ++ view` are: the rows of the finished lines (`closedRows`, whose `text` is `done`
    trimmed and whose unwrapped lines are prefixes of `done`), the rows of the line being typed (`ws ++ [lr]`: full-width rows, all wrapped except the
    last, spelling `cur` followed by blank padding), and blank rows below.  The cursor is on `lr`, at
    the end of `cur`: `|cur| = |ws|·cols + col`.  Hence, with `TWGeom.pending`, a wrap is pending
    (`col = cols`) only when `|cur|` is a positive multiple of `cols`; not conversely: once the deferred
    wrap is done, `col = 0` on a new `lr`.  `TW_iff` gives the clauses names. -/
def TW (t : Terminal) (logical : List (List Nat)) : Prop :=
  ∃ (done : List (List Nat)) (cur : List Nat) (closedRows ws : List Line) (lr : Line)
    (belowRows : List Line) (pad : Nat),
    logical = done ++ [cur]
    ∧ t.buffer.lines = closedRows ++ (ws ++ [lr]) ++ belowRows
    ∧ lastUnwrapped closedRows = true
    ∧ Buffer.textGo closedRows [] = done.map trimEnd
    ∧ prefixwise (unwrapOut closedRows []) done = true
    ∧ (∀ l ∈ ws, l.wrapped = true) ∧ lr.wrapped = false
    ∧ (∀ l ∈ closedRows ++ (ws ++ [lr]) ++ belowRows, l.len = t.cols)
    ∧ rowsText (ws ++ [lr]) = cur ++ List.replicate pad 0x20
    ∧ cur.length = ws.length * t.cols + t.cursor.col
    ∧ t.buffer.sb.length + t.cursor.row = closedRows.length + ws.length
    ∧ (∀ l ∈ belowRows, l.wrapped = false ∧ l.text = List.replicate t.cols 0x20)

/-- the clauses of `TW` about one decomposition of the rows.  `closed_prefix` serves the
    `TextUnwrapper` only, the rest also `text()`. -/
structure TWSplit (t : Terminal) (done : List (List Nat)) (cur : List Nat) (closedRows ws : List Line)
    (lr : Line) (belowRows : List Line) (pad : Nat) : Prop where
  lines : t.buffer.lines = closedRows ++ (ws ++ [lr]) ++ belowRows
  closed_last : lastUnwrapped closedRows = true
  closed_text : Buffer.textGo closedRows [] = done.map trimEnd
  closed_prefix : prefixwise (unwrapOut closedRows []) done = true
  ws_wrapped : ∀ l ∈ ws, l.wrapped = true
  lr_unwrapped : lr.wrapped = false
  lens : ∀ l ∈ closedRows ++ (ws ++ [lr]) ++ belowRows, l.len = t.cols
  cur_text : rowsText (ws ++ [lr]) = cur ++ List.replicate pad 0x20
  cur_len : cur.length = ws.length * t.cols + t.cursor.col
  row : t.buffer.sb.length + t.cursor.row = closedRows.length + ws.length
  below : ∀ l ∈ belowRows, l.wrapped = false ∧ l.text = List.replicate t.cols 0x20

theorem TW_iff {t : Terminal} {logical : List (List Nat)} :
    TW t logical ↔ ∃ done cur closedRows ws lr belowRows pad,
      logical = done ++ [cur] ∧ TWSplit t done cur closedRows ws lr belowRows pad := by
  constructor
  · rintro ⟨d, c, cr, ws, lr, br, pad, e, h1, h2, h3, h4, h5, h6, h7, h8, h9, h10, h11⟩
    exact ⟨d, c, cr, ws, lr, br, pad, e, h1, h2, h3, h4, h5, h6, h7, h8, h9, h10, h11⟩
  · rintro ⟨d, c, cr, ws, lr, br, pad, e, h⟩
    exact ⟨d, c, cr, ws, lr, br, pad, e, h.lines, h.closed_last, h.closed_text, h.closed_prefix, h.ws_wrapped,
      h.lr_unwrapped, h.lens, h.cur_text, h.cur_len, h.row, h.below⟩

theorem dropTrailingEmpty_eq (ls : List (List Nat)) : dropTrailingEmpty ls = rstrip List.isEmpty ls := rfl

theorem dropTrailingEmpty_append_empties (ls : List (List Nat)) (k : Nat) :
    dropTrailingEmpty (ls ++ List.replicate k []) = dropTrailingEmpty ls := by
  rw [dropTrailingEmpty_eq, dropTrailingEmpty_eq]
  exact rstrip_append_of_all _ fun x hx => by rw [(List.mem_replicate.1 hx).2]; rfl

theorem textGo_wrapped_run (ws : List Line) (hws : ∀ l ∈ ws, l.wrapped = true) (lr : Line)
    (hlr : lr.wrapped = false) (rest : List Line) (cur0 : List Nat) :
    Buffer.textGo (ws ++ [lr] ++ rest) cur0
      = trimEnd (cur0 ++ rowsText (ws ++ [lr])) :: Buffer.textGo rest [] := by
  induction ws generalizing cur0 with
  | nil => simp [rowsText, textGo_cons_unwrapped hlr]
  | cons w t ih =>
    have hw : w.wrapped = true := hws w (by simp)
    have ht : ∀ l ∈ t, l.wrapped = true := fun l hl => hws l (by simp [hl])
    rw [List.cons_append, List.cons_append, textGo_cons_wrapped hw, ih ht]
    simp [rowsText]

theorem unwrapOut_wrapped_run (ws : List Line) (hws : ∀ l ∈ ws, l.wrapped = true) (lr : Line)
    (hlr : lr.wrapped = false) (rest : List Line) (acc : List Nat) :
    unwrapOut (ws ++ [lr] ++ rest) acc
      = (acc ++ rowsText ws ++ trimEnd lr.text) :: unwrapOut rest [] := by
  induction ws generalizing acc with
  | nil => simp [rowsText, unwrapOut_cons_unwrapped hlr]
  | cons w t ih =>
    have hw : w.wrapped = true := hws w (by simp)
    have ht : ∀ l ∈ t, l.wrapped = true := fun l hl => hws l (by simp [hl])
    rw [List.cons_append, List.cons_append, unwrapOut_cons_wrapped hw, ih ht]
    simp [rowsText]

theorem unwrapOut_length {ls : List Line} (h : lastUnwrapped ls = true) :
    (unwrapOut ls []).length = (Buffer.textGo ls []).length := by
  rcases unwrapOut_trimEnd ls [] h with h1 | h1
  · rw [← h1]; simp
  · subst h1; rfl

theorem textGo_blank_rows (rows : List Line) (c : Nat)
    (h : ∀ l ∈ rows, l.wrapped = false ∧ l.text = List.replicate c 0x20) :
    Buffer.textGo rows [] = List.replicate rows.length [] := by
  induction rows with
  | nil => rfl
  | cons l t ih =>
    have hl := h l (by simp)
    rw [textGo_cons_unwrapped hl.1, ih (fun x hx => h x (by simp [hx])), hl.2]
    have : trimEnd ([] ++ List.replicate c 0x20) = trimEnd [] := trimEnd_append_spaces [] c
    rw [this]; rfl

theorem TW_text_lines {t : Terminal} {logical : List (List Nat)} (h : TW t logical) :
    ∃ k, Buffer.textGo t.buffer.lines [] = logical.map trimEnd ++ List.replicate k [] := by
  obtain ⟨done, cur, closedRows, ws, lr, belowRows, pad, rfl, s⟩ := TW_iff.1 h
  refine ⟨belowRows.length, ?_⟩
  have hmid : Buffer.textGo (ws ++ [lr] ++ belowRows) []
      = trimEnd cur :: List.replicate belowRows.length [] := by
    rw [textGo_wrapped_run ws s.ws_wrapped lr s.lr_unwrapped, textGo_blank_rows _ _ s.below, s.cur_text,
      List.nil_append, trimEnd_append_spaces]
  rw [s.lines, List.append_assoc, textGo_append_nil s.closed_last, s.closed_text, hmid]
  simp

/-- C09, first clause, from the invariant: `text()` is the typed lines, trimmed, trailing empty
    lines aside -/
theorem TW_text {t : Terminal} {logical : List (List Nat)} (hm : TWMode t) (h : TW t logical) :
    textOK logical t.text = true := by
  obtain ⟨k, hk⟩ := TW_text_lines h
  have : t.text = logical.map trimEnd ++ List.replicate k [] := (Terminal.text_prim hm.primary).trans hk
  simp only [textOK, expectedText, this, beq_iff_eq]
  have e : trimEndWs = trimEnd := rfl
  rw [e]
  exact dropTrailingEmpty_append_empties _ k

/-- two terminals (any two geometries) in typewriter state for the same typed text give the same
    `text()` -/
theorem TW_width_independent {t0 t1 : Terminal} {logical : List (List Nat)}
    (hm0 : TWMode t0) (hm1 : TWMode t1) (h0 : TW t0 logical) (h1 : TW t1 logical) :
    sameText t0.text t1.text = true := by
  have a := TW_text hm0 h0
  have b := TW_text hm1 h1
  simp only [textOK, beq_iff_eq] at a b
  simp only [sameText, beq_iff_eq, a, b]

/-- everything `TextUnwrapper` produces for a list of rows: pushes, then the final flush -/
def unwrapAll (ls : List Line) : List (List Nat) :=
  (unwrapMany [] ls).2 ++ (unwrapFlush (unwrapMany [] ls).1).toList

theorem unwrapAcc_lastUnwrapped {ls : List Line} (h : lastUnwrapped ls = true) (hne : ls ≠ [])
    (acc : List Nat) : unwrapAcc ls acc = [] := by
  induction ls generalizing acc with
  | nil => exact absurd rfl hne
  | cons l t ih =>
    cases t with
    | nil =>
      have hl : l.wrapped = false := lastUnwrapped_singleton h
      simp [unwrapAcc, hl]
    | cons l2 t2 =>
      have h' : lastUnwrapped (l2 :: t2) = true := lastUnwrapped_tail h
      unfold unwrapAcc
      split <;> exact ih h' (by simp) _

/-- when the last row is not wrapped the final flush emits nothing -/
theorem unwrapAll_eq_unwrapOut {ls : List Line} (h : lastUnwrapped ls = true) :
    unwrapAll ls = unwrapOut ls [] := by
  by_cases hne : ls = []
  · subst hne; rfl
  · have hacc : (unwrapMany [] ls).1 = [] := by
      rw [unwrapMany_spec]; exact unwrapAcc_lastUnwrapped h hne []
    simp only [unwrapAll, hacc, unwrapFlush, List.isEmpty_nil, if_true, Option.toList_none,
      List.append_nil]
    rw [unwrapMany_spec]

theorem unwrapAll_trimEnd {ls : List Line} (h : lastUnwrapped ls = true) :
    (unwrapAll ls).map trimEnd = Buffer.textGo ls [] := by
  rw [unwrapAll_eq_unwrapOut h, ← unwrap_text ls h, unwrapMany_spec]

theorem TW_lastUnwrapped {t : Terminal} {logical : List (List Nat)} (h : TW t logical) :
    lastUnwrapped t.buffer.lines = true := by
  obtain ⟨done, cur, closedRows, ws, lr, belowRows, pad, -, s⟩ := TW_iff.1 h
  rw [s.lines]
  by_cases hb : belowRows = []
  · subst hb
    rw [List.append_nil, ← List.append_assoc, lastUnwrapped_snoc]
    simp [s.lr_unwrapped]
  · rw [lastUnwrapped_append _ hb]
    obtain ⟨ini, l, rfl⟩ := exists_snoc hb
    rw [lastUnwrapped_snoc]
    simp [(s.below l (by simp)).1]

/-- C09, second clause (the part "same lines up to trailing white space"), from the invariant -/
theorem TW_unwrap {t : Terminal} {logical : List (List Nat)} (h : TW t logical) :
    dropTrailingEmpty ((unwrapAll t.buffer.lines).map trimEndWs) = expectedText logical := by
  obtain ⟨k, hk⟩ := TW_text_lines h
  have := unwrapAll_trimEnd (TW_lastUnwrapped h)
  have e : trimEndWs = trimEnd := rfl
  simp only [expectedText]
  rw [e, this, hk]
  exact dropTrailingEmpty_append_empties _ k

end Avt.Lemmas
