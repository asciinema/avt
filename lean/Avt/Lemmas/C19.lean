/-
  Avt.Lemmas.C19 — for C19 (RIS returns the terminal to its power-on state): `ESC` from every parser
  state enters `Escape` with cleared registers, and `c` then dispatches `Ris` and leaves the power-on
  parser (`feed_esc`, `feed_c_afterEsc` of Lemmas/ParserSem).  As `hard_reset` is `Terminal::new` of the
  current size and limit (`Terminal.hardReset_eq_new`, in Lemmas/InvTerminal), `ESC c` gives the power-on
  `Vt` (`feedAll_ris`), and a finishing call on that only clears the dirty flags (`finish_new`).
-/
import Avt.Spec.C19
import Avt.Lemmas.ParserSem
import Avt.Lemmas.InvTerminal
import Avt.Lemmas.FoldM

namespace Avt
namespace Lemmas.C19

theorem feedAll_append (v : Vt) (xs ys : List Nat) :
    v.feedAll (xs ++ ys) = (v.feedAll xs).bind (fun v' => v'.feedAll ys) := by
  simp only [Vt.feedAll_eq_foldM', Terminal.foldM'_append]

/-- `ESC c` from any state satisfying the invariant: exactly the power-on `Vt` of the current
    configuration (or a panic exactly when `Vt::new` would panic, i.e. never for `rows ≥ 1`) -/
theorem feedAll_ris (v : Vt) (h : Inv v = true) :
    v.feedAll [0x1b, 0x63] = Vt.new v.terminal.cols v.terminal.rows v.terminal.scrollbackLimit := by
  simp only [Inv, Bool.and_eq_true] at h
  have hx := (TOK.of_TInv h.2).xt
  simp only [Vt.feedAll, Vt.feed, ParserSem.feed_esc _ h.1, ParserSem.feed_c_afterEsc, Terminal.execute,
    Terminal.hardReset_eq_new hx, Vt.new]
  cases Terminal.new v.terminal.cols v.terminal.rows v.terminal.scrollbackLimit <;> rfl

/-- the tail of a finishing call on a power-on terminal only clears the dirty flags -/
theorem finish_new (cols rows : Nat) (lim : Option Nat) (f : Vt) (hf : Vt.new cols rows lim = some f) :
    (Vt.finish f).1 = Spec.C19.normR f := by
  obtain ⟨-, rfl⟩ := Vt.new_eq_some_iff.1 hf
  rfl

end Lemmas.C19
end Avt
