/-
  Avt.Lemmas.C10Lines — `unwrapLast` (Spec/C10.lean) on `take` and `drop`; cutting rows
  from the bottom / padding blank rows, seen on the logical lines: what `rowsOnlyLines` does never
  alters, reorders or invents a logical line (`keptOrCut`).
-/
import Avt.Lemmas.C10Logical
import Avt.Lemmas.Resize

namespace Avt.Lemmas
open Avt Avt.Spec.C10

theorem unwrapLast_take {xs : List Line} {n : Nat} (h : n < xs.length) :
    (unwrapLast xs).take n = xs.take n := by
  by_cases hx : xs = []
  · subst hx; rfl
  · obtain ⟨ini, l, rfl⟩ := exists_snoc hx
    rw [unwrapLast_append_singleton]
    simp only [List.length_append, List.length_cons, List.length_nil] at h
    rw [List.take_append_of_le_length (by omega), List.take_append_of_le_length (by omega)]

theorem unwrapLast_drop {X : List Line} {n : Nat} (h : n < X.length) :
    (unwrapLast X).drop n = unwrapLast (X.drop n) := by
  have hd : X.drop n ≠ [] := by
    intro h0; have := congrArg List.length h0; simp at this; omega
  conv => lhs; rw [← List.take_append_drop n X, unwrapLast_append hd]
  rw [List.drop_append_of_le_length (by simp; omega)]
  simp

theorem unwrapLast_head (r : Line) (t : List Line) :
    ∃ r' t', unwrapLast (r :: t) = r' :: t' ∧ r'.cells = r.cells := by
  cases t with
  | nil => exact ⟨{ r with wrapped := false }, [], by simp [unwrapLast], rfl⟩
  | cons y t2 => exact ⟨r, unwrapLast (y :: t2), unwrapLast_cons_cons r y t2, rfl⟩

theorem joinRows_head (l : Line) (t : List Line) :
    ∃ s r, joinRows (l :: t) = (l.cells ++ s) :: r := by
  cases hw : l.wrapped with
  | false => exact ⟨[], joinRows t, by rw [joinRows_cons_unwrapped hw]; simp⟩
  | true =>
    cases hj : joinRows t with
    | nil =>
      have := joinRows_eq_nil.1 hj
      subst this
      exact ⟨[], [], by rw [joinRows_cons_wrapped_nil hw]; simp⟩
    | cons x xs => exact ⟨x, xs, joinRows_cons_wrapped hw hj⟩

/-- keeping the first `k ≥ 1` rows (and clearing the wrap mark of the last kept row) keeps the first
    `m` joined lines and a prefix `p` of the next one -/
theorem joinRows_cut : ∀ (X : List Line) (k : Nat), 0 < k → k ≤ X.length →
    ∃ m p q, joinRows (unwrapLast (X.take k)) = (joinRows X).take m ++ [p]
      ∧ (joinRows X)[m]? = some q ∧ p <+: q
  | [], k, hk, hle => by simp at hle; omega
  | l :: t, 1, _, _ => by
    refine ⟨0, l.cells, ?_⟩
    obtain ⟨s, r, hs⟩ := joinRows_head l t
    refine ⟨l.cells ++ s, ?_, by rw [hs]; rfl, List.prefix_append _ _⟩
    simp [unwrapLast, joinRows]
  | l :: t, k + 2, _, hle => by
    have hle' : k + 1 ≤ t.length := by simpa using hle
    obtain ⟨m, p, q, h1, h2, h3⟩ := joinRows_cut t (k + 1) (by omega) hle'
    cases t with
    | nil => simp at hle'
    | cons y t' =>
      have htk : (l :: y :: t').take (k + 2) = l :: y :: t'.take k := by simp
      have htk' : (y :: t').take (k + 1) = y :: t'.take k := by simp
      rw [htk, unwrapLast_cons_cons]
      rw [htk'] at h1
      cases hw : l.wrapped with
      | false =>
        refine ⟨m + 1, p, q, ?_, ?_, h3⟩
        · rw [joinRows_cons_unwrapped hw, joinRows_cons_unwrapped hw, h1]; rfl
        · rw [joinRows_cons_unwrapped hw]; simpa using h2
      | true =>
        cases hj : joinRows (y :: t') with
        | nil => exact absurd (joinRows_eq_nil.1 hj) (by simp)
        | cons x xs =>
          rw [hj] at h1 h2
          rw [joinRows_cons_wrapped hw hj]
          cases m with
          | zero =>
            simp only [List.take_zero, List.nil_append] at h1
            simp only [List.getElem?_cons_zero, Option.some.injEq] at h2
            subst h2
            refine ⟨0, l.cells ++ p, l.cells ++ x, ?_, rfl, ?_⟩
            · rw [joinRows_cons_wrapped hw h1]; rfl
            · obtain ⟨s, hs⟩ := h3
              exact ⟨s, by rw [← hs]; simp⟩
          | succ m' =>
            simp only [List.take_succ_cons, List.cons_append] at h1
            refine ⟨m' + 1, p, q, ?_, by simpa using h2, h3⟩
            rw [joinRows_cons_wrapped hw h1]; rfl

theorem logicalLines_cut (X : List Line) (k : Nat) (hk : 0 < k) (hle : k ≤ X.length) :
    ∃ m p q, logicalLines (unwrapLast (X.take k)) = (logicalLines X).take m ++ [p]
      ∧ (logicalLines X)[m]? = some q ∧ p <+: q := by
  obtain ⟨m, p, q, h1, h2, h3⟩ := joinRows_cut X k hk hle
  refine ⟨m, stripDefault p, stripDefault q, ?_, ?_, ?_⟩
  · simp only [logicalLines, h1, List.map_append, List.map_take, List.map_cons, List.map_nil]
  · simp [logicalLines, h2]
  · obtain ⟨s, rfl⟩ := h3
    exact rstrip_prefix_append _ _ _

theorem logicalLines_single_wrapped (a : List Cell) : logicalLines [⟨a, true⟩] = [stripDefault a] := by
  simp [logicalLines, joinRows]

/-- `∃ m` and not `k`: a wrapped last row of `xs` swallows the first blank row (`m = k - 1`) -/
theorem logicalLines_pad (xs : List Line) (k c : Nat) :
    ∃ m, logicalLines (xs ++ List.replicate k (Line.blank c Pen.default))
      = logicalLines xs ++ List.replicate m [] := by
  by_cases h : lastUnwrapped xs = true
  · exact ⟨k, by rw [logicalLines_append h, logicalLines_blank_rows]⟩
  · have hne : xs ≠ [] := by intro h0; subst h0; simp [lastUnwrapped] at h
    obtain ⟨ini, l, rfl⟩ := exists_snoc hne
    rw [lastUnwrapped_snoc] at h
    have hw : l.wrapped = true := by simpa using h
    obtain ⟨a, w⟩ := l
    simp only at hw; subst hw
    cases k with
    | zero => exact ⟨0, by simp⟩
    | succ k' =>
      refine ⟨k', ?_⟩
      let l' : Line := ⟨a ++ List.replicate c (Cell.blank Pen.default), false⟩
      have h1 : logicalLines ((ini ++ [⟨a, true⟩]) ++ List.replicate (k' + 1) (Line.blank c Pen.default))
          = logicalLines ((ini ++ [l']) ++ List.replicate k' (Line.blank c Pen.default)) := by
        rw [List.append_assoc, List.append_assoc]
        apply logicalLines_append_congr
        rw [List.replicate_succ]
        exact logicalLines_glue a _ false _
      have h2 : lastUnwrapped (ini ++ [l']) = true := by rw [lastUnwrapped_snoc]; rfl
      have h3 : logicalLines (ini ++ [l']) = logicalLines (ini ++ [⟨a, true⟩]) := by
        apply logicalLines_append_congr
        rw [logicalLines_single_wrapped, logicalLines_cons_unwrapped rfl, logicalLines_nil,
          stripDefault_append_blanks]
      rw [h1, logicalLines_append h2, logicalLines_blank_rows, h3]

theorem keptOrCut_nil_blank (m : Nat) : keptOrCut [] (List.replicate m []) = true := by
  induction m with
  | zero => rfl
  | succ n ih => simp [List.replicate_succ, keptOrCut, ih]

theorem keptOrCut_pad (L : List (List Cell)) (m : Nat) :
    keptOrCut L (L ++ List.replicate m []) = true := by
  induction L with
  | nil => exact keptOrCut_nil_blank m
  | cons a as ih => simp [keptOrCut, ih]

theorem keptOrCut_nil_right : ∀ (L : List (List Cell)), keptOrCut L [] = true
  | [] => rfl
  | _ :: _ => rfl

theorem keptOrCut_of_cut : ∀ (L : List (List Cell)) (m : Nat) (p q : List Cell),
    L[m]? = some q → p <+: q → keptOrCut L (L.take m ++ [p]) = true
  | [], _, _, _, hq, _ => by simp at hq
  | a :: as, 0, p, q, hq, hp => by
    simp only [List.getElem?_cons_zero, Option.some.injEq] at hq
    subst hq
    simp only [List.take_zero, List.nil_append, keptOrCut, List.isEmpty_nil, Bool.and_true,
      Bool.or_eq_true]
    exact Or.inr (List.isPrefixOf_iff_prefix.2 hp)
  | a :: as, m + 1, p, q, hq, hp => by
    simp only [List.getElem?_cons_succ] at hq
    simp only [List.take_succ_cons, List.cons_append, keptOrCut, beq_self_eq_true, Bool.true_and,
      Bool.or_eq_true]
    exact Or.inl (keptOrCut_of_cut as m p q hq hp)

theorem keptOrCut_unpad : ∀ (X Y : List (List Cell)) (e : Nat),
    keptOrCut (X ++ List.replicate e []) Y = true → keptOrCut X Y = true
  | X, [], _, _ => keptOrCut_nil_right X
  | [], b :: bs, e, h => by
    simp only [List.nil_append] at h
    cases e with
    | zero => exact h
    | succ e' =>
      simp only [List.replicate_succ, keptOrCut, Bool.or_eq_true, Bool.and_eq_true, beq_iff_eq] at h
      have hb : b = [] := by
        rcases h with ⟨h1, -⟩ | ⟨h1, -⟩
        · exact h1
        · exact List.prefix_nil.1 (List.isPrefixOf_iff_prefix.1 h1)
      subst hb
      simp only [keptOrCut, List.isEmpty_nil, Bool.true_and]
      rcases h with ⟨-, h2⟩ | ⟨-, h2⟩
      · have := keptOrCut_unpad [] bs e' (by simpa using h2)
        exact this
      · have : bs = [] := by simpa using h2
        subst this; rfl
  | a :: as, b :: bs, e, h => by
    simp only [List.cons_append, keptOrCut, Bool.or_eq_true, Bool.and_eq_true] at h ⊢
    rcases h with ⟨h1, h2⟩ | h
    · exact Or.inl ⟨h1, keptOrCut_unpad as bs e h2⟩
    · exact Or.inr h

theorem keptOrCut_head_prefix {a b : List Cell} {as bs : List (List Cell)}
    (h : keptOrCut (a :: as) (b :: bs) = true) : b <+: a := by
  simp only [keptOrCut, Bool.or_eq_true, Bool.and_eq_true, beq_iff_eq] at h
  rcases h with ⟨h1, -⟩ | ⟨h1, -⟩
  · rw [h1]; exact List.prefix_refl _
  · exact List.isPrefixOf_iff_prefix.1 h1

theorem keptOrCut_cut (X : List Line) {k : Nat} (hle : k ≤ X.length) :
    keptOrCut (logicalLines X) (logicalLines (unwrapLast (X.take k))) = true := by
  cases k with
  | zero => exact keptOrCut_nil_right _
  | succ k =>
    obtain ⟨m, p, q, h1, h2, h3⟩ := logicalLines_cut X (k + 1) (Nat.succ_pos k) hle
    rw [h1]; exact keptOrCut_of_cut _ _ _ _ h2 h3

theorem keptOrCut_rowsOnlyLines (ls : List Line) (c rows rows' n : Nat) :
    keptOrCut (logicalLines ls) (logicalLines (rowsOnlyLines ls c rows rows' n)) = true := by
  rcases Buffer.rowsOnlyLines_shape ls c rows rows' n with ⟨k, e⟩ | ⟨-, e⟩ <;> rw [e]
  · obtain ⟨m, hm⟩ := logicalLines_pad ls k c
    rw [hm]; exact keptOrCut_pad _ _
  · exact keptOrCut_cut ls (Nat.sub_le _ _)

end Avt.Lemmas
