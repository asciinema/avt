/-
  Avt.Lemmas.C11Reach — a history of `HOp`s is a list of `PubOp`s, so the reachable states of the C11 block
  are reachable in the sense of Lemmas/InvVt.lean (`Reach.pub`) and inherit its induction principle, which is
  applied as `Props.Closed.Reach_induct`.
-/
import Avt.Lemmas.C11Witness
import Avt.Props.Closed

namespace Avt
namespace Lemmas.C11

def HOp.pub : HOp → PubOp
  | .feedStr s => .feedStr s
  | .feedChars s => .feedChars s
  | .resize c r => .resize c r

theorem run_pub : ∀ (hist : List HOp) (v : Vt), run v (hist.map HOp.pub) = runHist v hist
  | [], _ => rfl
  | op :: rest, v => by
    have : step v op.pub = op.run v := by cases op <;> rfl
    simp only [List.map_cons, run, runHist, this]
    cases op.run v with
    | none => rfl
    | some v' => exact run_pub rest v'

theorem Reach.pub {s : Vt} (h : Reach s) : Avt.Reach s := by
  obtain ⟨cols, rows, lim, hist, hc, hr, hv, hrun⟩ := h
  cases e : Vt.new cols rows lim with
  | none => simp [e] at hrun
  | some v0 =>
    rw [e, Option.bind_some] at hrun
    refine ⟨cols, rows, lim, v0, hist.map HOp.pub, hc, hr, e, fun op hop => ?_, (run_pub hist v0).trans hrun⟩
    obtain ⟨o, ho, rfl⟩ := List.mem_map.1 hop
    cases o with
    | resize c r => exact hv _ ho c r rfl
    | _ => trivial

/-- the resize clause of `Reach` for a history written out as a list -/
theorem resizes_valid {hist : List HOp}
    (h : hist.all (fun op => match op with | .resize c r => decide (1 ≤ c ∧ 1 ≤ r) | _ => true) = true) :
    ∀ op ∈ hist, ∀ c r, op = HOp.resize c r → 1 ≤ c ∧ 1 ≤ r := by
  intro op hop c r he
  subst he
  exact of_decide_eq_true (List.all_eq_true.1 h _ hop)

end Lemmas.C11
end Avt
