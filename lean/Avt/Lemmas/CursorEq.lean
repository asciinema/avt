/-
  Avt.Lemmas.CursorEq — the model's cursor primitives rewritten as `cursorAt` with closed-form
  coordinates, and the bounds of those coordinates; nothing here needs more of the invariant than
  `1 ≤ cols`, `1 ≤ rows`.  The signed arithmetic of the model (`isize` sums cut off at 0) is turned
  into `Nat` subtraction, `min` and `max` once, by rewriting; `omega` is kept away from `min`/`max`,
  which it handles by case splitting, slowly.  First, what the parameter default `asUsize` is.
-/
import Avt.Spec.C05
import Avt.Lemmas.Prim

namespace Avt

/-! ### `asUsize v d`: a parameter `v`, with 0 standing for the default `d` -/

theorem asUsize_of_pos {v : Nat} (h : 0 < v) (d : Nat) : asUsize v d = v := if_neg (Nat.ne_of_gt h)

theorem asUsize_pos (v : Nat) {d : Nat} (h : 1 ≤ d) : 1 ≤ asUsize v d := by
  cases v with
  | zero => exact h
  | succ k => exact Nat.succ_pos k

theorem asUsize_one (n : Nat) : asUsize n 1 = max n 1 := by
  cases n with
  | zero => rfl
  | succ k => exact (Nat.max_eq_left (Nat.succ_pos k)).symm

end Avt

namespace Avt.Lemmas.C05
open Avt Avt.Spec Avt.Spec.C05

theorem cursorAt_congr (t : Terminal) {c c' r r' : Nat} (hc : c = c') (hr : r = r') :
    cursorAt t c r = cursorAt t c' r' := by subst hc hr; rfl

theorem arg_eq (n : Nat) : asUsize n 1 = arg n := rfl

/-! ### the signed arithmetic of `move_cursor_to_rel_col` and `cursor_up` in natural numbers -/

theorem toNat_add_neg (c n : Nat) : ((c : Int) + -(n : Int)).toNat = c - n := by
  rw [← Int.sub_eq_add_neg]; exact Int.toNat_sub c n

theorem toNat_max (x y : Int) : (max x y).toNat = max x.toNat y.toNat := by
  rw [Int.max_def, Nat.max_def]
  by_cases h : x ≤ y
  · rw [if_pos h, if_pos (Int.toNat_le_toNat h)]
  · rw [if_neg h]
    have hyx := Int.toNat_le_toNat (Int.le_of_lt (Int.not_le.mp h))
    split
    · exact Nat.le_antisymm ‹_› hyx
    · rfl

section
variable {t : Terminal}

theorem lastCol_lt (hc : 1 ≤ t.cols) : lastCol t < t.cols := Nat.sub_lt hc Nat.one_pos
theorem lastRow_lt (hr : 1 ≤ t.rows) : lastRow t < t.rows := Nat.sub_lt hr Nat.one_pos

theorem realCol_lt (hc : 1 ≤ t.cols) : realCol t < t.cols :=
  Nat.lt_of_le_of_lt (Nat.min_le_right ..) (lastCol_lt hc)

theorem realCol_of_lt (h : t.cursor.col < t.cols) : realCol t = t.cursor.col :=
  Nat.min_eq_left (Nat.le_sub_one_of_lt h)

theorem realCol_of_eq (h : t.cursor.col = t.cols) : realCol t = t.cols - 1 :=
  Nat.min_eq_right (h ▸ Nat.sub_le ..)

theorem left_lt (hc : 1 ≤ t.cols) (n : Nat) : left t n < t.cols :=
  Nat.lt_of_le_of_lt (Nat.sub_le ..) (realCol_lt hc)

theorem right_lt (hc : 1 ≤ t.cols) (n : Nat) : right t n < t.cols :=
  Nat.lt_of_le_of_lt (Nat.min_le_right ..) (lastCol_lt hc)

theorem absCol_lt (hc : 1 ≤ t.cols) (c : Nat) : absCol t c < t.cols :=
  Nat.lt_of_le_of_lt (Nat.min_le_right ..) (lastCol_lt hc)

theorem up_of_lt (h : t.cursor.row < t.topMargin) (n : Nat) : up t n = t.cursor.row - n := if_pos h

theorem up_of_ge (h : t.topMargin ≤ t.cursor.row) (n : Nat) :
    up t n = max t.topMargin (t.cursor.row - n) := if_neg (Nat.not_lt.2 h)

theorem down_of_gt (h : t.bottomMargin < t.cursor.row) (n : Nat) :
    down t n = min (lastRow t) (t.cursor.row + n) := if_pos h

theorem down_of_le (h : t.cursor.row ≤ t.bottomMargin) (n : Nat) :
    down t n = min t.bottomMargin (t.cursor.row + n) := if_neg (Nat.not_lt.2 h)

theorem oneDown_of_lt (h : t.cursor.row < lastRow t) :
    oneDown t = cursorAt t (realCol t) (t.cursor.row + 1) := if_pos h

theorem oneDown_of_not_lt (h : ¬t.cursor.row < lastRow t) : oneDown t = t := if_neg h

theorem up_lt (hrow : t.cursor.row < t.rows) (htop : t.topMargin < t.rows) (n : Nat) : up t n < t.rows := by
  have : t.cursor.row - n < t.rows := Nat.lt_of_le_of_lt (Nat.sub_le ..) hrow
  unfold up
  split
  · exact this
  · exact Nat.max_lt.2 ⟨htop, this⟩

theorem down_lt (hr : 1 ≤ t.rows) (hbot : t.bottomMargin < t.rows) (n : Nat) : down t n < t.rows := by
  unfold down
  split
  · exact Nat.lt_of_le_of_lt (Nat.min_le_left ..) (lastRow_lt hr)
  · exact Nat.lt_of_le_of_lt (Nat.min_le_left ..) hbot

theorem absRow_lt (hr : 1 ≤ t.rows) (hbot : t.bottomMargin < t.rows) (r : Nat) : absRow t r < t.rows := by
  unfold absRow
  split
  · exact Nat.lt_of_le_of_lt (Nat.min_le_right ..) hbot
  · exact Nat.lt_of_le_of_lt (Nat.min_le_right ..) (lastRow_lt hr)

theorem newMargins_fst_lt (htop : t.topMargin < t.rows) (a b : Nat) : (newMargins t a b).1 < t.rows := by
  unfold newMargins
  simp only
  generalize (if b = 0 then t.rows else b) - 1 = bottom
  split
  · exact Nat.lt_trans ‹_ ∧ _›.1 ‹_ ∧ _›.2
  · exact htop

theorem toCol_eq (c : Nat) : t.doMoveCursorToCol c = cursorAt t c t.cursor.row := rfl

theorem toRow_eq (hc : 1 ≤ t.cols) (r : Nat) :
    t.doMoveCursorToRow r = some (cursorAt t (realCol t) r) := by
  simp only [Terminal.doMoveCursorToRow, csub_eq_some hc, Option.map_some]
  rfl

theorem moveToCol_eq (hc : 1 ≤ t.cols) (c : Nat) :
    t.moveCursorToCol c = some (cursorAt t (absCol t c) t.cursor.row) := by
  unfold Terminal.moveCursorToCol absCol lastCol
  split
  · rw [csub_eq_some hc, Nat.min_eq_right (Nat.le_trans (Nat.sub_le ..) ‹_›)]; rfl
  · rw [Nat.min_eq_left (Nat.le_sub_one_of_lt (Nat.not_le.mp ‹_›))]; rfl

/-- `move_cursor_to_rel_col` is `move_cursor_to_col` of the signed sum cut off at 0 -/
theorem relCol_eq (hc : 1 ≤ t.cols) (rel : Int) :
    t.moveCursorToRelCol rel
      = some (cursorAt t (absCol t ((t.cursor.col : Int) + rel).toNat) t.cursor.row) := by
  rw [← moveToCol_eq hc]
  unfold Terminal.moveCursorToRelCol Terminal.moveCursorToCol
  by_cases h : (t.cursor.col : Int) + rel < 0
  · rw [if_pos h, Int.toNat_of_nonpos (Int.le_of_lt h), if_neg (by omega)]
  · rw [if_neg h]

theorem cuf_eq (hc : 1 ≤ t.cols) (n : Nat) :
    t.moveCursorToRelCol (n : Int) = some (cursorAt t (right t n) t.cursor.row) := by
  rw [relCol_eq hc, ← Int.natCast_add, Int.toNat_natCast]
  rfl

/-- CUB counts from the last real column: with a wrap pending the cursor is in column `cols` and the
    distance is one more -/
theorem cub_eq (hc : 1 ≤ t.cols)
    (hcol : (t.pendingWrap = true ∧ t.cursor.col = t.cols) ∨ (t.pendingWrap = false ∧ t.cursor.col < t.cols))
    (n : Nat) : t.cub n = some (cursorAt t (left t (arg n)) t.cursor.row) := by
  unfold Terminal.cub left
  simp only [arg_eq, relCol_eq hc]
  unfold absCol lastCol
  rcases hcol with ⟨hp, hcol⟩ | ⟨hp, hcol⟩
  · have e : -(arg n : Int) - 1 = -((1 + arg n : Nat) : Int) := by
      rw [Int.natCast_add, Int.neg_add, Int.add_comm]; rfl
    rw [hp, if_pos rfl, e, toNat_add_neg, realCol_of_eq hcol, hcol, Nat.sub_add_eq,
      Nat.min_eq_left (Nat.sub_le ..)]
  · rw [hp, if_neg Bool.false_ne_true, toNat_add_neg, realCol_of_lt hcol,
      Nat.min_eq_left (Nat.le_trans (Nat.sub_le ..) (Nat.le_sub_one_of_lt hcol))]

theorem bs_eq_cub : t.bs = t.cub 1 := by
  unfold Terminal.bs Terminal.cub
  cases t.pendingWrap <;> rfl

theorem moveToRow_eq (hc : 1 ≤ t.cols) (hr : 1 ≤ t.rows) (r : Nat) :
    t.moveCursorToRow r = some (cursorAt t (realCol t) (absRow t r)) := by
  unfold Terminal.moveCursorToRow Terminal.actualBottomMargin Terminal.actualTopMargin absRow
  cases t.originMode
  · simp only [Bool.false_eq_true, if_false, csub_eq_some hr, toRow_eq hc, Nat.zero_add, Nat.max_zero]
    rfl
  · simp only [if_true, toRow_eq hc, Nat.max_eq_left (Nat.le_add_right ..)]

theorem home_eq (hc : 1 ≤ t.cols) :
    t.moveCursorHome = some (cursorAt t 0 (if t.originMode then t.topMargin else 0)) := by
  unfold Terminal.moveCursorHome
  simp only [toCol_eq]
  rw [toRow_eq (t := cursorAt t 0 t.cursor.row) hc]
  rfl

theorem cursorUp_eq (hc : 1 ≤ t.cols) (n : Nat) :
    t.cursorUp n = some (cursorAt t (realCol t) (up t n)) := by
  unfold Terminal.cursorUp up
  rw [toRow_eq hc]
  split
  · rw [toNat_max, Int.toNat_sub, Int.toNat_zero, Nat.max_zero]
  · rw [toNat_max, Int.toNat_sub, Int.toNat_natCast, Nat.max_comm]

theorem cursorDown_eq (hc : 1 ≤ t.cols) (hr : 1 ≤ t.rows) (n : Nat) :
    t.cursorDown n = some (cursorAt t (realCol t) (down t n)) := by
  unfold Terminal.cursorDown down
  by_cases h : t.cursor.row > t.bottomMargin
  · simp only [h, if_true, csub_eq_some hr, toRow_eq hc, lastRow]
  · simp only [h, if_false, toRow_eq hc]

theorem downWithScroll_eq (hc : 1 ≤ t.cols) (hr : 1 ≤ t.rows) (h : t.cursor.row ≠ t.bottomMargin) :
    t.moveCursorDownWithScroll = some (oneDown t) := by
  unfold Terminal.moveCursorDownWithScroll oneDown
  simp only [h, if_false, csub_eq_some hr, lastRow]
  by_cases h' : t.cursor.row < t.rows - 1
  · simp only [h', if_true]; exact toRow_eq hc _
  · simp only [h', if_false]

end

end Avt.Lemmas.C05
