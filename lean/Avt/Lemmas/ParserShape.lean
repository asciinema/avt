/-
  Avt.Lemmas.ParserShape — what C03 and C20 say beyond single sequences: the text classifier of
  `Avt.Spec.C20` accepts only text on which the reference parser emits nothing and ends in Ground
  (`isInertInput_spec`); registers that nothing can read before the next `clear` do not matter
  (`refRun_norm`); `ESC Fe` does what the C1 control does (`fe_fold`); the shape of the written
  parameters (`shapeOK_parseParams`).
-/
import Avt.Lemmas.ParserSeq

namespace Avt.ParserSeq
open Avt Avt.Spec.C03 Avt.Spec.C20 Avt.ParserTable Avt.ParserSem

theorem splitMarker_spec (s : List Nat) : (splitMarker s).1.toList ++ (splitMarker s).2 = s := by
  unfold splitMarker
  split
  · split <;> rfl
  · rfl

theorem parseCsi_spec {s : List Nat} {t : CsiText} {rest : List Nat} (h : parseCsi s = some (t, rest)) :
    s = t.body ++ rest ∧ t.wf = true := by
  unfold parseCsi at h
  simp only at h
  split at h
  · rename_i f rest' hd
    split at h
    · rename_i hwf
      simp only [Option.some.injEq, Prod.mk.injEq] at h
      obtain ⟨rfl, rfl⟩ := h
      refine ⟨?_, hwf⟩
      unfold CsiText.body
      simp only [List.append_assoc, List.cons_append, List.nil_append]
      rw [← hd, List.takeWhile_append_dropWhile, List.takeWhile_append_dropWhile, splitMarker_spec]
    · cases h
  · cases h

theorem parseEsc_spec {s : List Nat} {t : EscText} {rest : List Nat} (h : parseEsc s = some (t, rest)) :
    s = t.body ++ rest ∧ t.wf = true := by
  unfold parseEsc at h
  simp only at h
  split at h
  · rename_i f rest' hd
    split at h
    · rename_i hwf
      simp only [Option.some.injEq, Prod.mk.injEq] at h
      obtain ⟨rfl, rfl⟩ := h
      refine ⟨?_, hwf⟩
      unfold EscText.body
      simp only [List.append_assoc, List.cons_append, List.nil_append]
      rw [← hd, List.takeWhile_append_dropWhile]
    · cases h
  · cases h

theorem scanStr_spec (k : StrKind) {s rest : List Nat} (h : scanStr k s = some rest) :
    ∃ payload term, s = payload ++ term ++ rest ∧ payloadOK k payload = true ∧ term ∈ k.terms := by
  induction s with
  | nil => cases h
  | cons c r ih =>
    unfold scanStr at h
    split at h
    · rename_i hc
      cases h
      exact ⟨[], [0x9C], by simp [hc], rfl, by simp [StrKind.terms]⟩
    · split at h
      · rename_i hc
        cases h
        exact ⟨[], [0x07], by simp [hc.1], rfl, by simp [StrKind.terms, hc.2]⟩
      · split at h
        · rename_i hc
          split at h
          · rename_i r' 
            cases h
            exact ⟨[], [0x1B, 0x5C], by simp [hc], rfl, by simp [StrKind.terms]⟩
          · cases h
        · split at h
          · rename_i hc
            obtain ⟨payload, term, h1, h2, h3⟩ := ih h
            refine ⟨c :: payload, term, by simp [h1], ?_, h3⟩
            simp only [payloadOK, List.all_cons, hc, Bool.true_and]
            exact h2
          · cases h

theorem kindOfIntro7_spec {x : Nat} {k : StrKind} (h : kindOfIntro7 x = some k) : k.intro7 = x := by
  have := List.find?_some h
  simpa using this

theorem kindOfIntro8_spec {x : Nat} {k : StrKind} (h : kindOfIntro8 x = some k) : k.intro8 = x := by
  have := List.find?_some h
  simpa using this

/-- an inert piece of text: all code points, and from Ground the reference parser emits nothing on it
    and is back in Ground -/
def InertPre (pre : List Nat) : Prop :=
  (∀ c ∈ pre, c < 0x110000) ∧
    ∀ a : AState, a.state = .Ground → (refRun a pre).2 = [] ∧ (refRun a pre).1.state = .Ground

theorem all_inR_lt {l : List Nat} {lo hi : Nat} (h : l.all (inR lo hi) = true) (hh : hi < 0x110000) :
    ∀ c ∈ l, c < 0x110000 := by
  intro c hc
  have := List.all_eq_true.1 h c hc
  rw [inR_iff] at this
  omega

theorem csi_body_lt {t : CsiText} (ht : t.wf = true) : ∀ c ∈ t.body, c < 0x110000 := by
  obtain ⟨marker, params, ints, final⟩ := t
  simp only [CsiText.wf, Bool.and_eq_true] at ht
  obtain ⟨⟨⟨⟨hm, hp⟩, -⟩, hi⟩, hf⟩ := ht
  intro c hc
  simp only [CsiText.body, List.mem_append, List.mem_cons, List.not_mem_nil, or_false] at hc
  rcases hc with ((hc | hc) | hc) | hc
  · cases marker with
    | none => cases hc
    | some m =>
      simp only [Option.toList_some, List.mem_cons, List.not_mem_nil, or_false] at hc
      subst hc
      rw [inR_iff] at hm; omega
  · exact all_inR_lt hp (by decide) c hc
  · exact all_inR_lt hi (by decide) c hc
  · subst hc; rw [inR_iff] at hf; omega

theorem esc_body_lt {t : EscText} (ht : t.wf = true) : ∀ c ∈ t.body, c < 0x110000 := by
  obtain ⟨ints, final⟩ := t
  simp only [EscText.wf, Bool.and_eq_true] at ht
  obtain ⟨⟨hi, hf⟩, -⟩ := ht
  intro c hc
  simp only [EscText.body, List.mem_append, List.mem_cons, List.not_mem_nil, or_false] at hc
  rcases hc with hc | hc
  · exact all_inR_lt hi (by decide) c hc
  · subst hc; rw [inR_iff] at hf; omega

theorem csi_seq_lt {intro : List Nat} (hi : intro = [0x1B, 0x5B] ∨ intro = [0x9B]) {t : CsiText}
    (ht : t.wf = true) : ∀ c ∈ intro ++ t.body, c < 0x110000 := by
  intro c hc
  rcases List.mem_append.1 hc with hc | hc
  · rcases hi with rfl | rfl <;> simp at hc <;> omega
  · exact csi_body_lt ht c hc

theorem esc_seq_lt {t : EscText} (ht : t.wf = true) : ∀ c ∈ 0x1B :: t.body, c < 0x110000 := by
  intro c hc
  rcases List.mem_cons.1 hc with rfl | hc
  · decide
  · exact esc_body_lt ht c hc

theorem payloadChar_lt {k : StrKind} {c : Nat} (h : payloadCharOK k c = true) : c < 0x110000 := by
  simp only [payloadCharOK, Bool.and_eq_true, Bool.or_eq_true, inR_iff] at h
  omega

theorem term_lt {k : StrKind} {term : List Nat} (ht : term ∈ k.terms) : ∀ c ∈ term, c < 0x110000 := by
  simp only [StrKind.terms, List.mem_append, List.mem_cons, List.not_mem_nil, or_false] at ht
  intro c hc
  rcases ht with (rfl | rfl) | ht
  · simp at hc; omega
  · simp at hc; omega
  · split at ht
    · simp at ht; subst ht; simp at hc; omega
    · cases ht

theorem intro7_lt (k : StrKind) : k.intro7 < 0x110000 := by cases k <;> decide
theorem intro8_lt (k : StrKind) : k.intro8 < 0x110000 := by cases k <;> decide

theorem inert_csi (intro : List Nat) (hi : intro = [0x1B, 0x5B] ∨ intro = [0x9B]) (t : CsiText) (ht : t.wf = true)
    (hf : t.fn.isNone = true) : InertPre (intro ++ t.body) := by
  have hfn : t.fn = none := by simpa using hf
  refine ⟨csi_seq_lt hi ht, fun a _ => ?_⟩
  rw [refRun_append, csi_intro_run intro hi, csi_run t ht, hfn]
  exact ⟨rfl, rfl⟩

theorem inert_esc (t : EscText) (ht : t.wf = true) (hf : t.fn.isNone = true) : InertPre (0x1B :: t.body) := by
  have hfn : t.fn = none := by simpa using hf
  refine ⟨esc_seq_lt ht, fun a _ => ?_⟩
  simp only [refRun, refStep_esc]
  rw [esc_run t ht, hfn]
  exact ⟨rfl, rfl⟩

theorem inert_str (k : StrKind) (intro payload term : List Nat) (hi : intro ∈ k.intros)
    (hp : payloadOK k payload = true) (ht : term ∈ k.terms) : InertPre (intro ++ payload ++ term) := by
  constructor
  · intro c hc
    simp only [List.mem_append] at hc
    rcases hc with (hc | hc) | hc
    · simp only [StrKind.intros, List.mem_cons, List.not_mem_nil, or_false] at hi
      have h7 := intro7_lt k
      have h8 := intro8_lt k
      rcases hi with rfl | rfl <;> simp at hc <;> omega
    · exact payloadChar_lt (List.all_eq_true.1 hp c hc)
    · exact term_lt ht c hc
  · intro a ha
    exact str_inert k intro payload term hi hp ht a ha

theorem inert_control (c : Nat) (hc : unassignedControl c = true) : InertPre [c] := by
  constructor
  · intro x hx
    simp only [List.mem_cons, List.not_mem_nil, or_false] at hx
    subst hx
    simp only [unassignedControl, Bool.and_eq_true, Bool.or_eq_true, inR_iff] at hc
    omega
  · intro a ha
    simp only [refRun, control_run c hc a ha]
    exact ⟨rfl, ha⟩

theorem stripInert_spec {s rest : List Nat} (h : stripInert s = some rest) :
    ∃ pre, s = pre ++ rest ∧ InertPre pre := by
  unfold stripInert at h
  split at h
  · cases h
  · -- ESC …
    rename_i r
    split at h
    · cases h
    · rename_i x r'
      split at h
      · -- ESC [ : a CSI sequence
        rename_i hx
        subst hx
        split at h
        · rename_i t rest' hp
          split at h
          · rename_i hf
            cases h
            obtain ⟨h1, h2⟩ := parseCsi_spec hp
            refine ⟨[0x1B, 0x5B] ++ t.body, by simp [h1], inert_csi _ (Or.inl rfl) t h2 hf⟩
          · cases h
        · cases h
      · split at h
        · -- ESC ] P X ^ _ : a control string
          rename_i k hk
          obtain ⟨payload, term, h1, h2, h3⟩ := scanStr_spec k h
          have hx := kindOfIntro7_spec hk
          refine ⟨[0x1B, k.intro7] ++ payload ++ term, by simp [h1, hx], inert_str k _ payload term (by simp [StrKind.intros]) h2 h3⟩
        · -- any other ESC sequence
          split at h
          · rename_i t rest' hp
            split at h
            · rename_i hf
              cases h
              obtain ⟨h1, h2⟩ := parseEsc_spec hp
              exact ⟨0x1B :: t.body, by simp [h1], inert_esc t h2 hf⟩
            · cases h
          · cases h
  · rename_i c r hne
    split at h
    · -- 8-bit CSI
      rename_i hc
      subst hc
      split at h
      · rename_i t rest' hp
        split at h
        · rename_i hf
          cases h
          obtain ⟨h1, h2⟩ := parseCsi_spec hp
          exact ⟨[0x9B] ++ t.body, by simp [h1], inert_csi _ (Or.inr rfl) t h2 hf⟩
        · cases h
      · cases h
    · split at h
      · -- 8-bit string introducer
        rename_i k hk
        obtain ⟨payload, term, h1, h2, h3⟩ := scanStr_spec k h
        have hx := kindOfIntro8_spec hk
        exact ⟨[k.intro8] ++ payload ++ term, by simp [h1, hx], inert_str k _ payload term (by simp [StrKind.intros]) h2 h3⟩
      · split at h
        · rename_i hc
          cases h
          exact ⟨[c], rfl, inert_control c hc⟩
        · cases h

theorem InertPre.nil : InertPre [] := by
  refine ⟨?_, ?_⟩
  · intro c hc; cases hc
  · intro a ha; exact ⟨rfl, ha⟩

theorem InertPre.append {s t : List Nat} (hs : InertPre s) (ht : InertPre t) : InertPre (s ++ t) := by
  constructor
  · intro c hc
    rcases List.mem_append.1 hc with h | h
    · exact hs.1 c h
    · exact ht.1 c h
  · intro a ha
    have h1 := hs.2 a ha
    have h2 := ht.2 _ h1.2
    rw [refRun_append]
    simp only [h1.1, h2.1, List.append_nil]
    exact ⟨trivial, h2.2⟩

theorem inertGo_spec (n : Nat) (s : List Nat) (h : inertGo n s = true) : InertPre s := by
  induction n generalizing s with
  | zero =>
    cases s with
    | nil => exact InertPre.nil
    | cons c r => cases h
  | succ n ih =>
    cases s with
    | nil => exact InertPre.nil
    | cons c r =>
      unfold inertGo at h
      split at h
      · rename_i rest hs
        obtain ⟨pre, h1, h2⟩ := stripInert_spec hs
        rw [h1]
        exact h2.append (ih rest h)
      · cases h

/-- **Soundness of the text classifier** for the reference parser -/
theorem isInertInput_spec {s : List Nat} (h : isInertInput s = true) : InertPre s := by
  simp only [isInertInput, Bool.and_eq_true] at h
  exact inertGo_spec _ _ h.2

/-- from a state whose registers are dead, no transition reads a register, and the registers stay
    dead until a `clear` -/
def deadOK (w : Kind × PState) : Bool :=
  ((w.1 == .ignore || w.1 == .put || w.1 == .oscPut || w.1 == .print || w.1 == .execute) && dead w.2)
    || w.1 == .clear

theorem deadOK_all : ∀ st ∈ PState.all.filter dead, ∀ c, deadOK (williams st c) = true :=
  williams_outs _ (fun _ => deadOK) (by decide +kernel)

theorem norm_state (a : AState) : a.norm.state = a.state := by
  unfold AState.norm; split <;> rfl

theorem norm_of_dead {a : AState} (h : dead a.state = true) : a.norm = { state := a.state } := by
  unfold AState.norm; rw [if_pos h]

theorem norm_of_live {a : AState} (h : dead a.state = false) : a.norm = a := by
  unfold AState.norm; rw [if_neg (by simp [h])]

/-- in a dead state the registers do not matter -/
theorem norm_eq_of_dead {a b : AState} (hs : a.state = b.state) (hd : dead a.state = true) : a.norm = b.norm := by
  rw [norm_of_dead hd, norm_of_dead (hs ▸ hd), hs]

theorem refStep_norm {a b : AState} (h : a.norm = b.norm) (c : Nat) :
    (refStep a c).2 = (refStep b c).2 ∧ (refStep a c).1.norm = (refStep b c).1.norm := by
  have hs : a.state = b.state := by rw [← norm_state a, ← norm_state b, h]
  cases hd : dead a.state with
  | false =>
    have hdb : dead b.state = false := by rw [← hs]; exact hd
    have : a = b := (norm_of_live hd).symm.trans (h.trans (norm_of_live hdb))
    subst this
    exact ⟨rfl, rfl⟩
  | true =>
    have hf := deadOK_all a.state (List.mem_filter.2 ⟨mem_all _, hd⟩) c
    simp only [deadOK, Bool.or_eq_true, Bool.and_eq_true, beq_iff_eq] at hf
    unfold refStep
    rw [← hs]
    generalize williams a.state c = w at hf
    obtain ⟨k, s⟩ := w
    simp only at hf
    rcases hf with ⟨hk, hds⟩ | hk
    · rcases hk with (((hk | hk) | hk) | hk) | hk <;> subst hk <;> exact ⟨rfl, norm_eq_of_dead rfl hds⟩
    · subst hk
      exact ⟨rfl, rfl⟩

theorem refRun_norm {a b : AState} (h : a.norm = b.norm) (s : List Nat) :
    (refRun a s).2 = (refRun b s).2 ∧ (refRun a s).1.norm = (refRun b s).1.norm := by
  induction s generalizing a b with
  | nil => exact ⟨rfl, h⟩
  | cons c cs ih =>
    have h1 := refStep_norm h c
    have h2 := ih h1.2
    simp only [refRun, h1.1, h2.1]
    exact ⟨trivial, h2.2⟩

/-- the finite check behind Fe folding: for every state and every `c` in `@`…`_`, `ESC c` and the C1
    control `c + 0x40` do the same thing -/
def feCheck (st : PState) (c : Nat) : Bool :=
  let w2 := williams .Escape c
  let w3 := williams st (c + 0x40)
  w2.2 == w3.2 &&
    ((w2.1 == .clear && w3.1 == .clear)
      || (w2.1 == .ignore && w3.1 == .ignore && dead w2.2)
      || (w2.1 == .dispatchEsc && w3.1 == .execute && dead w2.2
            && refDispatchEsc none c == refExecute (c + 0x40))
      || (w2.1 == .dispatchEsc && w3.1 == .ignore && dead w2.2 && refDispatchEsc none c == none))

theorem feCheck_all : ∀ st ∈ PState.all, ∀ c ∈ List.range' 0x40 0x20, feCheck st c = true := by decide +kernel

theorem fe_fold (a : AState) (c : Nat) (h1 : 0x40 ≤ c) (h2 : c ≤ 0x5F) :
    (refStep a 0x1B).2 = none
      ∧ (refStep (refStep a 0x1B).1 c).2 = (refStep a (c + 0x40)).2
      ∧ (refStep (refStep a 0x1B).1 c).1.state = (refStep a (c + 0x40)).1.state
      ∧ (refStep (refStep a 0x1B).1 c).1.norm = (refStep a (c + 0x40)).1.norm := by
  have hf := feCheck_all a.state (mem_all a.state) c (List.mem_range'_1.2 ⟨h1, by omega⟩)
  rw [refStep_esc]
  refine ⟨rfl, ?_⟩
  unfold feCheck at hf
  simp only at hf
  unfold refStep
  simp only
  generalize williams .Escape c = w2 at hf
  generalize williams a.state (c + 0x40) = w3 at hf
  obtain ⟨k2, s2⟩ := w2
  obtain ⟨k3, s3⟩ := w3
  simp only [Bool.and_eq_true, Bool.or_eq_true, beq_iff_eq] at hf
  obtain ⟨hs, hk⟩ := hf
  subst hs
  rcases hk with ((⟨rfl, rfl⟩ | ⟨⟨rfl, rfl⟩, hd⟩) | ⟨⟨⟨rfl, rfl⟩, hd⟩, he⟩) | ⟨⟨⟨rfl, rfl⟩, hd⟩, he⟩
  · exact ⟨rfl, rfl, rfl⟩
  · exact ⟨rfl, rfl, norm_eq_of_dead rfl hd⟩
  · -- reduce the `match` first, or `he` is unified with it through the dispatch tables
    dsimp only
    exact ⟨he, rfl, norm_eq_of_dead rfl hd⟩
  · dsimp only
    exact ⟨he, rfl, norm_eq_of_dead rfl hd⟩

/-- shape of written parameters: 1–32 parameters, 1–6 sub-parts each, every value below 65536 -/
def shapeOK (ps : List (List Nat)) : Prop :=
  1 ≤ ps.length ∧ ps.length ≤ 32 ∧ ∀ q ∈ ps, 1 ≤ q.length ∧ q.length ≤ 6 ∧ ∀ v ∈ q, v < 65536

theorem shapeOK_stepW {ps : List (List Nat)} (h : shapeOK ps) (c : Nat) : shapeOK (stepW ps c) := by
  obtain ⟨h1, h2, h3⟩ := h
  unfold stepW
  split
  · split
    · refine ⟨by simp, by simp; omega, ?_⟩
      intro q hq
      rcases List.mem_append.1 hq with hq | hq
      · exact h3 q hq
      · simp only [List.mem_cons, List.not_mem_nil, or_false] at hq
        subst hq
        exact ⟨by decide, by decide, by intro v hv; simp at hv; omega⟩
    · exact ⟨h1, h2, h3⟩
  · split
    · refine ⟨by rw [modLast_length]; exact h1, by rw [modLast_length]; exact h2, ?_⟩
      intro q hq
      rcases mem_modLast hq with hq | ⟨y, hy, rfl⟩
      · exact h3 q hq
      · have := h3 y hy
        split
        · refine ⟨by simp, by simp; omega, ?_⟩
          intro v hv
          rcases List.mem_append.1 hv with hv | hv
          · exact this.2.2 v hv
          · simp at hv; omega
        · exact this
    · refine ⟨by rw [modLast_length]; exact h1, by rw [modLast_length]; exact h2, ?_⟩
      intro q hq
      rcases mem_modLast hq with hq | ⟨y, hy, rfl⟩
      · exact h3 q hq
      · have := h3 y hy
        refine ⟨by rw [modLast_length]; exact this.1, by rw [modLast_length]; exact this.2.1, ?_⟩
        intro v hv
        rcases mem_modLast hv with hv | ⟨w, _, rfl⟩
        · exact this.2.2 v hv
        · exact Nat.mod_lt _ (by decide)

theorem shapeOK_parseParams (body : List Nat) : shapeOK (parseParams body) := by
  unfold parseParams
  have h0 : shapeOK [[0]] := ⟨by decide, by decide, by intro q hq; simp at hq; subst hq; simp⟩
  generalize ([[0]] : List (List Nat)) = ps at h0
  induction body generalizing ps with
  | nil => exact h0
  | cons c cs ih => exact ih _ (shapeOK_stepW h0 c)

end Avt.ParserSeq
