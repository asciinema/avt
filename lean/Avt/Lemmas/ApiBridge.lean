/-
  Avt.Lemmas.ApiBridge — from the parser theorems (text ↦ functions) and the terminal theorems
  (function ↦ specification, under `TInv`) to the public API: `Vt.feedStr` / `Vt.feedAll` over the bytes
  a user feeds, from every state reachable through the API (`Reach`).  A call returns `finishT` of the
  fold of `execute` over the emitted functions (`Api_bridge_run`), or of a sound specification of them
  (`SpecFor`, `Api_bridge_spec`); `finishT` is `changes()` + `gc()` (`Spec.finishT_eq`).  What the
  call returns is stated once, as `Fed`.
-/
import Avt.Props.Closed2
import Avt.Props.C03
import Avt.Props.C08
import Avt.Props.C20
import Avt.Lemmas.C11CellsExec

namespace Avt.Api
open Avt Avt.Spec

/-- the model parser, started in state `p`, emits exactly the functions `fs` while reading `xs` -/
def emits (p : Parser) (xs : List Nat) (fs : List Function) : Prop := Frame.emitted p xs = fs

theorem emits_of_run {xs : List Nat} {p q : Parser} {fs : List Function}
    (h : Spec.C03.run p xs = some (q, fs)) : emits p xs fs :=
  Frame.emitted_of_run h

theorem emits_of_emit {xs : List Nat} {p q : Parser} {fs : List Function}
    (h : Spec.C08.emit p xs = some (q, fs)) : emits p xs fs :=
  emits_of_run (by rw [← Spec.C08.emit_eq_run]; exact h)

theorem run_ok : ∀ (xs : List Nat) {p : Parser}, PInv p = true →
    ∃ q fs, Spec.C03.run p xs = some (q, fs) ∧ PInv q = true
  | [], p, hp => ⟨p, [], rfl, hp⟩
  | c :: cs, p, hp => by
    obtain ⟨p', f, h1, h2⟩ := parserOK p c hp
    obtain ⟨q, fs, h3, h4⟩ := run_ok cs h2
    exact ⟨q, f.toList ++ fs, by simp only [Spec.C03.run, h1, h3], h4⟩

abbrev execAll (fs : List Function) (t : Terminal) : Option Terminal :=
  Terminal.foldM' Terminal.execute fs t

/-- under the terminal invariant the fold always succeeds and keeps the invariant (C01 + C02) -/
theorem execAll_ok (fs : List Function) {t : Terminal} (h : TInv t = true) :
    ∃ t', execAll fs t = some t' ∧ TInv t' = true :=
  (Terminal.foldM'_ok (fun _ f h => Terminal.execute_ok resizeOK f h) fs (TOK.of_TInv h)).imp
    fun _ h => ⟨h.1, h.2.TInv⟩

theorem execAll_append (fs gs : List Function) (t : Terminal) :
    execAll (fs ++ gs) t = (execAll fs t).bind (execAll gs) :=
  Terminal.foldM'_append _ fs gs t

theorem finish_eq (p : Parser) (t : Terminal) :
    Vt.finish ⟨p, t⟩ = (⟨p, finishT t⟩, ⟨Dirty.toVec t.dirtyLines, ((t.changes).1.gc).2⟩) := rfl

theorem finishT_view (t : Terminal) : (finishT t).buffer.view = t.buffer.view :=
  (Frame.gc_view _).1

theorem finishT_keeps (t : Terminal) :
    (finishT t).cursor = t.cursor ∧ (finishT t).pen = t.pen ∧ (finishT t).cols = t.cols
      ∧ (finishT t).rows = t.rows ∧ (finishT t).tabs = t.tabs
      ∧ (finishT t).topMargin = t.topMargin ∧ (finishT t).bottomMargin = t.bottomMargin
      ∧ (finishT t).originMode = t.originMode ∧ (finishT t).autoWrapMode = t.autoWrapMode
      ∧ (finishT t).insertMode = t.insertMode ∧ (finishT t).newLineMode = t.newLineMode
      ∧ (finishT t).cursorKeysMode = t.cursorKeysMode ∧ (finishT t).pendingWrap = t.pendingWrap
      ∧ (finishT t).charsets = t.charsets ∧ (finishT t).activeCharset = t.activeCharset
      ∧ (finishT t).savedCtx = t.savedCtx ∧ (finishT t).alternateSavedCtx = t.alternateSavedCtx
      ∧ (finishT t).activeBufferType = t.activeBufferType ∧ (finishT t).otherBuffer = t.otherBuffer
      ∧ (finishT t).scrollbackLimit = t.scrollbackLimit := by
  rw [finishT_eq]
  exact ⟨rfl, rfl, rfl, rfl, rfl, rfl, rfl, rfl, rfl, rfl, rfl, rfl, rfl, rfl, rfl, rfl, rfl, rfl, rfl, rfl⟩

theorem finishT_same (t : Terminal) : Same (· matches .buffer | .dirtyLines) t (finishT t) := by
  rw [finishT_eq]; field_by_field

/-- the flags are cleared: the next call starts with no pending changed line -/
theorem finishT_clean (t : Terminal) : (finishT t).dirtyLines.all (· == false) = true := by
  show (Dirty.clear t.dirtyLines).all (· == false) = true
  simp [Dirty.clear]

theorem view_of_finishT {v : Vt} {t : Terminal} (h : v.terminal = finishT t) : v.view = t.buffer.view :=
  (congrArg (·.buffer.view) h).trans (finishT_view t)

theorem cursor_of_finishT {v : Vt} {t : Terminal} (h : v.terminal = finishT t) : v.cursor = t.cursor :=
  (congrArg Terminal.cursor h).trans (finishT_keeps t).1

theorem toVec_clean {d : List Bool} (h : d.all (· == false) = true) : Dirty.toVec d = [] :=
  Props.C20.toVec_clean h

theorem Reach_feedStr {v v' : Vt} {ch : Changes} {xs : List Nat} (h : Reach v)
    (hs : v.feedStr xs = some (v', ch)) : Reach v' :=
  Props.Closed.Reach_of_step (op := .feedStr xs) h trivial (congrArg (Option.map Prod.fst) hs)

theorem Reach_feedAll {v v' : Vt} {xs : List Nat} (h : Reach v) (hs : v.feedAll xs = some v') :
    Reach v' :=
  Props.Closed.Reach_of_step (op := .feedChars xs) h trivial hs

theorem Reach_resize {v v' : Vt} {ch : Changes} {c r : Nat} (h : Reach v) (hc : 1 ≤ c) (hr : 1 ≤ r)
    (hs : v.resize c r = some (v', ch)) : Reach v' :=
  Props.Closed.Reach_of_step (op := .resize c r) h ⟨hc, hr⟩ (congrArg (Option.map Prod.fst) hs)

theorem reach_parts {v : Vt} (h : Reach v) : PInv v.parser = true ∧ TInv v.terminal = true :=
  Bool.and_eq_true_iff.1 (Props.Closed.C02_reach h)

/-- the pen of a reachable state is a pen the SGR decoder can produce; in particular its attribute
    byte lies inside the five bits in use -/
theorem reach_penOK {v : Vt} (h : Reach v) : v.terminal.pen.attrs < 32 :=
  (Lemmas.C11.cellsInv_of_reach h).pen.1

/-- What a `feed_str` call returns when the functions the parser emits take the terminal to `t1`:
    the terminal afterwards is `finishT t1`, the changed lines are the rows flagged in `t1`, `t1`
    satisfies the invariant, the result is reachable, and per-character `Vt::feed` (no `changes()`, no
    `gc()`) ends in `t1` itself with the same parser. -/
structure Fed (v : Vt) (xs : List Nat) (t1 : Terminal) (v' : Vt) (ch : Changes) : Prop where
  fed : v.feedStr xs = some (v', ch)
  terminal : v'.terminal = finishT t1
  lines : ch.lines = Dirty.toVec t1.dirtyLines
  inv : TInv t1 = true
  reach : Reach v'
  chars : v.feedAll xs = some ⟨v'.parser, t1⟩

section
variable {v v' : Vt} {xs : List Nat} {t1 : Terminal} {ch : Changes} (F : Fed v xs t1 v' ch)
include F

theorem Fed.view : v'.view = t1.buffer.view := view_of_finishT F.terminal

theorem Fed.cursor : v'.cursor = t1.cursor := cursor_of_finishT F.terminal

theorem Fed.same : Same (· matches .buffer | .dirtyLines) t1 v'.terminal := F.terminal ▸ finishT_same t1

/-- on the primary screen what the call hands out followed by `lines()` is what `t1` holds; on the
    alternate screen nothing is handed out -/
theorem Fed.scrollback :
    (t1.activeBufferType = .primary → ch.scrollback ++ v'.lines = t1.buffer.lines)
      ∧ (t1.activeBufferType = .alternate → ch.scrollback = []) := by
  obtain ⟨g, hg, e⟩ := Vt.feedStr_eq_some.1 F.fed
  obtain ⟨_, a, b, _⟩ := Avt.C14.C14_finish g
  rw [e, Option.some.inj (hg.symm.trans F.chars)] at a b
  exact ⟨a, b⟩

end

/-- **Bridge, `feed_str`.**  From every reachable state, for every input `xs` on which the parser ends
    in `q` having emitted `fs` (the form in which the C03 theorems deliver them): the fold of `execute`
    over `fs` succeeds (C01) and keeps the invariant (C02); the call returns what `Fed` says of the
    fold, and the parser is `q`. -/
theorem Api_bridge_run {v : Vt} (hR : Reach v) {xs : List Nat} {q : Parser} {fs : List Function}
    (hr : Spec.C03.run v.parser xs = some (q, fs)) :
    ∃ v' ch t', execAll fs v.terminal = some t' ∧ v'.parser = q ∧ Fed v xs t' v' ch := by
  obtain ⟨t', h1, h2⟩ := execAll_ok fs (reach_parts hR).2
  have hs := Run.feedStr_of_run hr h1
  exact ⟨_, _, t', h1, rfl,
    { fed := hs, terminal := rfl, lines := rfl, inv := h2, reach := Reach_feedStr hR hs,
      chars := Run.feedAll_of_run hr h1 }⟩

theorem run_of_emits {v : Vt} (hR : Reach v) {xs : List Nat} {fs : List Function}
    (he : emits v.parser xs fs) : ∃ q, Spec.C03.run v.parser xs = some (q, fs) := by
  obtain ⟨q, fs', hr, _⟩ := run_ok xs (reach_parts hR).1
  exact ⟨q, (emits_of_run hr).symm.trans he ▸ hr⟩

theorem Api_bridge {v : Vt} (hR : Reach v) {xs : List Nat} {fs : List Function}
    (he : emits v.parser xs fs) :
    ∃ v' ch t', execAll fs v.terminal = some t' ∧ Fed v xs t' v' ch := by
  obtain ⟨q, hr⟩ := run_of_emits hR he
  obtain ⟨v', ch, t', h, _, F⟩ := Api_bridge_run hR hr
  exact ⟨v', ch, t', h, F⟩

/-- `S` is a sound specification of the functions `cov` selects: under the invariant, `execute` does
    not panic and returns exactly `S t f` -/
def SpecFor (cov : Terminal → Function → Bool) (S : Terminal → Function → Terminal) : Prop :=
  ∀ (t : Terminal) (f : Function), TInv t = true → cov t f = true → t.execute f = some (S t f)

/-- every function of the run is covered in the state in which it is executed -/
def coveredRun (cov : Terminal → Function → Bool) (S : Terminal → Function → Terminal) :
    List Function → Terminal → Bool
  | [], _ => true
  | f :: fs, t => cov t f && coveredRun cov S fs (S t f)

theorem coveredRun_of_all {cov : Function → Bool} {S : Terminal → Function → Terminal} :
    ∀ (fs : List Function) (t : Terminal), (∀ f ∈ fs, cov f = true) →
      coveredRun (fun _ f => cov f) S fs t = true
  | [], _, _ => rfl
  | f :: fs, t, h => by
    simp only [coveredRun, Bool.and_eq_true]
    exact ⟨h f (List.mem_cons_self ..), coveredRun_of_all fs _ fun g hg => h g (List.mem_cons_of_mem _ hg)⟩

theorem execAll_spec {cov : Terminal → Function → Bool} {S : Terminal → Function → Terminal}
    (hS : SpecFor cov S) : ∀ (fs : List Function) {t : Terminal}, TInv t = true →
      coveredRun cov S fs t = true → execAll fs t = some (fs.foldl S t)
  | [], _, _, _ => rfl
  | f :: fs, t, h, hc => by
    simp only [coveredRun, Bool.and_eq_true] at hc
    have h1 := hS t f h hc.1
    simp only [execAll, Terminal.foldM', h1, List.foldl_cons]
    exact execAll_spec hS fs (Option.of_eq_some (Props.Closed.C02_execute f h) h1) hc.2

/-- **Bridge with a specification.**  If every emitted function is covered by a sound specification
    `S` in the state in which it is executed, `feed_str` returns what `Fed` says of the fold of `S`. -/
theorem Api_bridge_spec {cov : Terminal → Function → Bool} {S : Terminal → Function → Terminal}
    (hS : SpecFor cov S) {v : Vt} (hR : Reach v) {xs : List Nat} {fs : List Function}
    (he : emits v.parser xs fs) (hc : coveredRun cov S fs v.terminal = true) :
    ∃ v' ch, Fed v xs (fs.foldl S v.terminal) v' ch := by
  obtain ⟨v', ch, t', h, F⟩ := Api_bridge hR he
  cases h.symm.trans (execAll_spec hS fs (reach_parts hR).2 hc)
  exact ⟨v', ch, F⟩

theorem Api_bridge_spec_feed {cov : Terminal → Function → Bool} {S : Terminal → Function → Terminal}
    (hS : SpecFor cov S) {v : Vt} (hR : Reach v) {xs : List Nat} {fs : List Function}
    (he : emits v.parser xs fs) (hc : coveredRun cov S fs v.terminal = true) :
    ∃ g, v.feedAll xs = some g ∧ g.terminal = fs.foldl S v.terminal ∧ Reach g := by
  obtain ⟨v', ch, F⟩ := Api_bridge_spec hS hR he hc
  exact ⟨_, F.chars, rfl, Reach_feedAll hR F.chars⟩

theorem Api_single {v : Vt} (hR : Reach v) {xs : List Nat} {q : Parser} {f : Function}
    (hr : Spec.C03.run v.parser xs = some (q, [f])) {t1 : Terminal}
    (hx : v.terminal.execute f = some t1) :
    ∃ v' ch, v'.parser = q ∧ Fed v xs t1 v' ch := by
  obtain ⟨v', ch, t', h, hq, F⟩ := Api_bridge_run hR hr
  rw [execAll, Terminal.foldM'_single, hx] at h
  cases h
  exact ⟨v', ch, hq, F⟩

theorem view_finishT (p : Parser) (t1 : Terminal) : (⟨p, finishT t1⟩ : Vt).view = t1.buffer.view :=
  finishT_view t1

end Avt.Api
