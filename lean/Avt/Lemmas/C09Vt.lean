/-
  Avt.Lemmas.C09Vt — the parser side of C09: from the ground state a printable character is
  dispatched as `Print`, CR and LF as `Cr` and `Lf`, and the parser stays in the ground state; hence
  `Vt.feedStr` of printable lines joined by CR LF executes exactly `textFuns`.  With C09Run.lean this
  gives C09 on the model, `feedStr_TW`: a fresh `Vt` of any size without scrollback limit, fed such
  lines, ends in the typewriter state for exactly those lines.
-/
import Avt.Lemmas.C09Run
import Avt.Lemmas.ParserSeq
import Avt.Lemmas.Run
import Avt.Lemmas.BufferGc

namespace Avt.Lemmas
open Avt Avt.Spec.C09

theorem feed_cr (p : Parser) (hp : p.state = .Ground) : p.feed 0x0d = some (p, some .cr) :=
  ParserSeq.feed_ground_ctl p hp (by decide)

theorem feed_lf (p : Parser) (hp : p.state = .Ground) : p.feed 0x0a = some (p, some .lf) :=
  ParserSeq.feed_ground_ctl p hp (by decide)

/-- from the ground state the parser dispatches these functions and is the same parser afterwards -/
def Dispatch (cs : List Nat) (fs : List Function) : Prop :=
  ∀ q : Parser, q.state = .Ground → Spec.C03.run q cs = some (q, fs)

theorem Dispatch.nil : Dispatch [] [] := fun _ _ => rfl

theorem Dispatch.cons {c : Nat} {f : Function} {cs : List Nat} {fs : List Function}
    (h : ∀ q : Parser, q.state = .Ground → q.feed c = some (q, some f)) (t : Dispatch cs fs) :
    Dispatch (c :: cs) (f :: fs) := fun q hq => by
  simp only [Spec.C03.run, h q hq, t q hq]
  rfl

theorem Dispatch.append {a1 a2 : List Nat} {b1 b2 : List Function}
    (h1 : Dispatch a1 b1) (h2 : Dispatch a2 b2) : Dispatch (a1 ++ a2) (b1 ++ b2) := fun q hq =>
  Run.run_append_of (h1 q hq) (h2 q hq)

/-- characters in the printable ranges of the Ground state are printed one by one -/
theorem print_dispatch {l : List Nat} (h : ∀ c ∈ l, (0x20 ≤ c ∧ c ≤ 0x7F) ∨ 0xA0 ≤ c) :
    Dispatch l (l.map .print) := by
  induction l with
  | nil => exact Dispatch.nil
  | cons c cs ih =>
    exact Dispatch.cons (fun q hq => ParserSeq.feed_ground_print q hq (h c List.mem_cons_self))
      (ih fun d hd => h d (List.mem_cons_of_mem _ hd))

theorem line_dispatch (l : List Nat) (hl : l.all isPrintable = true) :
    Dispatch l (l.map .print) :=
  print_dispatch fun c hc => by
    have := List.all_eq_true.1 hl c hc
    simp only [isPrintable, Bool.and_eq_true, decide_eq_true_eq, Bool.not_eq_true', Bool.and_eq_false_iff,
      decide_eq_false_iff_not] at this
    omega

theorem text_dispatch : ∀ (ls : List (List Nat)), allPrintable ls = true →
    Dispatch
      (inputOf ls) (textFuns ls)
  | [], _ => Dispatch.nil
  | [l], h => by
    simp only [allPrintable, List.all_cons, List.all_nil, Bool.and_true] at h
    exact line_dispatch l h
  | l :: l2 :: rest, h => by
    simp only [allPrintable, List.all_cons, Bool.and_eq_true] at h
    have ih := text_dispatch (l2 :: rest) (by simp [allPrintable, h.2.1, h.2.2])
    show Dispatch (l ++ [0x0d, 0x0a] ++ inputOf (l2 :: rest))
      (l.map Function.print ++ [Function.cr, Function.lf] ++ textFuns (l2 :: rest))
    refine ((line_dispatch l h.1).append ?_).append ih
    exact Dispatch.cons (fun q hq => feed_cr q hq)
      (Dispatch.cons (fun q hq => feed_lf q hq) Dispatch.nil)

/-- what `typeText` makes of a fresh terminal's text, as far as `expectedText` can tell -/
theorem expectedText_typeText (ls : List (List Nat)) : expectedText (typeText [[]] ls) = expectedText ls := by
  by_cases h : ls = []
  · subst h; decide
  · rw [typeText_fresh ls h]

/-- **C09 on the model**: a fresh terminal of any size with unlimited scrollback, fed printable lines
    joined by CR LF, accepts the input and ends in the typewriter state for exactly those lines -/
theorem feedStr_TW {c r : Nat} (hc : 1 ≤ c) (hr : 1 ≤ r) (ls : List (List Nat))
    (hp : allPrintable ls = true) :
    ∃ (v : Vt) (ch : Changes) (t1 : Terminal),
      (Vt.new c r none).bind (fun v0 => v0.feedStr (inputOf ls)) = some (v, ch)
      ∧ TWMode t1 ∧ TW t1 (typeText [[]] ls)
      ∧ v.terminal.buffer.lines = t1.buffer.lines
      ∧ v.terminal.activeBufferType = t1.activeBufferType := by
  have hv0 : Vt.new c r none = some ⟨Parser.new, C11.freshT c r none⟩ := Vt.new_eq_some_iff.2 ⟨hr, rfl⟩
  obtain ⟨hm0, hg0, hw0⟩ := TW_init hc hr (Terminal.new_eq_some_iff.2 ⟨hr, rfl⟩)
  obtain ⟨t1, h1, hm1, hg1, hw1⟩ := TW_text_run hm0 hg0 hw0 ls
  have hf := Run.feedStr_of_run (v := ⟨Parser.new, C11.freshT c r none⟩)
    (text_dispatch ls hp Parser.new rfl) h1
  rw [hv0, Option.bind_some, hf]
  exact ⟨_, _, t1, rfl, hm1, hw1, Frame.gc_lines_unlimited hm1.unlimited, rfl⟩

end Avt.Lemmas
