/-
  Avt.Lemmas.InvVt — the invariant at the level of `Vt`: public operations (`PubOp`), reachable states
  (`Reach`), `finish` (= `changes()` + `gc()`), and the queries that can panic (`queriesOK`).

  The parser half (`PInv` preserved by `Parser.feed`, which never panics) is `parserOK`
  (Props/Closed.lean); here, and in Props/C01, C02, C13, it is the explicit hypothesis `hP : ParserOK`
  beside `hR : ResizeOK`, so that these build without Lemmas/ParserSem; Props/Closed.lean closes both.

  Two liftings along a history of public calls: `Vt.Keeps.run` / `Reach.induct` (unconditional, from the
  invariant, with existence) and `run_keeps` (from success, no invariant, conditional on the functions
  the history's input `inputOf` makes the parser emit).
-/
import Avt.Lemmas.InvTerminal
import Avt.Lemmas.FoldM
import Avt.Lemmas.Run

namespace Avt

/-- contract of `Parser.feed` (`parserOK`, Props/Closed.lean): under the register invariant it
    never panics and re-establishes the invariant.  Nothing is assumed about the emitted function:
    `Terminal.execute` is total on *every* `Function` value (`Terminal.execute_ok`). -/
def ParserOK : Prop :=
  ∀ (p : Parser) (c : Nat), PInv p = true → ∃ p' f, p.feed c = some (p', f) ∧ PInv p' = true

/-- the four public mutators: `feed_str` (scrollback iterator consumed / dropped — the same state
    in the model), `feed` once per character (no `changes()`, no `gc()`), `resize` -/
inductive PubOp where
  | feedStr (s : List Nat)
  | feedDrop (s : List Nat)
  | feedChars (s : List Nat)
  | resize (c r : Nat)
  deriving DecidableEq, Repr

/-- the API contract of `resize`: at least one column and one row -/
def PubOp.valid : PubOp → Prop
  | .resize c r => 1 ≤ c ∧ 1 ≤ r
  | _ => True

instance : DecidablePred PubOp.valid := fun op => by
  cases op <;> simp only [PubOp.valid] <;> exact inferInstance

/-- does the call end with `changes()` + `gc()`? -/
def PubOp.finishes : PubOp → Bool
  | .feedChars _ => false
  | _ => true

def step (v : Vt) : PubOp → Option Vt
  | .feedStr s => (v.feedStr s).map (·.1)
  | .feedDrop s => (v.feedStr s).map (·.1)
  | .feedChars s => v.feedAll s
  | .resize c r => (v.resize c r).map (·.1)

def run : Vt → List PubOp → Option Vt
  | v, [] => some v
  | v, op :: ops => match step v op with | some v' => run v' ops | none => none

-- Under the namespace by which the statements of Props/Closed2.lean and Props/Api.lean name them; defined
-- here because `run_keeps` below is stated with `inputOf`.
namespace Props.Closed2

/-- the characters a public call feeds to the parser -/
def PubOp.input : PubOp → List Nat
  | .feedStr s | .feedDrop s | .feedChars s => s
  | .resize _ _ => []

/-- the characters a list of public calls feeds to the parser, in order (`resize` feeds none) -/
def inputOf (ops : List PubOp) : List Nat := (ops.map PubOp.input).flatten

theorem inputOf_cons (op : PubOp) (ops : List PubOp) : inputOf (op :: ops) = PubOp.input op ++ inputOf ops := by
  simp [inputOf]

theorem inputOf_append (a b : List PubOp) : inputOf (a ++ b) = inputOf a ++ inputOf b := by
  simp [inputOf]

theorem run_append : ∀ (a b : List PubOp) (v : Vt),
    run v (a ++ b) = match run v a with | some w => run w b | none => none
  | [], b, v => rfl
  | op :: a, b, v => by
    simp only [List.cons_append, run]
    cases step v op with
    | none => rfl
    | some v1 => exact run_append a b v1

end Props.Closed2

/-- `v` is obtained from a fresh terminal (`cols, rows ≥ 1`, any scrollback limit) by a finite list of
    public calls -/
def Reach (v : Vt) : Prop :=
  ∃ (cols rows : Nat) (lim : Option Nat) (v0 : Vt) (ops : List PubOp),
    1 ≤ cols ∧ 1 ≤ rows ∧ Vt.new cols rows lim = some v0 ∧ (∀ op ∈ ops, op.valid) ∧ run v0 ops = some v

/-- the queries that can panic in Rust: `dump()` and `line(n)` for `n < rows`.  (`text`, `view`,
    `lines`, `cursor`, `size`, `cursor_key_app_mode`, draining `Changes.scrollback` and
    `TextCollector.flush` are total functions of the model: they contain no checked primitive.) -/
def queriesOK (v : Vt) : Prop :=
  v.dump.isSome = true ∧ ∀ n, n < v.terminal.rows → (v.line n).isSome = true

namespace Terminal

theorem resize_size {t t' : Terminal} {cols rows : Nat} (h : t.resize cols rows = some t') :
    t'.cols = cols ∧ t'.rows = rows := by
  obtain ⟨_, _, _, _, -, rfl⟩ := resize_eq_some.1 h
  exact ⟨rfl, rfl⟩

end Terminal

namespace Vt

theorem inv_iff (v : Vt) : Inv v = true ↔ PInv v.parser = true ∧ TOK v.terminal := by
  simp [Inv, TInv_iff]

theorem new_ok {cols rows : Nat} (lim : Option Nat) (hc : 1 ≤ cols) (hr : 1 ≤ rows) :
    ∃ v, Vt.new cols rows lim = some v ∧ Inv v = true := by
  obtain ⟨t, h1, h2⟩ := Terminal.new_ok lim hc hr
  refine ⟨{ parser := Parser.new, terminal := t }, congrArg (Option.map _) h1, ?_⟩
  rw [inv_iff]
  exact ⟨show PInv Parser.new = true by decide, h2⟩

theorem feed_ok (hR : ResizeOK) (hP : ParserOK) {v : Vt} (c : Nat) (h : Inv v = true) :
    ∃ v', v.feed c = some v' ∧ Inv v' = true := by
  obtain ⟨hp, ht⟩ := (inv_iff v).1 h
  obtain ⟨p', f, h1, h2⟩ := hP v.parser c hp
  unfold Vt.feed
  rw [h1]
  cases f with
  | none => exact ⟨_, rfl, (inv_iff _).2 ⟨h2, ht⟩⟩
  | some f =>
    obtain ⟨t', h3, h4⟩ := Terminal.execute_ok hR f ht
    simp only [h3]
    exact ⟨_, rfl, (inv_iff _).2 ⟨h2, h4⟩⟩

/-- `P` is kept, from states satisfying the invariant, by the two things input is made of: one character
    and the `changes()` / `gc()` tail -/
structure FeedKeeps (P : Vt → Prop) : Prop where
  feed : ∀ {v v' : Vt} {c : Nat}, Inv v = true → P v → v.feed c = some v' → P v'
  finish : ∀ {v : Vt}, Inv v = true → P v → P v.finish.1

/-- `P` is kept by `resize` as well: by everything a public call is made of -/
structure Keeps (P : Vt → Prop) : Prop extends FeedKeeps P where
  resize : ∀ {v v' : Vt} {c r : Nat} {ch : Changes}, Inv v = true → P v → 1 ≤ c → 1 ≤ r →
    v.resize c r = some (v', ch) → P v'

theorem keeps_true : Keeps fun _ => True := ⟨⟨fun _ _ _ => trivial, fun _ _ => trivial⟩, fun _ _ _ _ _ => trivial⟩

theorem FeedKeeps.feedAll {P : Vt → Prop} (hR : ResizeOK) (hP : ParserOK) (k : FeedKeeps P) (s : List Nat) :
    ∀ {v : Vt}, Inv v = true → P v → ∃ v', v.feedAll s = some v' ∧ Inv v' = true ∧ P v' := by
  induction s with
  | nil => intro v h hp; exact ⟨v, rfl, h, hp⟩
  | cons c cs ih =>
    intro v h hp
    obtain ⟨v1, h1, h2⟩ := feed_ok hR hP c h
    simp only [Vt.feedAll, h1]
    exact ih h2 (k.feed h hp h1)

theorem feedAll_ok (hR : ResizeOK) (hP : ParserOK) (s : List Nat) {v : Vt} (h : Inv v = true) :
    ∃ v', v.feedAll s = some v' ∧ Inv v' = true :=
  (keeps_true.feedAll hR hP s h trivial).imp fun _ h => ⟨h.1, h.2.1⟩

theorem finish_fst (v : Vt) :
    (v.finish).1 = { v with terminal := (v.terminal.changes.1.gc).1 } := rfl

theorem finish_ok {v : Vt} (h : Inv v = true) :
    Inv (v.finish).1 = true ∧ (v.finish).1.terminal.buffer.trimNeeded = false
      ∧ changesOK (v.finish).1.terminal.rows (v.finish).2.lines = true := by
  obtain ⟨hp, ht⟩ := (inv_iff v).1 h
  have h1 := Terminal.changes_ok ht
  refine ⟨(inv_iff _).2 ⟨hp, Terminal.gc_ok h1⟩, ?_, ?_⟩
  · exact (Buffer.gc_ok h1.bok).2.2.1
  · show changesOK v.terminal.rows (Dirty.toVec v.terminal.dirtyLines) = true
    rw [← ht.dirty]
    exact Dirty.toVec_ok _

theorem FeedKeeps.feedStr {P : Vt → Prop} (hR : ResizeOK) (hP : ParserOK) (k : FeedKeeps P) (s : List Nat)
    {v : Vt} (h : Inv v = true) (hp : P v) :
    ∃ v' ch, v.feedStr s = some (v', ch) ∧ Inv v' = true ∧ P v' := by
  obtain ⟨w, h1, h2, h3⟩ := k.feedAll hR hP s h hp
  exact ⟨w.finish.1, w.finish.2, feedStr_of_feedAll h1, (finish_ok h2).1, k.finish h2 h3⟩

theorem feedStr_ok (hR : ResizeOK) (hP : ParserOK) {v : Vt} (s : List Nat) (h : Inv v = true) :
    ∃ v' ch, v.feedStr s = some (v', ch) ∧ Inv v' = true
      ∧ v'.terminal.buffer.trimNeeded = false ∧ changesOK v'.terminal.rows ch.lines = true := by
  obtain ⟨v1, h1, h2⟩ := feedAll_ok hR hP s h
  obtain ⟨h3, h4, h5⟩ := finish_ok h2
  exact ⟨v1.finish.1, v1.finish.2, feedStr_of_feedAll h1, h3, h4, h5⟩

theorem resize_ok (hR : ResizeOK) {v : Vt} {c r : Nat} (h : Inv v = true) (hc : 1 ≤ c)
    (hr : 1 ≤ r) :
    ∃ v' ch, v.resize c r = some (v', ch) ∧ Inv v' = true
      ∧ v'.terminal.buffer.trimNeeded = false ∧ changesOK v'.terminal.rows ch.lines = true
      ∧ v'.size = (c, r) := by
  obtain ⟨hp, ht⟩ := (inv_iff v).1 h
  obtain ⟨t', h1, h2⟩ := Terminal.resize_ok hR ht hc hr
  have hs := Terminal.resize_size h1
  have hi : Inv ({ v with terminal := t' } : Vt) = true := (inv_iff _).2 ⟨hp, h2⟩
  obtain ⟨h3, h4, h5⟩ := finish_ok hi
  exact ⟨_, _, resize_of_terminal h1, h3, h4, h5, Prod.ext hs.1 hs.2⟩

end Vt

/-- one valid public call returns, and keeps the invariant and whatever its three parts keep -/
theorem Vt.Keeps.step {P : Vt → Prop} (hR : ResizeOK) (hP : ParserOK) (k : Vt.Keeps P) {v : Vt} (op : PubOp)
    (h : Inv v = true) (hp : P v) (hv : op.valid) : ∃ v', step v op = some v' ∧ Inv v' = true ∧ P v' := by
  cases op with
  | feedStr s | feedDrop s =>
    obtain ⟨v', ch, h1, h2⟩ := k.feedStr hR hP s h hp
    exact ⟨v', by simp [Avt.step, h1], h2⟩
  | feedChars s => exact k.feedAll hR hP s h hp
  | resize c r =>
    obtain ⟨v', ch, h1, h2, _⟩ := Vt.resize_ok hR h hv.1 hv.2
    exact ⟨v', by simp [Avt.step, h1], h2, k.resize h hp hv.1 hv.2 h1⟩

theorem step_ok (hR : ResizeOK) (hP : ParserOK) {v : Vt} (op : PubOp) (h : Inv v = true)
    (hv : op.valid) : ∃ v', step v op = some v' ∧ Inv v' = true :=
  (Vt.keeps_true.step hR hP op h trivial hv).imp fun _ h => ⟨h.1, h.2.1⟩

/-- after a finishing call (`feed_str`, `resize`) the active buffer has been trimmed -/
theorem step_trimmed (hR : ResizeOK) (hP : ParserOK) {v v' : Vt} {op : PubOp} (h : Inv v = true)
    (hv : op.valid) (hf : op.finishes = true) (hs : step v op = some v') :
    v'.terminal.buffer.trimNeeded = false := by
  cases op with
  | feedStr s | feedDrop s =>
    obtain ⟨⟨w, ch⟩, hr, rfl⟩ := Option.map_eq_some_iff.1 hs
    exact (Option.of_eq_some₂ (Vt.feedStr_ok hR hP s h) hr).2.1
  | feedChars s => cases hf
  | resize c r =>
    obtain ⟨⟨w, ch⟩, hr, rfl⟩ := Option.map_eq_some_iff.1 hs
    exact (Option.of_eq_some₂ (Vt.resize_ok hR h hv.1 hv.2) hr).2.1

theorem Vt.Keeps.run {P : Vt → Prop} (hR : ResizeOK) (hP : ParserOK) (k : Vt.Keeps P) (ops : List PubOp) :
    ∀ {v : Vt}, Inv v = true → P v → (∀ op ∈ ops, op.valid) →
      ∃ v', run v ops = some v' ∧ Inv v' = true ∧ P v' := by
  induction ops with
  | nil => intro v h hp _; exact ⟨v, rfl, h, hp⟩
  | cons op ops ih =>
    intro v h hp hv
    obtain ⟨v1, h1, h2, h3⟩ := k.step hR hP op h hp (hv op (List.mem_cons_self ..))
    simp only [Avt.run, h1]
    exact ih h2 h3 fun o ho => hv o (List.mem_cons_of_mem _ ho)

theorem run_ok (hR : ResizeOK) (hP : ParserOK) (ops : List PubOp) {v : Vt} (h : Inv v = true)
    (hv : ∀ op ∈ ops, op.valid) : ∃ v', run v ops = some v' ∧ Inv v' = true :=
  (Vt.keeps_true.run hR hP ops h trivial hv).imp fun _ h => ⟨h.1, h.2.1⟩

section emitted
open Props.Closed2

theorem step_parser {v v' : Vt} {op : PubOp} (h : step v op = some v') :
    Spec.C03.run v.parser (PubOp.input op) = some (v'.parser, Frame.emitted v.parser (PubOp.input op)) := by
  cases op with
  | feedStr s | feedDrop s =>
    obtain ⟨⟨w, ch⟩, hr, rfl⟩ := Option.map_eq_some_iff.1 h
    obtain ⟨g, hg, e⟩ := Vt.feedStr_eq_some.1 hr
    cases e
    exact (Run.feedAll_emitted hg).1
  | feedChars s => exact (Run.feedAll_emitted h).1
  | resize c r =>
    obtain ⟨⟨w, ch⟩, hr, rfl⟩ := Option.map_eq_some_iff.1 h
    obtain ⟨t, -, rfl, -⟩ := Vt.resize_terminal hr
    rfl

/-- a predicate that every public call keeps when the functions it makes the parser emit lie in `p` is
    kept by every history whose emitted functions lie in `p`: no invariant, nothing about returning -/
theorem run_keeps {P : Vt → Prop} {p : Function → Prop}
    (one : ∀ {v v' : Vt} {op : PubOp}, P v → (∀ f ∈ Frame.emitted v.parser (PubOp.input op), p f) →
      step v op = some v' → P v') :
    ∀ (ops : List PubOp) {v v' : Vt}, P v → (∀ f ∈ Frame.emitted v.parser (inputOf ops), p f) →
      run v ops = some v' → P v'
  | [], _, _, h, _, hr => by cases hr; exact h
  | op :: ops, v, v', h, hq, hr => by
    simp only [run] at hr
    split at hr
    · rename_i v1 hs
      rw [inputOf_cons, Frame.emitted_append, step_parser hs] at hq
      exact run_keeps one ops (one h (fun f hf => hq f (List.mem_append_left _ hf)) hs)
        (fun f hf => hq f (List.mem_append_right _ hf)) hr
    · cases hr

end emitted

/-- induction over reachable states: what `Vt::new` establishes and the three parts of a public call
    keep holds, with the invariant, of every reachable state -/
theorem Reach.induct {P : Vt → Prop} (hR : ResizeOK) (hP : ParserOK) (k : Vt.Keeps P)
    (new : ∀ {cols rows : Nat} {lim : Option Nat} {v : Vt}, Vt.new cols rows lim = some v → P v)
    {v : Vt} (h : Reach v) : Inv v = true ∧ P v := by
  obtain ⟨cols, rows, lim, v0, ops, hc, hr, h0, hv, hrun⟩ := h
  exact Option.of_eq_some (k.run hR hP ops (Option.of_eq_some (Vt.new_ok lim hc hr) h0) (new h0) hv) hrun

theorem reach_inv (hR : ResizeOK) (hP : ParserOK) {v : Vt} (h : Reach v) : Inv v = true :=
  (Reach.induct hR hP Vt.keeps_true (fun _ => trivial) h).1

theorem Terminal.new_fields {cols rows : Nat} {lim : Option Nat} {t : Terminal}
    (h : Terminal.new cols rows lim = some t) :
    t.cols = cols ∧ t.rows = rows ∧ t.tabs = Tabs.new cols ∧ t.buffer = Buffer.new cols rows lim none := by
  obtain ⟨-, rfl⟩ := Terminal.new_eq_some_iff.1 h
  exact ⟨rfl, rfl, rfl, rfl⟩

/-- `Vt::new` is `Terminal::new` beside a power-on parser -/
theorem Vt.new_fields {cols rows : Nat} {lim : Option Nat} {v : Vt} (h : Vt.new cols rows lim = some v) :
    v.parser = Parser.new ∧ Terminal.new cols rows lim = some v.terminal := by
  obtain ⟨hr, rfl⟩ := Vt.new_eq_some_iff.1 h
  exact ⟨rfl, Terminal.new_eq_some_iff.2 ⟨hr, rfl⟩⟩

end Avt
