/-
  Avt.Lemmas.C04 — helper lemmas for property C04 (buffer level): the buffer operations on one row
  (`onRow` is `List.modify`, Lemmas/RowModify.lean) and the region scroll caused by a wrap on the
  bottom margin (model code = closed formula `scrollRegionUp1`).
-/
import Avt.Spec.C04
import Avt.Lemmas.C06Buffer

namespace Avt.C04L
open Avt Avt.Spec Avt.Spec.C04

@[simp] theorem onRow_nil (r : Nat) (f : Line → Line) : onRow [] r f = [] := rfl

theorem bufOnRow_eq_modify (b : Buffer) (r : Nat) (f : Line → Line) :
    bufOnRow b r f = { b with view := b.view.modify r f } := by
  rw [bufOnRow, onRow_eq_modify]

theorem blank_eq (c : Nat) (p : Pen) : Line.blank c p = blankRow c p := rfl

@[simp] theorem blankRow_len (c : Nat) (p : Pen) : (blankRow c p).cells.length = c := by
  simp [blankRow]

@[simp] theorem blankRow_wrapped (c : Nat) (p : Pen) : (blankRow c p).wrapped = false := rfl

theorem wrap_eq (b : Buffer) (r : Nat) (h : r < b.view.length) :
    b.wrap r = some (bufOnRow b r markWrapped) := by
  rw [bufOnRow_eq_modify]
  exact Buffer.updRow_eq_modify markWrapped h rfl

theorem print_eq (b : Buffer) (c r : Nat) (cell : Cell) (hr : r < b.view.length)
    (hc : c < b.view[r].cells.length) : b.print c r cell = some (bufOnRow b r (putCell c cell)) := by
  rw [bufOnRow_eq_modify]
  exact Buffer.updRow_eq_modify (putCell c cell) hr (Line.print_eq _ cell hc)

theorem insert_eq (b : Buffer) (c r : Nat) (cell : Cell) (hr : r < b.view.length)
    (hl : b.view[r].cells.length = b.cols) (hc : c < b.cols) :
    b.insert c r 1 cell = some (bufOnRow b r (insertCell c cell)) := by
  unfold Buffer.insert
  rw [csub_eq_some (show c ≤ b.cols by omega), bufOnRow_eq_modify]
  simp only []
  apply Buffer.updRow_eq_modify (insertCell c cell) hr
  generalize b.view[r] = l at hl
  rw [Nat.min_eq_left (show 1 ≤ b.cols - c by omega), l.insert_eq cell (by omega) (by omega)]
  simp only [insertCell, List.dropLast_eq_take, List.length_drop, List.take_drop, List.replicate_one]
  rw [show c + (l.cells.length - c - 1) = l.cells.length - 1 by omega]

section
variable {α : Type} (m u : α → α)

/-- the second step of `Spec.C06.upMarks` (un-mark the row above a region that does not start at row 0)
    seen from the pieces of the shift: only `take s` sees it -/
theorem modify_pred_pieces (V : List α) {s e : Nat} (hse : s < e) :
    (if s > 0 then V.modify (s - 1) u else V).take s = (V.take s).modify (s - 1) u
    ∧ ((if s > 0 then V.modify (s - 1) u else V).take e).drop (s + 1) = (V.take e).drop (s + 1)
    ∧ (if s > 0 then V.modify (s - 1) u else V).drop e = V.drop e
    ∧ (s = 0 → (if s > 0 then V.modify (s - 1) u else V) = V) := by
  by_cases h : s > 0
  · simp only [if_pos h]
    exact ⟨List.take_modify .., by rw [List.take_modify, List.drop_modify_of_lt _ _ _ _ (by omega)],
      List.drop_modify_of_lt _ _ _ _ (by omega), fun h0 => by omega⟩
  · have h0 : s = 0 := by omega
    subst h0
    exact ⟨rfl, rfl, rfl, fun _ => rfl⟩

theorem take_modify_of_le (f : α → α) (l : List α) {c i : Nat} (h : c ≤ i) :
    (l.modify i f).take c = l.take c := by
  rw [List.take_modify, List.modify_eq_self (Nat.le_trans (List.length_take_le ..) h)]

/-- the pieces of `l.modify i f` cut for a shift of the rows `s..=i` -/
theorem modify_pieces (f : α → α) (l : List α) {s i : Nat} (h : s < i) :
    (l.modify i f).take s = l.take s
    ∧ ((l.modify i f).take (i + 1)).drop (s + 1) = ((l.take (i + 1)).drop (s + 1)).modify (i - (s + 1)) f
    ∧ (l.modify i f).drop (i + 1) = l.drop (i + 1) :=
  ⟨take_modify_of_le f l (Nat.le_of_lt h), by rw [List.take_modify, List.drop_modify_of_ge _ _ _ _ h],
    List.drop_modify_of_lt _ _ _ _ (Nat.lt_succ_self _)⟩

/-- mark row `e1` (`m`), cut the marks (`u`) for a scroll-up of `s..=e1` by one (`U`), shift, re-mark
    row `e1 - 1` when the region ends above the last row: row `e1` travels with its mark.
    `hm` is the third component of `WrapPre.marg` (Lemmas/InvDef.lean; `decstbm` sets margins only when
    `top < bottom`): with `s = e1` above the last row the re-mark would hit row `s - 1`, which `u` has
    just un-marked (or, for `s = 0`, the new row `x`).  The second conjunct is the line that goes to the
    scrollback. -/
theorem shift_remark (hmu : ∀ a, m (u (m a)) = m a) (v0 : List α) (x : α) (s e1 r : Nat)
    (hv : v0.length = r) (hs : s ≤ e1) (hm : s < e1 ∨ (s = 0 ∧ e1 + 1 = r)) {U : List α}
    (hU : U = if s > 0 then (if e1 + 1 < r then (v0.modify e1 m).modify e1 u else v0.modify e1 m).modify (s - 1) u
      else if e1 + 1 < r then (v0.modify e1 m).modify e1 u else v0.modify e1 m) :
    (fun W : List α => if e1 + 1 < r then W.modify (e1 - 1) m else W)
      (U.take s ++ (U.take (e1 + 1)).drop (s + 1) ++ [x] ++ U.drop (e1 + 1))
      = ((v0.modify e1 m).take s).modify (s - 1) u
        ++ ((v0.modify e1 m).take (e1 + 1)).drop (s + 1) ++ [x] ++ (v0.modify e1 m).drop (e1 + 1)
    ∧ (s = 0 → U.take 1 = (v0.modify e1 m).take 1) := by
  subst hU
  by_cases hlast : e1 + 1 < r
  · have hse : s < e1 := by omega
    simp only [if_pos hlast, List.modify_modify_eq]
    obtain ⟨p1, p2, p3, p4⟩ := modify_pred_pieces u (v0.modify e1 (u ∘ m)) (s := s) (e := e1 + 1) (by omega)
    obtain ⟨q1, q2, q3⟩ := modify_pieces (u ∘ m) v0 hse
    obtain ⟨r1, r2, r3⟩ := modify_pieces m v0 hse
    refine ⟨?_, fun h0 => by rw [p4 h0, take_modify_of_le _ _ (by omega), take_modify_of_le _ _ (by omega)]⟩
    rw [p1, p2, p3, q1, q2, q3, r1, r2, r3]
    have hA : ((v0.take s).modify (s - 1) u).length = s := by
      rw [List.length_modify, List.length_take]; omega
    have hM : e1 - (s + 1) < ((v0.take (e1 + 1)).drop (s + 1)).length := by
      rw [List.length_drop, List.length_take]; omega
    generalize (v0.take s).modify (s - 1) u = A at hA
    generalize (v0.take (e1 + 1)).drop (s + 1) = M at hM
    rw [List.append_assoc, List.append_assoc, modify_append_right _ _ _ (by omega), hA,
      show e1 - 1 - s = e1 - (s + 1) by omega, modify_append_left _ _ (by rw [List.length_modify]; exact hM),
      List.modify_modify_eq, List.append_assoc, List.append_assoc]
    exact congrArg (fun f => A ++ (M.modify _ f ++ _)) (funext hmu)
  · simp only [if_neg hlast]
    obtain ⟨p1, p2, p3, p4⟩ := modify_pred_pieces u (v0.modify e1 m) (s := s) (e := e1 + 1) (by omega)
    rw [p1, p2, p3]
    exact ⟨rfl, fun h0 => by rw [p4 h0]⟩

end

/-- the wrap on the bottom margin, buffer level: mark row `e1`, scroll the region `s..=e1` up
    by one, re-mark row `e1 - 1` when the region ends above the last row — together this is the
    closed formula `scrollRegionUp1` applied to the marked buffer.  `hm`: see `shift_remark`. -/
theorem scrollWrap (b0 : Buffer) (s e1 : Nat) (pen : Pen)
    (hv : b0.view.length = b0.rows) (hs : s ≤ e1) (he : e1 < b0.rows)
    (hm : s < e1 ∨ (s = 0 ∧ e1 + 1 = b0.rows)) :
    ∃ b', (bufOnRow b0 e1 markWrapped).scrollUp s (e1 + 1) 1 pen = some b'
      ∧ (if e1 < b0.rows - 1 then b'.wrap (e1 - 1) else some b')
          = some (scrollRegionUp1 (bufOnRow b0 e1 markWrapped) s e1 pen) := by
  have hv' : (bufOnRow b0 e1 markWrapped).view.length = (bufOnRow b0 e1 markWrapped).rows := by
    rw [bufOnRow_eq_modify, List.length_modify]; exact hv
  refine ⟨_, C06L.scrollUp_eq _ s (e1 + 1) 1 pen hv' (by omega) (by simp only [bufOnRow]; omega), ?_⟩
  have hk : min 1 (e1 + 1 - s) = 1 := by omega
  have hUl := (C06L.length_upMarks s (e1 + 1) b0.rows (b0.view.modify e1 markWrapped)).trans
    ((List.length_modify ..).trans hv)
  obtain ⟨hview, hsb⟩ := shift_remark markWrapped clearWrapped (fun _ => rfl) b0.view (blankRow b0.cols pen)
    s e1 b0.rows hv hs hm (U := Spec.C06.upMarks s (e1 + 1) b0.rows (b0.view.modify e1 markWrapped))
    (by simp only [C06.upMarks, C06.unmarkAt_eq_modify, Nat.add_sub_cancel]; rfl)
  simp only [Spec.C06.scrollUpSpec, Spec.C06.blankRows, hk, List.replicate_one, blank_eq, scrollRegionUp1,
    bufOnRow, onRow_eq_modify]
  generalize Spec.C06.upMarks s (e1 + 1) b0.rows (b0.view.modify e1 markWrapped) = U at hUl hview hsb
  have hsb' : (if s = 0 then b0.sb ++ U.take 1 else b0.sb)
      = b0.sb ++ if s = 0 then (b0.view.modify e1 markWrapped).take 1 else [] := by
    split
    · rw [hsb ‹_›]
    · rw [List.append_nil]
  by_cases hlast : e1 + 1 < b0.rows
  · rw [if_pos (by omega), wrap_eq _ _ (by
      simp only [List.length_append, List.length_take, List.length_drop, hUl, List.length_cons, List.length_nil]
      omega), bufOnRow_eq_modify]
    simp only [if_pos hlast] at hview
    simp only [hview, hsb']
  · rw [if_neg (by omega)]
    simp only [if_neg hlast] at hview
    simp only [hview, hsb']

end Avt.C04L
