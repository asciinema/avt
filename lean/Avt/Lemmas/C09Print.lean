/-
  Avt.Lemmas.C09Print — printing one character on a typewriter-mode terminal when no wrap is pending
  (`TW_print_no_pending`; the deferred wrap, and with it `TW_print` for every character, is in
  C09Steps.lean), with `typeChar` / `typeNewline` (what typing does to the logical text) and the list
  and `rowsText` facts the steps need.
-/
import Avt.Lemmas.C09Typewriter
import Avt.Lemmas.C04Term

namespace Avt.Lemmas
open Avt Avt.Spec.C09 Avt.Spec.C04 Avt.C04L

theorem _root_.Avt.WrapPre.of_TW {t : Terminal} (hm : TWMode t) (hg : TWGeom t) : WrapPre t :=
  ⟨hg.cols_pos, hg.rows_pos, hg.bcols, hg.brows, hg.view_len, hg.row_lt, hg.dirty_len,
    by rw [hm.top]; exact Nat.zero_le _, by rw [← hm.bottom]; exact Nat.lt_succ_self _,
    .inr ⟨hm.top, hm.bottom⟩⟩

theorem _root_.Avt.PrintPre.of_TW {t : Terminal} (hm : TWMode t) (hg : TWGeom t)
    (hw : ∀ l ∈ t.buffer.view, l.len = t.cols) : PrintPre t := ⟨WrapPre.of_TW hm hg, hw⟩

/-- the terminal after printing `ch` when no wrap is pending: the cell under the cursor is replaced,
    the cursor advances (and parks in the wrap-pending column when it was in the last column) -/
def printedNoWrap (t : Terminal) (lr : Line) (ch : Nat) : Terminal :=
  { t with
    buffer := { t.buffer with
      view := t.buffer.view.set t.cursor.row { lr with cells := lr.cells.set t.cursor.col ⟨ch, t.pen⟩ } },
    cursor := { t.cursor with col := t.cursor.col + 1 },
    pendingWrap := decide (t.cursor.col + 1 ≥ t.cols),
    dirtyLines := t.dirtyLines.set t.cursor.row true }

theorem print_no_pending {t : Terminal} (hm : TWMode t) (hg : TWGeom t)
    (hw : ∀ l ∈ t.buffer.view, l.len = t.cols) (hp : t.pendingWrap = false) (ch : Nat) {lr : Line}
    (hrow : t.buffer.view[t.cursor.row]? = some lr) :
    t.print ch = some (printedNoWrap t lr ch) := by
  have hcol := hg.col_lt hp
  have p := PrintPre.of_TW hm hg hw
  have hnw : (t.autoWrapMode && t.pendingWrap) = false := by rw [hp]; exact Bool.and_false _
  rw [p.print_eq (by rw [hnw]; exact p) (by rw [hm.charset.1]; decide), printSpec_nowrap t ch hnw]
  simp only [glyph, activeSet, hm.charset.1, hm.charset.2, translateRef, if_true, putStep, printedNoWrap,
    bufOnRow, onRow, hrow, hm.replace, hm.autoWrap, putCell, Bool.false_eq_true, if_false]
  by_cases hc : t.cursor.col + 1 ≥ t.cols
  · have hc2 : t.cols = t.cursor.col + 1 := Nat.le_antisymm hc hcol
    have hc1 : t.cols - 1 = t.cursor.col := Nat.sub_eq_of_eq_add hc2
    simp only [hc, if_true, hc1, decide_true]
    rw [← hc2]
  · simp only [hc, if_false, decide_false]

/-- typing one character extends the last logical line -/
def typeChar (logical : List (List Nat)) (ch : Nat) : List (List Nat) :=
  logical.dropLast ++ [logical.getLast?.getD [] ++ [ch]]

/-- CR LF starts a new logical line -/
def typeNewline (logical : List (List Nat)) : List (List Nat) := logical ++ [[]]

theorem typeChar_snoc (done : List (List Nat)) (cur : List Nat) (ch : Nat) :
    typeChar (done ++ [cur]) ch = done ++ [cur ++ [ch]] := by
  simp [typeChar]

theorem rowsText_append (a b : List Line) : rowsText (a ++ b) = rowsText a ++ rowsText b := by
  simp [rowsText]

theorem rowsText_singleton (l : Line) : rowsText [l] = l.text := by simp [rowsText]

theorem rowsText_length (rows : List Line) (c : Nat) (h : ∀ l ∈ rows, l.len = c) :
    (rowsText rows).length = rows.length * c := by
  induction rows with
  | nil => simp [rowsText]
  | cons l t ih =>
    have hl : l.text.length = c := by simpa [Line.text, Line.len] using h l (by simp)
    have := ih (fun x hx => h x (by simp [hx]))
    simp only [rowsText, List.map_cons, List.flatten_cons, List.length_append, List.length_cons] at this ⊢
    rw [this, hl, Nat.add_mul]; omega

theorem set_mid {α} (A B : List α) (x y : α) : (A ++ [x] ++ B).set A.length y = A ++ [y] ++ B := by
  rw [List.append_assoc, List.set_append_right _ _ (Nat.le_refl _)]
  simp

theorem getElem?_mid {α} (A B : List α) (x : α) : (A ++ [x] ++ B)[A.length]? = some x := by
  rw [List.append_assoc, List.getElem?_append_right (Nat.le_refl _)]
  simp

theorem lens_iff {c : Nat} {A W B : List Line} {x : Line} :
    (∀ l ∈ A ++ (W ++ [x]) ++ B, l.len = c)
      ↔ (∀ l ∈ A, l.len = c) ∧ (∀ l ∈ W, l.len = c) ∧ x.len = c ∧ ∀ l ∈ B, l.len = c := by
  simp only [List.forall_mem_append, List.forall_mem_singleton, and_assoc]

theorem lens_snoc {c : Nat} {W : List Line} {x : Line} (hW : ∀ l ∈ W, l.len = c) (hx : x.len = c) :
    ∀ l ∈ W ++ [x], l.len = c :=
  List.forall_mem_append.2 ⟨hW, List.forall_mem_singleton.2 hx⟩

theorem TW_cursor_row {t : Terminal} {closedRows ws belowRows : List Line} {lr : Line}
    (hlines : t.buffer.lines = closedRows ++ (ws ++ [lr]) ++ belowRows)
    (hrow : t.buffer.sb.length + t.cursor.row = closedRows.length + ws.length) :
    t.buffer.view[t.cursor.row]? = some lr
      ∧ ∀ x, t.buffer.sb ++ t.buffer.view.set t.cursor.row x = closedRows ++ (ws ++ [x]) ++ belowRows := by
  have hlines' : t.buffer.sb ++ t.buffer.view = (closedRows ++ ws) ++ [lr] ++ belowRows := by
    have := hlines; simp only [Buffer.lines] at this; rw [this]; simp
  have hn : t.buffer.sb.length + t.cursor.row = (closedRows ++ ws).length := by simp [hrow]
  constructor
  · have := getElem?_mid (closedRows ++ ws) belowRows lr
    rw [← hlines', ← hn, List.getElem?_append_right (Nat.le_add_right _ _)] at this
    simpa using this
  · intro x
    have : t.buffer.sb ++ t.buffer.view.set t.cursor.row x
        = (t.buffer.sb ++ t.buffer.view).set (t.buffer.sb.length + t.cursor.row) x := by
      rw [List.set_append_right _ _ (Nat.le_add_right _ _)]; simp
    rw [this, hlines', hn, set_mid]; simp

/-- the padding reaches from the cursor to the end of its row -/
theorem TW_pad {t : Terminal} {ws : List Line} {lr : Line} {cur : List Nat} {pad : Nat}
    (hlens : ∀ l ∈ ws ++ [lr], l.len = t.cols)
    (hrt : rowsText (ws ++ [lr]) = cur ++ List.replicate pad 0x20)
    (hcur : cur.length = ws.length * t.cols + t.cursor.col) : pad + t.cursor.col = t.cols := by
  have := rowsText_length (ws ++ [lr]) t.cols hlens
  rw [hrt] at this
  simp only [List.length_append, List.length_replicate, List.length_cons, List.length_nil,
    Nat.add_mul, Nat.one_mul] at this
  omega

/-- **C09, print step without wrap**: on a typewriter-mode terminal with no wrap pending, printing a
    character keeps the typewriter invariant for the text extended by that character — the cursor
    advances, or parks in the wrap-pending column exactly when the line length reaches a multiple of
    the width -/
theorem TW_print_no_pending {t : Terminal} {logical : List (List Nat)} (hm : TWMode t) (hg : TWGeom t)
    (h : TW t logical) (hp : t.pendingWrap = false) (ch : Nat) :
    ∃ t', t.print ch = some t' ∧ TWMode t' ∧ TWGeom t' ∧ TW t' (typeChar logical ch) := by
  obtain ⟨done, cur, closedRows, ws, lr, belowRows, pad, rfl, s⟩ := TW_iff.1 h
  have hcol := hg.col_lt hp
  obtain ⟨hview, hset⟩ := TW_cursor_row s.lines s.row
  obtain ⟨hlenC, hlenW, hlrlen, hlenB⟩ := lens_iff.1 s.lens
  have hw : ∀ l ∈ t.buffer.view, l.len = t.cols := fun l hl => s.lens l (s.lines ▸ List.mem_append_right _ hl)
  refine ⟨_, print_no_pending hm hg hw hp ch hview, ?_, ?_, ?_⟩
  · exact ⟨hm.top, hm.bottom, hm.autoWrap, hm.replace, hm.charset, hm.primary, hm.unlimited⟩
  · refine ⟨hg.cols_pos, hg.rows_pos, hg.bcols, hg.brows, ?_, hg.row_lt, ?_, ?_⟩
    · simp [printedNoWrap, hg.view_len]
    · simp only [printedNoWrap, decide_eq_true_eq, decide_eq_false_iff_not]
      by_cases hc : t.cursor.col + 1 ≥ t.cols
      · left; exact ⟨hc, Nat.le_antisymm (Nat.succ_le_of_lt hcol) hc⟩
      · right; exact ⟨hc, Nat.not_le.1 hc⟩
    · simp [printedNoWrap, hg.dirty_len]
  · let lr' : Line := { lr with cells := lr.cells.set t.cursor.col ⟨ch, t.pen⟩ }
    have hlines2 : (printedNoWrap t lr ch).buffer.lines = closedRows ++ (ws ++ [lr']) ++ belowRows :=
      hset lr'
    -- padding is not exhausted
    have hpad : pad = t.cols - t.cursor.col :=
      Nat.eq_sub_of_add_eq (TW_pad (lens_snoc hlenW hlrlen) s.cur_text s.cur_len)
    have hwsLen : (rowsText ws).length = ws.length * t.cols :=
      rowsText_length ws t.cols hlenW
    have hrt' : rowsText (ws ++ [lr']) = (cur ++ [ch]) ++ List.replicate (pad - 1) 0x20 := by
      have h1 : rowsText (ws ++ [lr']) = (rowsText (ws ++ [lr])).set (ws.length * t.cols + t.cursor.col) ch := by
        rw [rowsText_append, rowsText_append, rowsText_singleton, rowsText_singleton,
          ← hwsLen, List.set_append_right _ _ (Nat.le_add_right _ _)]
        simp [lr', Line.text]
      rw [h1, s.cur_text, ← s.cur_len, List.set_append_right _ _ (Nat.le_refl _)]
      have : pad = (pad - 1) + 1 := (Nat.sub_add_cancel (hpad ▸ Nat.sub_pos_of_lt hcol)).symm
      rw [Nat.sub_self, this, List.replicate_succ]
      simp
    exact TW_iff.2 ⟨done, cur ++ [ch], closedRows, ws, lr', belowRows, pad - 1, typeChar_snoc _ _ _,
      { s with
        lines := hlines2
        lens := lens_iff.2 ⟨hlenC, hlenW, (List.length_set ..).trans hlrlen, hlenB⟩
        cur_text := hrt'
        cur_len := by
          have := s.cur_len
          simp only [printedNoWrap, List.length_append, List.length_cons, List.length_nil]; omega
        row := by simpa [printedNoWrap] using s.row }⟩

end Avt.Lemmas
