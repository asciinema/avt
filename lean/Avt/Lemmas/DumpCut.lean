/-
  Avt.Lemmas.DumpCut — `Terminal.dump` cut into the texts of its steps, from the model alone.  The
  steps are numbered as in `Terminal::dump` (`// N.` in /repo/src/terminal.rs, `-- N` in Model/Vt.lean):
     1  the primary buffer                  2  the tab stops, unless they are the defaults
     3  the saved context of the primary screen (`dumpCtx`), then SGR 0
     4  `?1047h` if the alternate screen shows or has a saved context; if it shows, CUP home and its buffer
     5  the saved context of the alternate screen (`dumpCtx`)
     6  `?1047l` if step 4 switched and the primary screen shows
     7  origin mode     8  the margins (either of them resets the cursor, hence before 9)
     9  the cursor (`dumpCursor`), the re-print of the last column when a wrap is pending
        (`pendingText`), the pen, `?25l`
    10  the charsets   11  insert mode   12  auto-wrap off   (10–12 change what a print does, hence after 9)
    13  new-line mode  14  cursor-key mode
  `dump_eq_primary` / `dump_eq_alternate` write `T.dump` as that concatenation (`dumpTail` is steps
  7–14), given that the parts succeed.  Also what `Line::chunks(|a, b| a.pen != b.pen)` yields
  (`chunks_spec`).
-/
import Avt.Lemmas.Prim
import Avt.Model.Vt

namespace Avt
namespace Lemmas.C11
open Avt.Terminal

def penPred : Cell → Cell → Bool := fun c1 c2 => c1.pen ≠ c2.pen

/-- `cur` (reversed) is the chunk being collected; all of it has pen `p` -/
theorem chunksGo_spec : ∀ (cs cur : List Cell) (p : Pen), (∀ x ∈ cur, x.pen = p) →
    (∀ ch ∈ Line.chunksGo penPred cs cur, ch ≠ [] ∧ ∃ q, ∀ x ∈ ch, x.pen = q)
      ∧ (Line.chunksGo penPred cs cur).flatten = cur.reverse ++ cs
  | [], cur, p, hu => by
    simp only [Line.chunksGo]
    split
    · rename_i he
      have : cur = [] := by simpa using he
      subst this
      simp
    · rename_i he
      refine ⟨fun ch hch => ?_, by simp⟩
      rw [List.mem_singleton.1 hch]
      exact ⟨by simpa using he, p, fun x hx => hu x (List.mem_reverse.1 hx)⟩
  | c :: cs, [], _, _ => by
    simpa [Line.chunksGo] using chunksGo_spec cs [c] c.pen (fun x hx => by rw [List.mem_singleton.1 hx])
  | c :: cs, last :: cur, p, hu => by
    simp only [Line.chunksGo]
    split
    · have ih := chunksGo_spec cs [c] c.pen (fun x hx => by rw [List.mem_singleton.1 hx])
      refine ⟨fun ch hch => ?_, by rw [List.flatten_cons, ih.2]; simp⟩
      rcases List.mem_cons.1 hch with rfl | hch
      · exact ⟨by simp, p, fun x hx => hu x (List.mem_reverse.1 hx)⟩
      · exact ih.1 ch hch
    · rename_i hp
      have hlc : last.pen = c.pen := by simpa [penPred] using hp
      have ih := chunksGo_spec cs (c :: last :: cur) p (fun x hx => by
        rcases List.mem_cons.1 hx with rfl | hx
        · exact hlc.symm.trans (hu last (List.mem_cons_self ..))
        · exact hu x hx)
      exact ⟨ih.1, by rw [ih.2]; simp⟩

theorem chunks_spec (l : Line) :
    (∀ ch ∈ l.chunks penPred, ∃ c cs, ch = c :: cs ∧ ∀ x ∈ cs, x.pen = c.pen)
      ∧ (l.chunks penPred).flatten = l.cells := by
  have := chunksGo_spec l.cells [] {} (by intro x hx; cases hx)
  refine ⟨?_, by simpa [Line.chunks] using this.2⟩
  intro ch hch
  obtain ⟨hne, q, hq⟩ := this.1 ch hch
  cases ch with
  | nil => exact absurd rfl hne
  | cons c cs =>
    exact ⟨c, cs, rfl, fun x hx => (hq x (List.mem_cons_of_mem _ hx)).trans (hq c (List.mem_cons_self ..)).symm⟩

/-- what `dump()` writes for the wrap-pending re-print -/
def pendingText (t : Terminal) : Option (List Nat) :=
  if t.cursor.col ≥ t.cols then
    match csub t.cols 1 with
    | none => none
    | some c1 =>
      match t.buffer.view[t.cursor.row]? with
      | none => none
      | some line =>
        match line.cells[c1]? with
        | none => none
        | some cell => (cell.pen.dump).map fun pd => pd ++ [cell.ch]
  else some []

def tabsText (T : Terminal) : List Nat :=
  if T.tabs ≠ Tabs.new T.cols then
    [csi, 0x35, 0x57] ++ (T.tabs.map fun tb => csi :: renderDec (tb + 1) ++ [0x60, 0x1b, 0x5b, 0x57]).flatten
  else []

def modesText (T : Terminal) : List Nat :=
  (if !T.cursor.visible then [csi, 0x3f, 0x32, 0x35, 0x6c] else [])
    ++ ((if T.charsets.1 = .drawing then [0x1b, 0x28, 0x30] else [])
    ++ ((if T.charsets.2 = .drawing then [0x1b, 0x29, 0x30] else [])
    ++ ((if T.activeCharset = 1 then [0x0e] else [])
    ++ ((if T.insertMode then [csi, 0x34, 0x68] else [])
    ++ ((if !T.autoWrapMode then [csi, 0x3f, 0x37, 0x6c] else [])
    ++ ((if T.newLineMode then [csi, 0x32, 0x30, 0x68] else [])
    ++ (if T.cursorKeysMode = .application then [csi, 0x3f, 0x31, 0x68] else [])))))))

/-- dump steps 7–14, given the text of the wrap-pending re-print `s9` and of the pen `pd` -/
def dumpTail (T : Terminal) (s9 pd : List Nat) : List Nat :=
  (if T.originMode then [csi, 0x3f, 0x36, 0x68] else [])
    ++ ((if T.topMargin > 0 || T.bottomMargin < T.rows - 1
          then csi :: renderDec (T.topMargin + 1) ++ [0x3b] ++ renderDec (T.bottomMargin + 1) ++ [0x72] else [])
    ++ (T.dumpCursor ++ (s9 ++ (pd ++ modesText T))))

theorem dump_eq_primary {T : Terminal} (hp : T.activeBufferType = .primary) (hr : 1 ≤ T.rows)
    {prim pctx actx pend s9 : List Nat} (h1 : T.buffer.dump = some prim) (h2 : dumpCtx T.savedCtx = some pctx)
    (h3 : dumpCtx T.alternateSavedCtx = some actx) (h4 : T.pen.dump = some pend) (h5 : pendingText T = some s9) :
    T.dump = some (prim ++ (tabsText T ++ (pctx ++ ([0x1b, 0x5b, 0x6d]
      ++ ((if !T.alternateSavedCtx.isDefault then [csi, 0x3f, 0x31, 0x30, 0x34, 0x37, 0x68] else [])
      ++ (actx ++ ((if !T.alternateSavedCtx.isDefault then [csi, 0x3f, 0x31, 0x30, 0x34, 0x37, 0x6c] else [])
      ++ dumpTail T s9 pend))))))) := by
  simp only [Terminal.dump, hp, primaryBuffer, h1, h2, h3, h4, csub_eq_some hr, if_true, reduceCtorEq, if_false,
    tabsText, dumpTail, modesText, decide_false, Bool.false_or, Bool.not_false, Bool.true_and, List.append_assoc,
    List.nil_append, List.cons_append]
  -- the re-print is the same expression as `pendingText T`
  split
  · rename_i a pp ha hpp
    cases ha
    cases hpp.symm.trans h5
    rfl
  · rename_i hno
    exact (hno _ _ rfl h5).elim

theorem dump_eq_alternate {T : Terminal} (hp : T.activeBufferType = .alternate) (hr : 1 ≤ T.rows)
    {prim pctx altd actx pend s9 : List Nat} (h1 : T.otherBuffer.dump = some prim)
    (h2 : dumpCtx T.alternateSavedCtx = some pctx) (h2' : T.buffer.dump = some altd)
    (h3 : dumpCtx T.savedCtx = some actx) (h4 : T.pen.dump = some pend) (h5 : pendingText T = some s9) :
    T.dump = some (prim ++ (tabsText T ++ (pctx ++ ([0x1b, 0x5b, 0x6d]
      ++ ([csi, 0x3f, 0x31, 0x30, 0x34, 0x37, 0x68] ++ ([csi, 0x31, 0x3b, 0x31, 0x48] ++ (altd
      ++ (actx ++ dumpTail T s9 pend)))))))) := by
  simp only [Terminal.dump, hp, primaryBuffer, alternateBuffer, h1, h2, h2', h3, h4, csub_eq_some hr, if_true,
    reduceCtorEq, if_false, tabsText, dumpTail, modesText, Option.map_some, decide_true, Bool.true_or, Bool.not_true,
    Bool.false_and, Bool.false_eq_true, List.append_assoc, List.nil_append, List.cons_append]
  split
  · rename_i a pp ha hpp
    cases ha
    cases hpp.symm.trans h5
    rfl
  · rename_i hno
    exact (hno _ _ rfl h5).elim

end Lemmas.C11
end Avt
