/-
  Avt.Lemmas.FoldM — the model's fold `foldM'`: over an appended list, a predicate kept by every step
  (`foldM'_inv`), simulated by a `foldl` (`foldM'_foldl`), a relation kept by one step of two folds
  (`foldM'_rel`); `Vt.feed` and `Vt.feedStr` opened once; `Vt.feedAll` is a `foldM'`.
-/
import Avt.Model.Vt
import Avt.Spec.Base

namespace Avt
open Terminal

theorem Terminal.foldM'_append {α β} (f : β → α → Option β) (xs ys : List α) (b : β) :
    foldM' f (xs ++ ys) b = (foldM' f xs b).bind (foldM' f ys) := by
  induction xs generalizing b with
  | nil => rfl
  | cons x xs ih =>
    simp only [List.cons_append, foldM']
    cases f b x with
    | none => rfl
    | some b' => exact ih b'

namespace Terminal

theorem foldM'_single {α β} (f : β → α → Option β) (a : α) (b : β) : foldM' f [a] b = f b a := by
  simp only [foldM']
  cases f b a <;> rfl

theorem foldM'_inv {α β} {f : β → α → Option β} (P : β → Prop) {ms : List α} {b b' : β}
    (step : ∀ b a b', a ∈ ms → P b → f b a = some b' → P b') (h0 : P b)
    (h : foldM' f ms b = some b') : P b' := by
  induction ms generalizing b with
  | nil => cases h; exact h0
  | cons a as ih =>
    unfold foldM' at h
    split at h
    · rename_i b1 h1
      exact ih (fun b a b' ha => step b a b' (List.mem_cons_of_mem _ ha))
        (step b a b1 List.mem_cons_self h0 h1) h
    · cases h

theorem foldM'_foldl {α β σ} {f : β → α → Option β} {g : σ → α → σ} (R : β → σ → Prop)
    (step : ∀ b a b' s, R b s → f b a = some b' → R b' (g s a)) :
    ∀ (ms : List α) {b b' : β} {s : σ}, R b s → foldM' f ms b = some b' → R b' (ms.foldl g s)
  | [], _, _, _, h0, h => by cases h; exact h0
  | a :: as, b, b', s, h0, h => by
    unfold foldM' at h
    split at h
    · rename_i h1
      exact foldM'_foldl R step as (step _ _ _ _ h0 h1) h
    · cases h

end Terminal

/-- what a successful `Vt.feed` is made of: the parser's step, then `execute` on what it emitted -/
theorem Vt.feed_cases {v v' : Vt} {c : Nat} (h : v.feed c = some v') :
    ∃ f, v.parser.feed c = some (v'.parser, f) ∧
      match f with
      | none => v'.terminal = v.terminal
      | some f => v.terminal.execute f = some v'.terminal := by
  unfold Vt.feed at h
  split at h
  · cases h
  · cases h; exact ⟨none, ‹_›, rfl⟩
  · obtain ⟨t', ht', rfl⟩ := Option.map_eq_some_iff.1 h
    exact ⟨some _, ‹_›, ht'⟩

/-- `changes()` clears the flags, `gc()` trims the buffer; nothing else is touched -/
theorem Spec.finishT_eq (t : Terminal) :
    Spec.finishT t = { t with buffer := t.buffer.gc.1, dirtyLines := Dirty.clear t.dirtyLines } := rfl

/-- the tail of `feed_str` and `resize` in closed form -/
theorem Vt.finish_eq (v : Vt) :
    v.finish = ({ v with terminal := Spec.finishT v.terminal },
      ⟨Dirty.toVec v.terminal.dirtyLines,
       if v.terminal.activeBufferType = .alternate then [] else v.terminal.buffer.gc.2⟩) := rfl

theorem Vt.feedStr_eq_some {v v' : Vt} {s : List Nat} {ch : Changes} :
    v.feedStr s = some (v', ch) ↔ ∃ g, v.feedAll s = some g ∧ g.finish = (v', ch) :=
  Option.map_eq_some_iff

theorem Vt.feedStr_of_feedAll {v g : Vt} {s : List Nat} (h : v.feedAll s = some g) :
    v.feedStr s = some g.finish :=
  congrArg (Option.map Vt.finish) h

theorem Vt.feedAll_eq_foldM' : ∀ (xs : List Nat) (v : Vt), v.feedAll xs = foldM' Vt.feed xs v
  | [], _ => rfl
  | c :: cs, v => by
    simp only [Vt.feedAll, foldM']
    cases v.feed c with
    | none => rfl
    | some v' => exact Vt.feedAll_eq_foldM' cs v'

theorem _root_.Option.Rel.none_or_some {α β} {Q : α → β → Prop} {oa : Option α} {ob : Option β} (h : Option.Rel Q oa ob) :
    (oa = none ∧ ob = none) ∨ ∃ a b, oa = some a ∧ ob = some b ∧ Q a b := by
  cases h with
  | none => exact .inl ⟨rfl, rfl⟩
  | some h => exact .inr ⟨_, _, rfl, rfl, h⟩

theorem Terminal.foldM'_rel {α σ τ} {f : σ → α → Option σ} {g : τ → α → Option τ} (Q : σ → τ → Prop) :
    ∀ (xs : List α), (∀ x ∈ xs, ∀ u v, Q u v → Option.Rel Q (f u x) (g v x)) →
      ∀ u v, Q u v → Option.Rel Q (foldM' f xs u) (foldM' g xs v)
  | [], _, _, _, h => .some h
  | x :: xs, step, u, v, h => by
    simp only [foldM']
    rcases (step x List.mem_cons_self u v h).none_or_some with ⟨hu, hv⟩ | ⟨u', v', hu, hv, h'⟩ <;> rw [hu, hv]
    · exact .none
    · exact foldM'_rel Q xs (fun y hy => step y (List.mem_cons_of_mem _ hy)) u' v' h'

/-- `foldM'_rel` at the relation `p u = q v` (the two states look the same through `p` and `q`), under
    invariants `I`, `J` kept by every step -/
theorem Terminal.foldM'_cong {α σ τ β} {f : σ → α → Option σ} {g : τ → α → Option τ} {p : σ → β} {q : τ → β}
    (I : σ → Prop) (J : τ → Prop)
    (keepI : ∀ {u u' : σ} {a : α}, I u → f u a = some u' → I u')
    (keepJ : ∀ {v v' : τ} {a : α}, J v → g v a = some v' → J v') :
    ∀ (xs : List α), (∀ a ∈ xs, ∀ u v, I u → J v → p u = q v → (f u a).map p = (g v a).map q) →
      ∀ u v, I u → J v → p u = q v → (foldM' f xs u).map p = (foldM' g xs v).map q := by
  intro xs step u v hu hv e
  have := foldM'_rel (f := f) (g := g) (fun u v => I u ∧ J v ∧ p u = q v) xs
    (fun a ha u v h => by
      have st := step a ha u v h.1 h.2.1 h.2.2
      cases h1 : f u a <;> cases h2 : g v a <;> simp only [h1, h2, Option.map_some, Option.map_none,
        Option.some.injEq, reduceCtorEq] at st
      · exact .none
      · exact .some ⟨keepI h.1 h1, keepJ h.2.1 h2, st⟩) u v ⟨hu, hv, e⟩
  rcases this.none_or_some with ⟨h1, h2⟩ | ⟨_, _, h1, h2, _, _, h⟩ <;> rw [h1, h2]
  · rfl
  · exact congrArg some h

/-- the same for two runs of `Vt.feedAll`, the invariant being kept by `feedAll` itself -/
theorem Vt.feedAll_cong {β} {n : Vt → β} (I : Vt → Prop)
    (keep : ∀ (xs : List Nat) {u u' : Vt}, I u → u.feedAll xs = some u' → I u')
    (step : ∀ c a b, I a → I b → n a = n b → (a.feed c).map n = (b.feed c).map n) (xs : List Nat) (a b : Vt)
    (ha : I a) (hb : I b) (h : n a = n b) : (a.feedAll xs).map n = (b.feedAll xs).map n := by
  have keep1 : ∀ {u u' : Vt} {c : Nat}, I u → u.feed c = some u' → I u' := fun {u u' c} hu hf =>
    keep [c] hu (by simp only [Vt.feedAll, hf])
  rw [Vt.feedAll_eq_foldM', Vt.feedAll_eq_foldM']
  exact foldM'_cong I I keep1 keep1 xs (fun c _ => step c) a b ha hb h

end Avt
