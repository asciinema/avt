/-
  Avt.Lemmas.C11Stages — the steps of `Terminal.dump` behind the buffers (numbered as in Lemmas/DumpCut.lean),
  each about a variable terminal with what the step reads as hypotheses.  A saved-context block (steps 3
  and 5) is stated up to `rcore` (`rep_ctx`); step 9 on its two routes (CUP, or `CSI u` and relative moves)
  and the wrap-pending re-print set cursor position and pending wrap exactly; the `?25l` of step 9 and
  steps 10–14 are `feeds_modes`.  `tail_replay` puts steps 7–14 together: from any terminal that is
  `headRef T B O asc` up to `rcore` they lead to the dumped terminal `T` up to `normT`.

  Steps that move the cursor go through C05 and need the invariant of the state they start from: up to step 8
  it travels inside `Rep`.
-/
import Avt.Lemmas.C11Fragments
import Avt.Lemmas.C11Norm

namespace Avt
namespace Lemmas.C11
open Avt.Spec.C11 Avt.Spec.C04 Avt.C04L Avt.Terminal

/-- the part of `DumpOK` (C11Replay) that the single steps need.  The bounds are KF6
    (`Spec.C11.sizeExceedsU16`): the largest number `dump()` writes for a column is `cols + 1` (cursor parked
    wrap-pending, 1-based), for a row `rows`, and a CSI parameter holds at most 65535 -/
structure GenOK (T : Terminal) : Prop where
  inv : TInv T = true
  pen : PenOK T.pen
  cols : T.cols < 65535
  rows : T.rows ≤ 65535

/-- a saved-context block (dump steps 3 and 5) for ANY context with a pen `Pen::dump` can write and a
    position below the 16-bit parameter range: temporary modes, CUP, pen, `ESC 7`, modes back.  The active
    saved context becomes the dumped one, CLAMPED into the screen by CUP (nothing is emitted for the default
    context: the active one is untouched). -/
theorem rep_ctx {a : Terminal} (ctx : SavedCtx) {s : List Nat} (hs : dumpCtx ctx = some s) (hp : PenOK ctx.pen)
    (hpos : ctx.cursorCol < 65535 ∧ ctx.cursorRow < 65535) (hc1 : 1 ≤ a.cols) (ho : a.originMode = false)
    (haw : a.autoWrapMode = true) (hmg : a.topMargin = 0 ∧ a.bottomMargin = a.rows - 1) :
    Rep s a { a with savedCtx := if ctx.isDefault then a.savedCtx else clampCtx ctx a.cols a.rows } := by
  by_cases hdef : ctx.isDefault = true
  · rw [dumpCtx, if_pos hdef] at hs
    cases hs
    exact (Rep.nil a).to (by rw [if_pos hdef])
  · obtain ⟨pd, hpd, fp⟩ := feeds_pen ctx.pen hp
    rw [dumpCtx, if_neg hdef, hpd] at hs
    cases hs
    rw [if_neg hdef]
    have r1 : Rep _ a { a with autoWrapMode := ctx.autoWrapMode } := Rep.intro fun _ _ =>
      ⟨_, feeds_autoWrapOff _ ctx.autoWrapMode fun _ => haw, rfl⟩
    have r2 := rep_originOn (a := { a with autoWrapMode := ctx.autoWrapMode }) ctx.originMode ho
    -- between CUP and `ESC 7` position and pen are exact: `ESC 7` saves the position CUP has clamped
    have r3 : Rep _ { a with autoWrapMode := ctx.autoWrapMode, originMode := ctx.originMode }
        { a with autoWrapMode := true, originMode := ctx.originMode, savedCtx := clampCtx ctx a.cols a.rows } :=
      Rep.intro fun _ ht => by
        refine ⟨_, (feeds_cup ht ctx.cursorRow ctx.cursorCol hpos.2 hpos.1).append <|
          (fp _).append <|
          (feeds_decsc _ (by exact hc1)).append (feeds_autoWrapOn _ ctx.autoWrapMode (by exact rfl)), ?_⟩
        simp only [rcore, Spec.C05.cursorAt, Spec.C05.absCol, Spec.C05.lastCol, Spec.C05.absRow, Spec.C05.lastRow,
          hmg.1, hmg.2, Nat.zero_add, ite_self, clampCtx, Nat.min_assoc, Nat.min_self]
    have r4 : Rep _ { a with autoWrapMode := true, originMode := ctx.originMode, savedCtx := clampCtx ctx a.cols a.rows }
        _ := rep_originOff ctx.originMode rfl
    exact ((r1.append (r2.append (r3.append r4))).cast (by simp only [List.append_assoc])).to (by rw [← haw, ← ho])

open Avt.Spec.C05 in
def relMove : Function → Bool
  | .cub _ | .cuf _ | .cuu _ | .cud _ => true
  | _ => false

/-- the fields a relative move reads -/
structure SameCur (a b : Terminal) : Prop where
  col : a.cursor.col = b.cursor.col
  row : a.cursor.row = b.cursor.row
  cols : a.cols = b.cols
  rows : a.rows = b.rows
  top : a.topMargin = b.topMargin
  bottom : a.bottomMargin = b.bottomMargin

open Avt.Spec.C05 in
theorem relMove_spec {a b : Terminal} {f : Function} (hf : relMove f = true) (hab : SameCur a b) :
    ∃ col row, moveSpec a f = cursorAt a col row ∧ moveSpec b f = cursorAt b col row := by
  obtain ⟨h1, h2, h3, h4, h5, h6⟩ := hab
  cases f <;> simp only [relMove, Bool.false_eq_true] at hf
  case cub n => exact ⟨_, _, rfl, by simp only [moveSpec, left, realCol, lastCol, h1, h2, h3]⟩
  case cuf n => exact ⟨_, _, rfl, by simp only [moveSpec, right, lastCol, h1, h2, h3]⟩
  case cuu n => exact ⟨_, _, rfl, by simp only [moveSpec, up, realCol, lastCol, h1, h2, h3, h5]⟩
  case cud n => exact ⟨_, _, rfl, by simp only [moveSpec, down, realCol, lastCol, lastRow, h1, h2, h3, h4, h6]⟩

open Avt.Spec.C05 in
theorem relMove_covered {a : Terminal} {f : Function} (hf : relMove f = true) : covered a f = true := by
  cases f <;> simp only [relMove, Bool.false_eq_true] at hf <;> rfl

open Avt.Spec.C05 in
/-- a list of relative moves run on two terminals that agree on what the moves read: both succeed and
    place the cursor at the same position, touching nothing else -/
theorem moves_sim : ∀ (fs : List Function), (∀ f ∈ fs, relMove f = true) → ∀ (a b : Terminal),
    TInv a = true → TInv b = true → a.pendingWrap = false → b.pendingWrap = false → SameCur a b →
    ∃ col row, foldM' Terminal.execute fs a = some (cursorAt a col row)
      ∧ foldM' Terminal.execute fs b = some (cursorAt b col row)
  | [], _, a, b, _, _, pa, pb, hab => by
    refine ⟨a.cursor.col, a.cursor.row, ?_, ?_⟩
    · simp only [foldM', cursorAt, ← pa]
    · simp only [foldM', cursorAt, ← pb, hab.col, hab.row]
  | f :: fs, hfs, a, b, ha, hb, _, _, hab => by
    have hf := hfs f (List.mem_cons_self ..)
    obtain ⟨col, row, ea, eb⟩ := relMove_spec hf hab
    have xa := C05_move ha (relMove_covered (a := a) hf)
    have xb := C05_move hb (relMove_covered (a := b) hf)
    rw [ea] at xa
    rw [eb] at xb
    have ia : TInv (cursorAt a col row) = true := by
      obtain ⟨t', e, i⟩ := Props.Closed.C02_execute f ha
      rw [xa] at e; cases e; exact i
    have ib : TInv (cursorAt b col row) = true := by
      obtain ⟨t', e, i⟩ := Props.Closed.C02_execute f hb
      rw [xb] at e; cases e; exact i
    obtain ⟨col', row', e1, e2⟩ := moves_sim fs (fun g hg => hfs g (List.mem_cons_of_mem _ hg))
      (cursorAt a col row) (cursorAt b col row) ia ib rfl rfl
      ⟨rfl, rfl, hab.cols, hab.rows, hab.top, hab.bottom⟩
    exact ⟨col', row', by simp only [foldM', xa, e1]; rfl, by simp only [foldM', xb, e2]; rfl⟩

/-- the relative moves `dump()` writes after `CSI u` on that route of step 9 -/
def step9Text (T : Terminal) : List Nat :=
  (if T.cursor.col < T.savedCtx.cursorCol then csi :: renderDec (T.savedCtx.cursorCol - T.cursor.col) ++ [0x44]
    else if T.cursor.col > T.savedCtx.cursorCol then csi :: renderDec (T.cursor.col - T.savedCtx.cursorCol) ++ [0x43]
    else [])
  ++ (if T.cursor.row < T.savedCtx.cursorRow then csi :: renderDec (T.savedCtx.cursorRow - T.cursor.row) ++ [0x41]
      else if T.cursor.row > T.savedCtx.cursorRow then csi :: renderDec (T.cursor.row - T.savedCtx.cursorRow) ++ [0x42]
      else [])

theorem inside_iff {T : Terminal} : cursorOutsideRegion T = false
    ↔ (T.originMode = false ∨ (T.topMargin ≤ T.cursor.row ∧ T.cursor.row ≤ T.bottomMargin)) := by
  simp only [cursorOutsideRegion, Bool.and_eq_false_iff, Bool.or_eq_false_iff, decide_eq_false_iff_not, Nat.not_lt]

theorem dumpCursor_inside {T : Terminal} (hin : cursorOutsideRegion T = false) : T.dumpCursor
    = cupSeq ((if T.originMode then T.cursor.row - T.topMargin else T.cursor.row) + 1) (T.cursor.col + 1) := by
  unfold dumpCursor
  cases ho : T.originMode with
  | false => simp
  | true => simp only [cursorOutsideRegion, ho, Bool.true_and] at hin; simp [hin]

/-- CUP maps the row `dump()` writes back to the cursor's row -/
theorem absRow_dumpRow {T : Terminal} (ht : TOK T) (hin : cursorOutsideRegion T = false) :
    Spec.C05.absRow T (if T.originMode then T.cursor.row - T.topMargin else T.cursor.row) = T.cursor.row := by
  have hrow := ht.crow
  obtain ⟨m1, m2, m3⟩ := ht.marg
  unfold Spec.C05.absRow Spec.C05.lastRow
  rcases inside_iff.1 hin with ho | ⟨h1, h2⟩
  · rw [ho]; simp only [Bool.false_eq_true, if_false]; omega
  · split <;> omega

/-- the replaying terminal `t` agrees with the dumped one on what step 9 reads -/
structure Step9Agree (t T : Terminal) : Prop where
  cols : t.cols = T.cols
  rows : t.rows = T.rows
  top : t.topMargin = T.topMargin
  bottom : t.bottomMargin = T.bottomMargin
  om : t.originMode = T.originMode
  sc : t.savedCtx = T.savedCtx

/-- step 9, CUP route (origin mode off, or the cursor inside the region) -/
theorem feeds_cursor_inside {T t : Terminal} (h : GenOK T) (hin : cursorOutsideRegion T = false)
    (ht : TInv t = true) (g : Step9Agree t T) :
    Feeds T.dumpCursor t (Spec.C05.cursorAt t (min T.cursor.col (T.cols - 1)) T.cursor.row) := by
  have hT := TOK.of_TInv h.inv
  rw [dumpCursor_inside hin]
  refine (feeds_cup ht _ T.cursor.col (by have := h.rows; have := hT.crow; split <;> omega)
    (by have := h.cols; have := hT.ccol_le; omega)).to ?_
  have e : ∀ r, Spec.C05.absRow t r = Spec.C05.absRow T r := fun r => by
    simp only [Spec.C05.absRow, Spec.C05.lastRow, g.rows, g.top, g.bottom, g.om]
  rw [e, absRow_dumpRow hT hin, Spec.C05.absCol, Spec.C05.lastCol, g.cols]

/-- from `x` to `y` by one relative move, `back` if `x < y` and `forth` if `x > y` (CUB / CUF for columns,
    CUU / CUD for rows: `y` is the saved position `CSI u` has restored, `x` the cursor's) -/
theorem emits_relMove (back forth : Nat) (fb ff : Nat → Function)
    (hb : ∀ n, n < 65536 → Emits (csi :: renderDec n ++ [back]) [fb n])
    (hf : ∀ n, n < 65536 → Emits (csi :: renderDec n ++ [forth]) [ff n])
    (x y : Nat) (hx : x < 65536) (hy : y < 65536) :
    Emits (if x < y then csi :: renderDec (y - x) ++ [back] else if x > y then csi :: renderDec (x - y) ++ [forth]
        else [])
      (if x < y then [fb (y - x)] else if x > y then [ff (x - y)] else []) := by
  split
  · exact hb _ (by omega)
  · split
    · exact hf _ (by omega)
    · exact Emits.nil

theorem emits_step9 {T : Terminal} (ht : TOK T) (hc : T.cols < 65535) (hr : T.rows ≤ 65535) :
    Emits (step9Text T)
      (step9Moves T) := by
  have hcol := ht.ccol_le
  have hrow := ht.crow
  obtain ⟨s1, s2⟩ := ht.sctx
  exact Emits.append
    (emits_relMove 0x44 0x43 .cub .cuf emits_cub emits_cuf _ _ (by omega) (by omega))
    (emits_relMove 0x41 0x42 .cuu .cud emits_cuu emits_cud _ _ (by omega) (by omega))

theorem step9Moves_rel (T : Terminal) : ∀ f ∈ step9Moves T, relMove f = true := by
  intro f hf
  unfold step9Moves at hf
  simp only [List.mem_append] at hf
  rcases hf with hf | hf
  · split at hf
    · simp only [List.mem_singleton] at hf; subst hf; rfl
    · split at hf
      · simp only [List.mem_singleton] at hf; subst hf; rfl
      · cases hf
  · split at hf
    · simp only [List.mem_singleton] at hf; subst hf; rfl
    · split at hf
      · simp only [List.mem_singleton] at hf; subst hf; rfl
      · cases hf

/-- on the `CSI u` route, what `cursorStepFaithful` says of the modes `CSI u` restores -/
theorem faithful_modes {T : Terminal} (hout : cursorOutsideRegion T = true) (hf : cursorStepFaithful T = true) :
    T.savedCtx.originMode = T.originMode ∧ (T.autoWrapMode = true → T.savedCtx.autoWrapMode = true)
      ∧ (T.cursor.col ≥ T.cols → T.savedCtx.autoWrapMode = true) := by
  simp only [cursorStepFaithful, hout, Bool.not_true, Bool.false_or, Bool.and_eq_true, step9ModesFaithful, afterCsiU,
    restoreCursor, Bool.or_eq_true, Bool.not_eq_true', decide_eq_true_eq, beq_iff_eq] at hf
  obtain ⟨⟨⟨h1, h2⟩, h3⟩, -⟩ := hf
  refine ⟨h1, fun ha => ?_, fun hge => ?_⟩
  · rcases h2 with h2 | h2
    · rw [ha] at h2; cases h2
    · exact h2
  · rcases h3 with h3 | h3
    · omega
    · exact h3

/-- step 9, `CSI u` route (origin mode on, the cursor outside the region) under `cursorStepFaithful`:
    `CSI u` restores the active saved context — position, pen, origin mode, auto-wrap; pending wrap
    cleared — and the emitted CUB/CUF/CUU/CUD reach the cursor.  Auto-wrap and pen are left as the saved
    context has them (later steps re-establish them). -/
theorem feeds_cursor_outside {T t : Terminal} (h : GenOK T) (hout : cursorOutsideRegion T = true)
    (hf : cursorStepFaithful T = true) (ht : TInv t = true) (g : Step9Agree t T) :
    Feeds T.dumpCursor t (Spec.C05.cursorAt { t with pen := T.savedCtx.pen, autoWrapMode := T.savedCtx.autoWrapMode }
      (min T.cursor.col (T.cols - 1)) T.cursor.row) := by
  have hT := TOK.of_TInv h.inv
  have hom := (faithful_modes hout hf).1
  simp only [cursorStepFaithful, hout, Bool.not_true, Bool.false_or, Bool.and_eq_true] at hf
  have hout' := hout
  simp only [cursorOutsideRegion, Bool.and_eq_true, Bool.or_eq_true, decide_eq_true_eq] at hout'
  obtain ⟨ho, hrr⟩ := hout'
  have hdc : T.dumpCursor = [csi, 0x75] ++ step9Text T := by
    unfold dumpCursor step9Text
    have : (decide (T.cursor.row < T.topMargin) || decide (T.cursor.row > T.bottomMargin)) = true := by
      simpa using hrr
    simp only [ho, if_true, this, List.append_assoc]
  rw [hdc]
  have f1 : Feeds [csi, 0x75] t t.restoreCursor :=
    Feeds.one (emits_csiText [0x9b] (Or.inr rfl) ⟨none, [], [], 0x75⟩ rfl _ rfl) rfl
  -- the moves, run side by side on the replaying terminal and on the dumped one
  have iT : TInv T.restoreCursor = true := by
    obtain ⟨t', e, i⟩ := Props.Closed.C02_execute .scorc h.inv
    simp only [Terminal.execute, Option.some.injEq] at e
    rw [e]; exact i
  obtain ⟨col, row, e1, e2⟩ := moves_sim (step9Moves T) (step9Moves_rel T) t.restoreCursor T.restoreCursor
    (f1.TInv ht) iT rfl rfl
    ⟨congrArg SavedCtx.cursorCol g.sc, congrArg SavedCtx.cursorRow g.sc, g.cols, g.rows, g.top, g.bottom⟩
  have hpos : row = T.cursor.row ∧ col = min T.cursor.col (T.cols - 1) := by
    simp only [step9PositionFaithful, step9Sim, afterCsiU, e2, Bool.and_eq_true, beq_iff_eq] at hf
    exact ⟨hf.2.1, hf.2.2⟩
  have f2 := Feeds.of_emits (emits_step9 hT h.cols h.rows) e1
  rw [hpos.1, hpos.2] at f2
  refine (f1.append f2).to ?_
  unfold restoreCursor
  rw [g.sc, hom, ← g.om]
  rfl

/-- step 9, second half: the wrap-pending re-print (needs auto-wrap on at this point — on the `CSI u`
    route this is a clause of `cursorStepFaithful`) -/
theorem feeds_pending {T u : Terminal} {s : List Nat} (h : GenOK T) (hs : pendingText T = some s)
    (hcell : ∀ l ∈ T.buffer.view, ∀ c ∈ l.cells, CellOK c)
    (hinv : TInv (Spec.C05.cursorAt u (min T.cursor.col (T.cols - 1)) T.cursor.row) = true) (hc : u.cols = T.cols)
    (hview : u.buffer.view = T.buffer.view) (haw : T.cursor.col ≥ T.cols → u.autoWrapMode = true)
    (hcs : u.activeCharset = 0 ∧ u.charsets.1 = .ascii) :
    ∃ p' d', Feeds s (Spec.C05.cursorAt u (min T.cursor.col (T.cols - 1)) T.cursor.row)
      { u with cursor := { u.cursor with col := T.cursor.col, row := T.cursor.row }, pendingWrap := T.pendingWrap,
               pen := p', dirtyLines := d' } := by
  have ht := TOK.of_TInv h.inv
  have hc1 := ht.c1
  by_cases hge : T.cursor.col ≥ T.cols
  · have hpw := ht.pw_true hge
    have hlt : T.cursor.row < T.buffer.view.length := by rw [ht.bok.hv, ht.brows]; exact ht.crow
    have hlt2 : T.cols - 1 < (T.buffer.view[T.cursor.row]).cells.length := by
      rw [ht.bok.hvw _ (List.getElem_mem hlt), ht.bcols]; omega
    have hl := List.getElem?_eq_getElem hlt
    have hcl := List.getElem?_eq_getElem hlt2
    obtain ⟨pd, hpd, f⟩ := feeds_pendingPrint _ _ _ hinv
      (by show min T.cursor.col (T.cols - 1) + 1 = u.cols; omega) (haw hge) hcs
      (by show u.buffer.view[T.cursor.row]? = _; rw [hview]; exact hl)
      (by show _[u.cols - 1]? = _; rw [hc]; exact hcl) (hcell _ (List.getElem_mem hlt) _ (List.getElem_mem hlt2))
    rw [pendingText, if_pos hge, csub_eq_some hc1] at hs
    simp only [hl, hcl, hpd, Option.map_some, Option.some.injEq] at hs
    subst hs
    exact ⟨_, _, f.to (by rw [hpw.1, hpw.2.trans hc.symm]; rfl)⟩
  · have hpw := ht.pw_false (Nat.lt_of_not_le hge)
    rw [pendingText, if_neg hge] at hs
    cases hs
    refine ⟨u.pen, u.dirtyLines, ?_⟩
    rw [show min T.cursor.col (T.cols - 1) = T.cursor.col by omega, hpw]; exact Feeds.nil _

/-- the fields that the `?25l` of step 9 and steps 10–14 set still have their power-on values -/
structure LateFresh (t : Terminal) : Prop where
  vis : t.cursor.visible = true
  g0 : t.charsets.1 = .ascii
  g1 : t.charsets.2 = .ascii
  act : t.activeCharset = 0
  ins : t.insertMode = false
  nl : t.newLineMode = false
  ck : t.cursorKeysMode = .normal

def setModes (T t : Terminal) : Terminal :=
  { t with cursor := { t.cursor with visible := T.cursor.visible }, charsets := T.charsets,
           activeCharset := T.activeCharset, insertMode := T.insertMode, autoWrapMode := T.autoWrapMode,
           newLineMode := T.newLineMode, cursorKeysMode := T.cursorKeysMode }

/-- the `?25l` of dump step 9 and steps 10–14: every remaining field has its fresh value and is set if the dumped terminal differs.
    Auto-wrap is only ever switched OFF here (step 12), so it must be on before unless it ends off. -/
theorem feeds_modes (T t : Terminal) (hcs : T.activeCharset ≤ 1) (hf : LateFresh t)
    (haw : T.autoWrapMode = true → t.autoWrapMode = true) : Feeds (modesText T) t (setModes T t) :=
  ((feeds_hideCursor t T.cursor.visible hf.vis).append <|
    (feeds_g0Drawing _ T.charsets.1 (by exact hf.g0)).append <|
    (feeds_g1Drawing _ T.charsets.2 (by exact hf.g1)).append <|
    (feeds_so _ T.activeCharset hcs (by exact hf.act)).append <|
    (feeds_insertOn _ T.insertMode (by exact hf.ins)).append <|
    (feeds_autoWrapOff _ T.autoWrapMode (by exact haw)).append <|
    (feeds_newLineOn _ T.newLineMode (by exact hf.nl)).append
      (feeds_cursorKeys _ T.cursorKeysMode (by exact hf.ck))).to rfl

/-- up to `normT`, a terminal is given by its screens up to `normB`, its parked saved context up to clamping
    and the number of its dirty flags -/
theorem normT_upd {T : Terminal} (hx : T.xtwinops = false) {B O : Buffer} {asc : SavedCtx} {d : List Bool}
    (hB : normB B = normB T.buffer) (hO : T.activeBufferType = .primary ∨ normB O = normB T.otherBuffer)
    (hasc : clampCtx asc T.cols T.rows = clampCtx T.alternateSavedCtx T.cols T.rows)
    (hd : d.length = T.dirtyLines.length) :
    normT { T with buffer := B, otherBuffer := O, scrollbackLimit := none, alternateSavedCtx := asc, dirtyLines := d,
                   xtwinops := false } = normT T := by
  have hO' : (if T.activeBufferType = .primary then deadBuffer else normB O)
      = if T.activeBufferType = .primary then deadBuffer else normB T.otherBuffer := by
    rcases hO with hO | hO
    · rw [if_pos hO, if_pos hO]
    · rw [hO]
  simp only [normT, hB, hO', hasc, Dirty.clear_congr hd, hx]

/-- the replaying terminal before step 7, up to `rcore`: fresh, but for the two screens (`B` showing, `O` parked),
    the tab stops and the saved contexts -/
def headRef (T : Terminal) (B O : Buffer) (asc : SavedCtx) : Terminal :=
  { freshT T.cols T.rows none with buffer := B, otherBuffer := O, activeBufferType := T.activeBufferType,
                                   tabs := T.tabs, savedCtx := T.savedCtx, alternateSavedCtx := asc }

/-- step 9, either route: the `CSI u` route leaves the pen and auto-wrap of the saved context -/
theorem feeds_dumpCursor {T t : Terminal} (h : GenOK T) (hf : cursorStepFaithful T = true) (ht : TInv t = true)
    (g : Step9Agree t T) (haw : t.autoWrapMode = true) :
    ∃ aw' p', (T.cursor.col ≥ T.cols → aw' = true) ∧ (T.autoWrapMode = true → aw' = true)
      ∧ Feeds T.dumpCursor t (Spec.C05.cursorAt { t with pen := p', autoWrapMode := aw' }
          (min T.cursor.col (T.cols - 1)) T.cursor.row) := by
  cases hout : cursorOutsideRegion T with
  | false => exact ⟨t.autoWrapMode, t.pen, fun _ => haw, fun _ => haw, feeds_cursor_inside h hout ht g⟩
  | true => exact ⟨_, _, (faithful_modes hout hf).2.2, (faithful_modes hout hf).2.1,
      feeds_cursor_outside h hout hf ht g⟩

/-- dump steps 7–14 from any terminal that is `headRef T B O asc` up to `rcore`, where `B`, `O`, `asc` are
    `T`'s up to `normT` -/
theorem tail_replay {T : Terminal} (h : GenOK T) (hf : cursorStepFaithful T = true)
    (hcells : ∀ l ∈ T.buffer.view, ∀ c ∈ l.cells, CellOK c) {B O : Buffer} {asc : SavedCtx}
    (hB : normB B = normB T.buffer) (hO : T.activeBufferType = .primary ∨ normB O = normB T.otherBuffer)
    (hasc : clampCtx asc T.cols T.rows = clampCtx T.alternateSavedCtx T.cols T.rows)
    {s9 pd : List Nat} (hs9 : pendingText T = some s9) (hpd : T.pen.dump = some pd)
    {t : Terminal} (ht : TInv t = true) (hc : rcore t = rcore (headRef T B O asc)) :
    ∃ t', Feeds (dumpTail T s9 pd) t t' ∧ normT t' = normT T := by
  have hT := TOK.of_TInv h.inv
  -- steps 7 and 8: origin mode, margins
  obtain ⟨t8, f8, i8, c8⟩ := ((rep_originOn T.originMode rfl).append
    (rep_margins (a := { headRef T B O asc with originMode := T.originMode }) T.topMargin T.bottomMargin hT.marg h.rows
      ⟨rfl, rfl⟩)) t ht hc
  -- the state is now a record over `T`, `B`, `O`, `asc` and the unknown `j`: what steps 9–14 read of it is `rfl`
  obtain ⟨j, rfl⟩ := of_rcore c8
  obtain ⟨aw', p', haw1, haw2, f9⟩ := feeds_dumpCursor h hf i8 ⟨rfl, rfl, rfl, rfl, rfl, rfl⟩ rfl
  obtain ⟨p9, d9, f9b⟩ := feeds_pending h hs9 hcells (f9.TInv i8) rfl (congrArg Buffer.view hB :) haw1 ⟨rfl, rfl⟩
  obtain ⟨pd', hpd', fp⟩ := feeds_pen T.pen h.pen
  cases hpd.symm.trans hpd'
  have fall := f8.append <| f9.append <| f9b.append <| (fp _).append <|
    feeds_modes T _ (Nat.le_of_lt_succ hT.cs) (by exact ⟨rfl, rfl, rfl, rfl, rfl, rfl, rfl⟩) (by exact haw2)
  exact ⟨_, fall.cast (List.append_assoc _ _ _),
    normT_upd hT.xt hB hO hasc ((TOK.of_TInv (fall.TInv ht)).dirty.trans hT.dirty.symm)⟩

end Lemmas.C11
end Avt
