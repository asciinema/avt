/-
  Avt.Lemmas.C10Rel — the C10 relation (`resizeRel`) for `Buffer.resize`.

  A height-only change of the rows (`rowsOnlyLines`) leaves the rows above the cursor row alone, so the
  logical text splits at the cursor row into a part that is kept and the lines from the cursor's line
  on, which are kept or cut (`rows_rel`, for every column of the cursor row).  A width-changing resize
  is a reflow, which keeps the logical lines, a cursor translation (`relativePosition_spec`: what
  `Buffer::relative_position` returns, in terms of the row structure) and then such a change of the
  reflowed rows (`width_rows_rel`).  `buffer_resize_rel` reads the phases of `Buffer.resize` once and
  states both cases.  The wrap-pending cursor (C10's clause "pending-place") follows from the
  relation: after a width change the translated cursor is never wrap-pending, so the relation at
  `pending = false` applies; a height-only resize keeps the offset, and the character is the same one
  unless the line was cut at the cursor.
-/
import Avt.Lemmas.C10Cursor
import Avt.Lemmas.C10Resize

namespace Avt.Lemmas
open Avt Avt.Spec.C10

/-- the rows `P` above the cursor row, seen from the logical lines: the lines `A` they complete, and
    the open run `P2` of wrapped rows at their end, which belongs to the line of what follows -/
theorem split_at_run (P : List Line) : ∃ (A : List (List Cell)) (P2 : List Line),
    (∀ l ∈ P2, l.wrapped = true) ∧ A.length = P.countP (fun l => !l.wrapped)
      ∧ (rowsCells P2).length = runLen P
      ∧ ∀ R, logicalLines (P ++ R) = A ++ logicalLines (P2 ++ R) := by
  obtain ⟨P2, hP, hall⟩ := rstrip_decomp (fun l : Line => l.wrapped) P
  have hlu := lastUnwrapped_rstrip P
  refine ⟨logicalLines (rstrip (fun l => l.wrapped) P), P2, hall, ?_, ?_, fun R => ?_⟩
  · rw [logicalLines, List.length_map, joinRows_length hlu]
    conv => rhs; rw [hP, List.countP_append, countP_run_zero hall, Nat.add_zero]
  · rw [rowsCells_length]
    conv => rhs; rw [hP, runLen_append_run hlu hall]
  · conv => lhs; rw [hP, List.append_assoc]
    exact logicalLines_append hlu _

/-- `resizeRel` spelled out on the cursor's line `a` before and `b` after -/
theorem resizeRel_iff {L L' : List (List Cell)} {i o i' o' : Nat} {p : Bool} :
    resizeRel L L' i o i' o' p = true ↔
      i' = i ∧ L'.take i = L.take i ∧ ∃ a b, L[i]? = some a ∧ L'[i]? = some b
        ∧ eqUpToBlanks (b.take o) (a.take o) = true
        ∧ (p = false → o < a.length → o' = o ∧ cellEq b[o]? a[o]? = true)
        ∧ keptOrCut (L.drop i) (L'.drop i) = true := by
  unfold resizeRel aboveOK beforeOK onChar onCharOK afterOK
  cases hL : L[i]? with
  | none => simp
  | some a =>
    cases hL' : L'[i]? with
    | none => simp
    | some b =>
      have h1 := (List.getElem?_eq_some_iff.1 hL).1
      have h2 := (List.getElem?_eq_some_iff.1 hL').1
      cases p <;> simp [h1, h2, and_assoc, Decidable.imp_iff_not_or]

theorem prefix_of_keptOrCut_drop {L L' : List (List Cell)} {i : Nat} {a b : List Cell}
    (ha : L[i]? = some a) (hb : L'[i]? = some b) (h : keptOrCut (L.drop i) (L'.drop i) = true) :
    b <+: a := by
  obtain ⟨h1, rfl⟩ := List.getElem?_eq_some_iff.1 ha
  obtain ⟨h2, rfl⟩ := List.getElem?_eq_some_iff.1 hb
  rw [List.drop_eq_getElem_cons h1, List.drop_eq_getElem_cons h2] at h
  exact keptOrCut_head_prefix h

theorem resizeRel_of_tail (A : List (List Cell)) {mh mh' : List Cell} {mt mt' : List (List Cell)}
    (o : Nat) (pending : Bool)
    (hbefore : eqUpToBlanks (mh'.take o) (mh.take o) = true)
    (hchar : pending = false → o < mh.length → cellEq mh'[o]? mh[o]? = true)
    (hkept : keptOrCut (mh :: mt) (mh' :: mt') = true) :
    resizeRel (A ++ mh :: mt) (A ++ mh' :: mt') A.length o A.length o pending = true :=
  resizeRel_iff.2 ⟨rfl, by simp, mh, mh', by simp, by simp, hbefore,
    fun hp ho => ⟨rfl, hchar hp ho⟩, by simpa using hkept⟩

theorem tail_pad (X : List Line) (hX : X ≠ []) (k c : Nat) :
    ∃ mh mt mt', logicalLines X = mh :: mt
      ∧ logicalLines (X ++ List.replicate k (Line.blank c Pen.default)) = mh :: mt'
      ∧ keptOrCut (mh :: mt) (mh :: mt') = true := by
  obtain ⟨m, hm⟩ := logicalLines_pad X k c
  cases hL : logicalLines X with
  | nil => exact absurd (logicalLines_eq_nil.1 hL) hX
  | cons mh mt =>
    exact ⟨mh, mt, mt ++ List.replicate m [], rfl, by rw [hm, hL]; rfl,
      by simpa using keptOrCut_pad (mh :: mt) m⟩

/-- tail facts when rows are cut from the bottom: `P2` is the run of wrapped rows above the cursor
    row, `rowc :: Rt` the rows from the cursor row on, of which the first `j ≥ 1` are kept -/
theorem tail_cut {P2 : List Line} (hP2 : ∀ l ∈ P2, l.wrapped = true) (rowc : Line) (Rt : List Line)
    (j : Nat) (hj : 0 < j) (hjle : j ≤ (rowc :: Rt).length) (o : Nat) (pending : Bool)
    (ho : o ≤ (rowsCells P2).length + rowc.cells.length)
    (hstrict : pending = false → o < (rowsCells P2).length + rowc.cells.length) :
    ∃ mh mh' mt mt', logicalLines (P2 ++ rowc :: Rt) = mh :: mt
      ∧ logicalLines (P2 ++ unwrapLast ((rowc :: Rt).take j)) = mh' :: mt'
      ∧ eqUpToBlanks (mh'.take o) (mh.take o) = true
      ∧ (pending = false → o < mh.length → cellEq mh'[o]? mh[o]? = true)
      ∧ keptOrCut (mh :: mt) (mh' :: mt') = true := by
  have htk : (rowc :: Rt).take j = rowc :: Rt.take (j - 1) := by
    cases j with
    | zero => cases hj
    | succ j' => rfl
  -- the first joined line from the cursor row on, before and after the cut, holds the cursor row
  obtain ⟨r', t', hu, hr'⟩ := unwrapLast_head rowc (Rt.take (j - 1))
  obtain ⟨s, rr, hhead⟩ := joinRows_head r' t'
  obtain ⟨s0, xs, hR⟩ := joinRows_head rowc Rt
  have hJ := joinRows_run_append hP2 hR
  have hJ' := joinRows_run_append hP2 hhead
  -- the cut, seen on all rows `P2 ++ rowc :: Rt`
  have hkle : P2.length + j ≤ (P2 ++ rowc :: Rt).length := by
    rw [List.length_append]; exact Nat.add_le_add_left hjle _
  have hcut : unwrapLast ((P2 ++ rowc :: Rt).take (P2.length + j)) = P2 ++ r' :: t' := by
    rw [List.take_length_add_append, htk, unwrapLast_append (List.cons_ne_nil _ _), hu]
  obtain ⟨m, p, q, hc1, hc2, hc3⟩ := joinRows_cut _ _ (Nat.add_pos_right _ hj) hkle
  rw [hcut, hJ'] at hc1
  rw [hJ] at hc1 hc2
  have hpre : rowsCells P2 ++ (r'.cells ++ s) <+: rowsCells P2 ++ (rowc.cells ++ s0) := by
    cases m with
    | zero =>
      simp only [List.take_zero, List.nil_append, List.cons.injEq] at hc1
      simp only [List.getElem?_cons_zero, Option.some.injEq] at hc2
      rw [hc1.1, hc2]; exact hc3
    | succ m' =>
      simp only [List.take_succ_cons, List.cons_append, List.cons.injEq] at hc1
      rw [hc1.1]; exact List.prefix_refl _
  have hlen : (rowsCells P2).length + rowc.cells.length
      ≤ (rowsCells P2 ++ (r'.cells ++ s)).length := by
    rw [List.length_append, List.length_append, hr']; omega
  have hk := keptOrCut_cut _ hkle
  rw [hcut, logicalLines, logicalLines, hJ, hJ'] at hk
  exact ⟨_, _, _, _, by rw [logicalLines, hJ]; rfl, by rw [htk, hu, logicalLines, hJ']; rfl,
    before_of_prefix hpre (by omega),
    fun hp' hin => char_of_prefix hpre (by have := hstrict hp'; omega) hin, hk⟩

/-- a height change of rows of width `c`, the cursor in row `n` counted from the top of all rows (row
    `curRow` of the `rows` at the bottom): blank rows are appended or rows below row `n` dropped, so
    the cursor keeps its place, and the complete relation holds for every column of the cursor row
    (the column `c` itself for a wrap-pending cursor) -/
theorem rows_rel {ls : List Line} {n c rows curRow : Nat} (rows' : Nat)
    (hR : n + rows = ls.length + curRow) (hcur : curRow < rows) (hlens : ∀ l ∈ ls, l.len = c)
    (col : Nat) (pending : Bool) (hcol : col ≤ c) (hstrict : pending = false → col < c) :
    logPos (rowsOnlyLines ls c rows rows' curRow) n col = logPos ls n col
      ∧ resizeRel (logicalLines ls) (logicalLines (rowsOnlyLines ls c rows rows' curRow))
          (logPos ls n col).1 (logPos ls n col).2 (logPos ls n col).1 (logPos ls n col).2 pending
          = true := by
  have hn : n < ls.length := by omega
  generalize hls' : rowsOnlyLines ls c rows rows' curRow = ls'
  -- at most `rows - 1 - curRow` rows are dropped, all of them below row `n`
  have hcases : (∃ k, ls' = ls ++ List.replicate k (Line.blank c Pen.default))
      ∨ ∃ k, n < k ∧ k ≤ ls.length ∧ ls' = unwrapLast (ls.take k) :=
    hls' ▸ (Buffer.rowsOnlyLines_shape ls c rows rows' curRow).imp_right fun ⟨_, e⟩ =>
      ⟨_, by have := Nat.min_le_right (rows - rows') (rows - 1 - curRow); omega, Nat.sub_le _ _, e⟩
  obtain ⟨rowc, Rt, hdrop⟩ : ∃ rowc Rt, ls.drop n = rowc :: Rt :=
    ⟨_, _, List.drop_eq_getElem_cons hn⟩
  have hrowc : rowc.cells.length = c :=
    hlens rowc (List.mem_of_mem_drop (by rw [hdrop]; exact List.mem_cons_self))
  -- the rows above the cursor row are untouched
  have htake : ls'.take n = ls.take n := by
    rcases hcases with ⟨k, e⟩ | ⟨k, hk1, hk2, e⟩
    · rw [e, List.take_append_of_le_length (Nat.le_of_lt hn)]
    · rw [e, unwrapLast_take (by rw [List.length_take, Nat.min_eq_left hk2]; exact hk1),
        List.take_take, Nat.min_eq_left (Nat.le_of_lt hk1)]
  refine ⟨by simp only [logPos, htake], ?_⟩
  -- split both row lists at the cursor row
  obtain ⟨A, P2, hP2w, hA, hP2, hsplit⟩ := split_at_run (ls.take n)
  have hpos : logPos ls n col = (A.length, (rowsCells P2).length + col) := by
    simp only [logPos, hA, hP2]
  have e := hsplit (ls.drop n)
  rw [List.take_append_drop, hdrop] at e
  have e' := hsplit (ls'.drop n)
  rw [← htake, List.take_append_drop] at e'
  rw [hpos, e, e']
  rcases hcases with ⟨k, e⟩ | ⟨k, hk1, hk2, e⟩
  · -- rows appended
    have hd' : ls'.drop n = (rowc :: Rt) ++ List.replicate k (Line.blank c Pen.default) := by
      rw [e, List.drop_append_of_le_length (Nat.le_of_lt hn), hdrop]
    rw [hd', ← List.append_assoc]
    obtain ⟨mh, mt, mt', h1, h2, h5⟩ := tail_pad (P2 ++ rowc :: Rt) (by simp) k c
    rw [h1, h2]
    exact resizeRel_of_tail _ _ pending (eqUpToBlanks_refl _) (fun _ _ => cellEq_refl _) h5
  · -- rows cut from the bottom
    have hd' : ls'.drop n = unwrapLast ((rowc :: Rt).take (k - n)) := by
      rw [e, unwrapLast_drop (by rw [List.length_take, Nat.min_eq_left hk2]; exact hk1),
        List.drop_take, hdrop]
    rw [hd']
    have hjle : k - n ≤ (rowc :: Rt).length := by
      rw [← hdrop, List.length_drop]; exact Nat.sub_le_sub_right hk2 n
    obtain ⟨mh, mh', mt, mt', h1, h2, h3, h4, h5⟩ :=
      tail_cut hP2w rowc Rt (k - n) (Nat.sub_pos_of_lt hk1) hjle ((rowsCells P2).length + col)
        pending (by rw [hrowc]; exact Nat.add_le_add_left hcol _)
        (fun hp => by rw [hrowc]; exact Nat.add_lt_add_left (hstrict hp) _)
    rw [h1, h2]
    exact resizeRel_of_tail _ _ pending h3 h4 h5

/-- second loop: it walks down `k` wrapped rows, taking `cols` off the column each time, and stops
    when the column fits or the row is not wrapped -/
theorem relLoop2_spec (cols : Nat) : ∀ (ls : List Line) (c r c2 r2 : Nat),
    Buffer.relLoop2 cols ls c r = some (c2, r2) →
    ∃ k, r2 = r + k ∧ c = c2 + k * cols ∧ k ≤ ls.length ∧ (∀ l ∈ ls.take k, l.wrapped = true)
      ∧ (c2 < cols ∨ ∃ l, ls[k]? = some l ∧ l.wrapped = false)
  | [], c, r, c2, r2, h => by
    unfold Buffer.relLoop2 at h
    split at h
    · simp at h
    · next hn =>
      simp only [Option.some.injEq, Prod.mk.injEq] at h
      obtain ⟨rfl, rfl⟩ := h
      exact ⟨0, by simp, by simp, by simp, by simp, Or.inl (Nat.lt_of_not_le hn)⟩
  | l :: t, c, r, c2, r2, h => by
    unfold Buffer.relLoop2 at h
    by_cases hc : (decide (c ≥ cols) && l.wrapped) = true
    · simp only [hc, if_true] at h
      obtain ⟨k, h1, h2, h3, h4, h5⟩ := relLoop2_spec cols t (c - cols) (r + 1) c2 r2 h
      simp only [Bool.and_eq_true, decide_eq_true_eq] at hc
      refine ⟨k + 1, by rw [h1, Nat.add_assoc, Nat.add_comm 1], ?_, Nat.succ_le_succ h3, ?_, ?_⟩
      · rw [Nat.succ_mul, ← Nat.add_assoc, ← h2, Nat.sub_add_cancel hc.1]
      · intro x hx
        rw [List.take_succ_cons] at hx
        rcases List.mem_cons.1 hx with rfl | hx
        · exact hc.2
        · exact h4 x hx
      · simpa using h5
    · simp only [hc, Bool.false_eq_true, if_false, Option.some.injEq, Prod.mk.injEq] at h
      obtain ⟨rfl, rfl⟩ := h
      refine ⟨0, by simp, by simp, by simp, by simp, ?_⟩
      simp only [Bool.and_eq_true, decide_eq_true_eq, not_and, Bool.not_eq_true] at hc
      by_cases hcc : c ≥ cols
      · exact Or.inr ⟨l, by simp, hc hcc⟩
      · exact Or.inl (Nat.lt_of_not_le hcc)

/-- `relative_position` on rows of equal width `c`: the row `R` it lands on is `k` rows into the
    logical line number `i` (counting completed lines above `R`), the column is the rest of the offset
    clamped into the row, and the walk stopped either because the rest fits or because row `R` ends
    the logical line.  `hi`: the first loop, which leaves out the last row, gets as far as line `i`;
    so for every `i` that is a logical line (`le_countP_of_lt_logicalLines`) -/
theorem relativePosition_spec {ls : List Line} {o i c rows rc : Nat} {rr : Int}
    (hw : ∀ l ∈ ls, l.len = c)
    (hi : i ≤ (ls.take (ls.length - 1)).countP (fun l => !l.wrapped))
    (h : Buffer.relativePosition ls (o, i) c rows = some (rc, rr)) :
    ∃ (R k rem : Nat), rr + ls.length = (R : Int) + rows
      ∧ (ls.take R).countP (fun l => !l.wrapped) = i
      ∧ runLen (ls.take R) = k * c
      ∧ o = rem + k * c ∧ rc = min rem (c - 1)
      ∧ (rem < c ∨ ∃ l, ls[R]? = some l ∧ l.wrapped = false) := by
  unfold Buffer.relativePosition at h
  split at h
  · rename_i lastRow c1 off h1 h2 h3
    obtain ⟨-, rfl⟩ := csub_eq_some_iff.1 h1
    obtain ⟨-, rfl⟩ := csub_eq_some_iff.1 h2
    have e3 := csub_add h3
    obtain ⟨m, hm1, hm2, hm34⟩ :=
      Buffer.relLoop1_spec i (ls.take (ls.length - 1)) 0 0 i (Nat.zero_add i)
    obtain ⟨hm3, hm4⟩ := hm34 hi
    rw [Nat.zero_add] at hm1
    rw [hm1] at h
    rw [List.take_take, Nat.min_eq_left (Nat.le_trans hm2 (List.length_take_le _ _))] at hm3 hm4
    cases h4 : Buffer.relLoop2 c (ls.drop m) o m with
    | none => simp [h4] at h
    | some res =>
      obtain ⟨relCol, relRow⟩ := res
      simp only [h4, Option.some.injEq, Prod.mk.injEq] at h
      obtain ⟨rfl, rfl⟩ := h
      obtain ⟨k, rfl, hk2, hk3, hk4, hk5⟩ := relLoop2_spec c (ls.drop m) o m relCol relRow h4
      have hW : ∀ l ∈ (ls.drop m).take k, l.len = c :=
        fun l hl => hw l (List.mem_of_mem_drop (List.mem_of_mem_take hl))
      refine ⟨m + k, k, relCol, by omega, ?_, ?_, hk2, rfl, ?_⟩
      · rw [List.take_add, List.countP_append, hm3, countP_run_zero hk4, Nat.add_zero]
      · rw [List.take_add, runLen_append_run hm4 hk4, sum_len_const hW, List.length_take,
          Nat.min_eq_left hk3]
      · exact hk5.imp_right fun ⟨l, h5, h6⟩ => ⟨l, by rwa [List.getElem?_drop] at h5, h6⟩
  · cases h

/-- composing phase 1 (`LA = L` plus blank lines, same line index, offset `oA`) with phase 2
    (`rel1` at the translated offset, `rel2` at the end of the cursor row) -/
theorem resizeRel_compose {L LA L' : List (List Cell)} {e i o oA oEnd i' o' i2 o2 : Nat} (pending : Bool)
    (hLA : LA = L ++ List.replicate e []) (hi : i < L.length)
    (rel1 : resizeRel LA L' i oA i' o' false = true)
    (rel2 : resizeRel LA L' i oEnd i2 o2 true = true)
    (hdich : oA = o ∨ (oEnd ≤ o ∧ ∀ a, L[i]? = some a → a.length ≤ oEnd)) :
    resizeRel L L' i o i' o' pending = true := by
  obtain ⟨hi', habove, a, b, haA, hb, hbefore1, hchar1, hafter1⟩ := resizeRel_iff.1 rel1
  obtain ⟨-, -, a2, b2, haA2, hb2, hbefore2, -, -⟩ := resizeRel_iff.1 rel2
  obtain rfl := Option.some.inj (haA.symm.trans haA2)
  obtain rfl := Option.some.inj (hb.symm.trans hb2)
  have hble := (prefix_of_keptOrCut_drop haA hb hafter1).length_le
  subst hLA
  rw [List.getElem?_append_left hi] at haA
  refine resizeRel_iff.2 ⟨hi', ?_, a, b, haA, hb, ?_, fun _ ho => ?_, ?_⟩
  · rw [habove, List.take_append_of_le_length (Nat.le_of_lt hi)]
  · rcases hdich with rfl | ⟨h1, h2⟩
    · exact hbefore1
    · -- the cursor stood beyond the text: both prefixes are the whole lines
      have hal := h2 a haA
      simp only [eqUpToBlanks, beq_iff_eq] at hbefore2 ⊢
      rw [List.take_of_length_le (by omega), List.take_of_length_le (by omega)]
      rwa [List.take_of_length_le (by omega), List.take_of_length_le (by omega)] at hbefore2
  · rcases hdich with rfl | ⟨h1, h2⟩
    · exact hchar1 rfl ho
    · have := h2 a haA; omega
  · rw [List.drop_append_of_le_length (Nat.le_of_lt hi)] at hafter1
    exact keptOrCut_unpad _ _ _ hafter1

theorem logPos_lt {ls : List Line} {n : Nat} (hn : n < ls.length) (col : Nat) :
    (logPos ls n col).1 < (logicalLines ls).length := by
  obtain ⟨A, P2, -, hA, -, hsplit⟩ := split_at_run (ls.take n)
  have e := hsplit (ls.drop n)
  rw [List.take_append_drop] at e
  have hne : logicalLines (P2 ++ ls.drop n) ≠ [] := by
    intro h0
    have := congrArg List.length (logicalLines_eq_nil.1 h0)
    simp at this; omega
  rw [show (logPos ls n col).1 = A.length from hA.symm, e, List.length_append]
  exact Nat.lt_add_of_pos_right (List.length_pos_iff.2 hne)

theorem le_countP_of_lt_logicalLines {ls : List Line} {i : Nat} (h : i < (logicalLines ls).length) :
    i ≤ (ls.take (ls.length - 1)).countP (fun l => !l.wrapped) := by
  have hne : ls ≠ [] := by rintro rfl; simp [logicalLines, joinRows] at h
  obtain ⟨ini, l, rfl⟩ := exists_snoc hne
  rw [logicalLines, List.length_map, joinRows_length_snoc] at h
  simpa using Nat.le_of_lt_succ h

theorem line_ends_at {ls : List Line} {n : Nat} {l : Line} {a : List Cell} (hl : ls[n]? = some l)
    (hlw : l.wrapped = false) (ha : (logicalLines ls)[(logPos ls n 0).1]? = some a) :
    a.length ≤ runLen (ls.take n) + l.len := by
  obtain ⟨A, P2, hP2w, hA, hP2, hsplit⟩ := split_at_run (ls.take n)
  obtain ⟨hlt, rfl⟩ := List.getElem?_eq_some_iff.1 hl
  have e := hsplit (ls.drop n)
  rw [List.take_append_drop, List.drop_eq_getElem_cons hlt] at e
  have hj := joinRows_run_append hP2w (joinRows_cons_unwrapped hlw (ls.drop (n + 1)))
  rw [e, show (logPos ls n 0).1 = A.length from hA.symm,
    List.getElem?_append_right (Nat.le_refl _), Nat.sub_self] at ha
  simp only [logicalLines, hj, List.map_cons, List.getElem?_cons_zero, Option.some.injEq] at ha
  rw [← ha, ← hP2]
  have h1 := rstrip_length_le Cell.isDefault (rowsCells P2 ++ ls[n].cells)
  rwa [List.length_append] at h1

/-- phase 2 on reflowed rows `ls1` of width `c` whose logical lines are the old ones `L` plus blank
    lines: `relative_position` puts the cursor, logical position `(i, o)`, into a row `R`; dropping
    rows below it or appending blank rows gives the complete relation to `L`.  (The relation for the
    rows is used twice: at the translated column, and at the end of row `R` for a cursor that stood
    beyond the text.) -/
theorem width_rows_rel {L : List (List Cell)} {ls1 : List Line} {c orows oR e i o rc curRow : Nat}
    {rr : Int} (r : Nat) (hw1 : ∀ l ∈ ls1, l.len = c)
    (hLA : logicalLines ls1 = L ++ List.replicate e []) (hiL : i < L.length)
    (hrp : Buffer.relativePosition ls1 (o, i) c orows = some (rc, rr))
    (hrr0 : (curRow : Int) - oR = rr - orows) (hcur : curRow < oR)
    (hrc : rc < c) :
    ∃ R, R + oR = ls1.length + curRow
      ∧ ∀ pending, resizeRel L (logicalLines (rowsOnlyLines ls1 c oR r curRow)) i o
          (logPos (rowsOnlyLines ls1 c oR r curRow) R rc).1
          (logPos (rowsOnlyLines ls1 c oR r curRow) R rc).2 pending = true := by
  obtain ⟨R, kk, rem, hrr, hcnt, hrun, rfl, hrc', hdich⟩ := relativePosition_spec hw1
    (le_countP_of_lt_logicalLines
      (by rw [hLA, List.length_append]; exact Nat.lt_add_right _ hiL)) hrp
  have hR : R + oR = ls1.length + curRow := by omega
  clear hrr hrr0
  refine ⟨R, hR, fun pending => ?_⟩
  have hcl1 : ∀ col, logPos ls1 R col = (i, kk * c + col) := by
    intro col; simp only [logPos, hcnt, hrun]
  have key := rows_rel r hR hcur hw1
  obtain ⟨hpos1, rel1⟩ := key rc false (Nat.le_of_lt hrc) (fun _ => hrc)
  obtain ⟨-, rel2⟩ := key c true (Nat.le_refl _) (fun h0 => by cases h0)
  rw [hcl1] at rel1 rel2 hpos1
  rw [hpos1]
  refine resizeRel_compose (e := e) pending hLA hiL rel1 rel2 ?_
  by_cases hfit : rem < c
  · left; rw [hrc', Nat.min_eq_left (Nat.le_sub_one_of_lt hfit), Nat.add_comm]
  · -- the cursor stood beyond the text: its line ends with row `R`
    obtain ⟨l, hl, hlw⟩ := hdich.resolve_left hfit
    refine Or.inr ⟨by rw [Nat.add_comm]; exact Nat.add_le_add_right (Nat.le_of_not_lt hfit) _,
      fun a ha => ?_⟩
    have := line_ends_at hl hlw (by
      rw [show (logPos ls1 R 0).1 = i from hcnt, hLA, List.getElem?_append_left hiL]; exact ha)
    rwa [hrun, hw1 l (List.mem_of_getElem? hl)] at this

/-- **C10 for `Buffer.resize`**, any new width `c ≥ 1` and any height: the complete relation between
    the logical text and the cursor's place before and after, read at every flag `p` the cursor's
    column allows (after a width change the translated cursor is a real column, so at every `p`); and
    the cursor keeps its logical position when the width is kept -/
theorem buffer_resize_rel {b b' : Buffer} {c r : Nat} {cur cur' : Nat × Nat}
    (hview : b.view.length = b.rows) (hrows : 1 ≤ b.rows) (hlens : ∀ l ∈ b.lines, l.len = b.cols)
    (hlu : lastUnwrapped b.lines = true) (hcur : cur.2 < b.rows) (hc : 1 ≤ c)
    (hcol : c = b.cols → cur.1 ≤ b.cols) (h : b.resize c r cur = some (b', cur')) :
    (∀ p : Bool, (c = b.cols → p = false → cur.1 < b.cols) →
      resizeRel (logicalLines b.lines) (logicalLines b'.lines)
        (cursorLogical b cur).1 (cursorLogical b cur).2
        (cursorLogical b' cur').1 (cursorLogical b' cur').2 p = true)
    ∧ (c = b.cols → cursorLogical b' cur' = cursorLogical b cur) := by
  have hlen := Buffer.lines_length hview
  have hn : b.sb.length + cur.2 < b.lines.length := hlen ▸ Nat.add_lt_add_left hcur _
  have hlp := cursorLogical_eq_logicalPosition hview hlens hcur
  obtain ⟨lp, ls1, cur1, oR, ls2, ph⟩ := Buffer.resize_phases h
  obtain rfl := Option.some.inj (hlp.symm.trans ph.logical)
  have hs1 := ph.step1
  -- from the totality proof of `Buffer.resize`, about what phase 1 returns: rows of width `c` (`hw1`),
  -- `oR ≤ |ls1|` (`hoRle`), and after a width change a cursor on a real column inside the `oR` rows (`hcur1`)
  obtain ⟨ls1', cur1', oR', hs1', hw1, -, hoRle, -, hcur1⟩ :=
    Buffer.rsStep1_ok b.lines b.cols b.rows c cur ((cursorLogical b cur).2, (cursorLogical b cur).1)
      hc hrows (hlen ▸ Nat.le_add_left _ _) hlens hlu
  rw [hs1] at hs1'
  simp only [Option.some.injEq, Prod.mk.injEq] at hs1'
  obtain ⟨rfl, rfl, rfl⟩ := hs1'
  obtain ⟨rfl, hcol2, hrow2⟩ := rsStep2_spec ph.step2
  -- phase 1 leaves the cursor in row `R` (counted from the top of all rows); phase 2 acts on those rows
  have key : ∃ R, R + oR = ls1.length + cur1.2 ∧ cur1.2 < oR
      ∧ (∀ p : Bool, (c = b.cols → p = false → cur.1 < b.cols) →
          resizeRel (logicalLines b.lines) (logicalLines (rowsOnlyLines ls1 c oR r cur1.2))
            (cursorLogical b cur).1 (cursorLogical b cur).2
            (logPos (rowsOnlyLines ls1 c oR r cur1.2) R cur1.1).1
            (logPos (rowsOnlyLines ls1 c oR r cur1.2) R cur1.1).2 p = true)
      ∧ (c = b.cols → logPos (rowsOnlyLines ls1 c oR r cur1.2) R cur1.1 = cursorLogical b cur) := by
    rcases rsStep1_inv hs1 with ⟨rfl, rfl, rfl, rfl⟩ | ⟨hne, out, rr, -, -, hrp, hrr0⟩
    · have hR : b.sb.length + cur1.2 + b.rows = b.lines.length + cur1.2 := by
        rw [hlen, Nat.add_right_comm]
      have hrel := fun p hp => rows_rel r hR hcur hlens cur1.1 p (hcol rfl) hp
      refine ⟨_, hR, hcur, fun p hp => ?_, fun _ => (hrel true nofun).1⟩
      rw [(hrel p (hp rfl)).1]; exact (hrel p (hp rfl)).2
    · rw [if_neg hne] at hcur1
      obtain ⟨e, hLA⟩ := rsStep1_logical hs1
      obtain ⟨R, hR, hrel⟩ := width_rows_rel r hw1 hLA (logPos_lt hn _) hrp hrr0 hcur1.2 hcur1.1
      exact ⟨R, hR, hcur1.2, fun p _ => hrel p, fun e0 => absurd e0 hne⟩
  obtain ⟨R, hR, hc1, k1, k2⟩ := key
  obtain ⟨hle2, hrow2⟩ := hrow2 hoRle hc1
  have hrow : (rowsOnlyLines ls1 c oR r cur1.2).length - r + cur'.2 = R := by
    -- `hR`, `hle2` and `hrow2` give it; with what plays no part left in the context (`k1`, `k2`, the `if`
    -- of `hcur1`, the arithmetic about `b`) `omega` still closes it, but takes longer than the rest of the file
    clear k1 k2 hcur1 hlen hn hlp hcur hrows hc
    omega
  rw [cursorLogical_eq b', ph.lines, ph.sbLength, hcol2, hrow]
  exact ⟨k1, k2⟩

/-- the relation at `pending = false` says: whenever the offset is inside the text, the cursor is on
    that character afterwards — whatever the cursor's real wrap-pending flag was -/
theorem onCharOK_of_rel_false {L L' : List (List Cell)} {i o i' o' : Nat} {p : Bool}
    (h : resizeRel L L' i o i' o' false = true) (hp : pendingOnChar L i o p = true) :
    onCharOK L L' i o o' = true := by
  obtain ⟨-, -, a, b, ha, hb, -, hchar, -⟩ := resizeRel_iff.1 h
  simp only [pendingOnChar, ha, Bool.and_eq_true, decide_eq_true_eq] at hp
  simpa only [onCharOK, ha, hb, Bool.and_eq_true, beq_iff_eq] using hchar rfl hp.2

theorem pendingPlaceOK_of_onCharOK {L L' : List (List Cell)} {i o o' : Nat}
    (h : onCharOK L L' i o o' = true) : pendingPlaceOK L L' i o o' = true := by
  revert h
  unfold onCharOK pendingPlaceOK
  cases L[i]? <;> cases L'[i]? <;> simp +contextual

/-- the clause for the wrap-pending cursor gives the weaker `pendingPlaceOK` whatever changed -/
theorem pendingPlaceOK_of_pendingPlaceRel {L L' : List (List Cell)} {i o o' : Nat} {p w : Bool}
    (h : pendingPlaceRel L L' i o o' p w = true) (hp : pendingOnChar L i o p = true) :
    pendingPlaceOK L L' i o o' = true := by
  rw [pendingPlaceRel, hp] at h
  cases w
  · exact h
  · exact pendingPlaceOK_of_onCharOK h

/-- from the whole relation and "same offset": the character at the offset is the same one, or the
    cursor's line was cut at (or before) the offset -/
theorem pendingPlaceOK_of_rel {L L' : List (List Cell)} {i o i' o' : Nat} {p : Bool}
    (h : resizeRel L L' i o i' o' p = true) (ho : o' = o) : pendingPlaceOK L L' i o o' = true := by
  obtain ⟨-, -, a, b, ha, hb, -, -, hafter⟩ := resizeRel_iff.1 h
  obtain ⟨s, rfl⟩ := prefix_of_keptOrCut_drop ha hb hafter
  simp only [pendingPlaceOK, ha, hb, Bool.and_eq_true, beq_iff_eq, Bool.or_eq_true,
    decide_eq_true_eq]
  refine ⟨ho, ?_⟩
  by_cases hlt : o < b.length
  · exact Or.inl (by rw [List.getElem?_append_left hlt]; exact cellEq_refl _)
  · exact Or.inr (by omega)

end Avt.Lemmas
