/-
  Avt.Lemmas.C11ParserNorm — soundness of `normP`: parsers that agree up to dead registers emit the
  same function for every further character and keep agreeing.

  `Parser.feed` is read through Williams' diagram (`feed_eq_sem`), so the argument is by the kind of
  the transition; what the diagram has to guarantee about the transitions out of a state with dead
  parameter registers is one finite fact (`deadFact`).
-/
import Avt.Lemmas.C11
import Avt.Lemmas.C11Norm

namespace Avt
namespace Lemmas.C11
open Avt.Spec.C11 Avt.Spec.C03 Avt.ParserSem

/-- a parser step seen up to dead registers -/
def nstep (r : Option (Parser × Option Function)) : Option (Parser × Option Function) :=
  r.map fun x => (normP x.1, x.2)

theorem normP_eq_iff (a b : Parser) : normP a = normP b ↔
    a.state = b.state ∧ (paramsLive a.state = true → a.params = b.params ∧ a.curParam = b.curParam)
      ∧ (intermediateLive a.state = true → a.intermediate = b.intermediate) := by
  obtain ⟨sa, pa, ca, ia⟩ := a
  obtain ⟨sb, pb, cb, ib⟩ := b
  simp only [normP, Parser.mk.injEq]
  constructor
  · rintro ⟨rfl, h1, h2, h3⟩
    refine ⟨rfl, fun hl => ?_, fun hl => ?_⟩
    · simpa only [hl, if_true] using And.intro h1 h2
    · simpa only [hl, if_true] using h3
  · rintro ⟨rfl, h1, h2⟩
    refine ⟨rfl, ?_, ?_, ?_⟩
    · cases hl : paramsLive sa
      · rfl
      · simpa only [if_true] using (h1 hl).1
    · cases hl : paramsLive sa
      · rfl
      · simpa only [if_true] using (h1 hl).2
    · cases hl : intermediateLive sa
      · rfl
      · simpa only [if_true] using h2 hl

theorem normP_setState {a b : Parser} (h : normP a = normP b) (s : PState)
    (hp : paramsLive s = true → paramsLive a.state = true)
    (hi : intermediateLive s = true → intermediateLive a.state = true) :
    normP { a with state := s } = normP { b with state := s } := by
  rw [normP_eq_iff] at h ⊢
  exact ⟨rfl, fun hl => h.2.1 (hp hl), fun hl => h.2.2 (hi hl)⟩

/-- no register is live in `Ground` -/
theorem normP_toGround {a b : Parser} (h : normP a = normP b) :
    normP { a with state := .Ground } = normP { b with state := .Ground } :=
  normP_setState h .Ground (fun hl => nomatch hl) (fun hl => nomatch hl)

/-- parameters dead, and not one of the entry states (whose registers are all clean) -/
def deadParams (s : PState) : Bool := !paramsLive s && !entryClears s

/-- no register is live in `s'` that is not live in `s` -/
def liveLE (s' s : PState) : Bool :=
  (!paramsLive s' || paramsLive s) && (!intermediateLive s' || intermediateLive s)

/-- a transition `w` out of such a state `st`: no register becomes live unless it is written, the
    parameters are neither written nor do they become live, and the dispatching transitions occur
    only where the intermediate register is live -/
def deadFact (st : PState) (w : Kind × PState) : Bool :=
  !deadParams st ||
    match w.1 with
    | .ignore | .put | .oscPut | .print | .execute => liveLE w.2 st
    | .collect => !paramsLive w.2
    | .clear => true
    | .param => false
    | .dispatchCsi => st == .CsiIntermediate && w.2 == .Ground
    | .dispatchEsc => st == .EscapeIntermediate && w.2 == .Ground

theorem deadFact_all (st : PState) (c : Nat) : deadFact st (williams st c) = true :=
  ParserTable.williams_outs PState.all deadFact (by decide +kernel) st (ParserTable.mem_all st) c

def CsiRhs.isConst : CsiRhs → Bool
  | .const _ => true
  | _ => false

theorem csiArms_intermediate_const : ∀ arm ∈ Gen.csiArms, ∀ i, arm.interm = some i → 32 ≤ i → i ≤ 47 →
    CsiRhs.isConst arm.rhs = true := by decide

theorem csiDispatch_dead_params (a b : Parser) (c i : Nat) (ha : a.intermediate = some i)
    (hb : b.intermediate = some i) (h1 : 32 ≤ i) (h2 : i ≤ 47) :
    a.csiDispatch c = b.csiDispatch c := by
  unfold Parser.csiDispatch
  rw [ha, hb]
  cases hf : Gen.csiArms.find? (fun arm => Parser.CsiArm.matches arm (some i) c) with
  | none => rfl
  | some arm =>
    have hm := List.find?_some hf
    simp only [Parser.CsiArm.matches, Bool.and_eq_true, beq_iff_eq] at hm
    have hc := csiArms_intermediate_const arm (List.mem_of_find?_eq_some hf) i hm.1 h1 h2
    cases hr : arm.rhs <;> simp [hr, CsiRhs.isConst] at hc ⊢

/-- the hypothesis of the soundness step for `normP`: both parsers satisfy the invariants under which
    dead registers are determined, and they have the same normal form -/
structure Agree (a b : Parser) : Prop where
  inva : PInv a = true
  invb : PInv b = true
  rega : PRegOK a = true
  regb : PRegOK b = true
  norm : normP a = normP b

theorem Agree.state {a b : Parser} (h : Agree a b) : a.state = b.state :=
  ((normP_eq_iff a b).1 h.norm).1

theorem Agree.im {a b : Parser} (h : Agree a b) (hl : intermediateLive a.state = true) :
    a.intermediate = b.intermediate :=
  ((normP_eq_iff a b).1 h.norm).2.2 hl

theorem Agree.eq_of_paramsLive {a b : Parser} (h : Agree a b) (hl : paramsLive a.state = true) : a = b := by
  obtain ⟨hs, hp, hi⟩ := (normP_eq_iff a b).1 h.norm
  have hil : intermediateLive a.state = true := by
    cases hst : a.state <;> simp [paramsLive, intermediateLive, hst] at hl ⊢
  obtain ⟨sa, pa, ca, ia⟩ := a
  obtain ⟨sb, pb, cb, ib⟩ := b
  simp only [Parser.mk.injEq]
  exact ⟨hs, (hp hl).1, (hp hl).2, hi hil⟩

theorem eq_clean_of_entry {p : Parser} (hinv : PInv p = true) (hreg : PRegOK p = true)
    (he : entryClears p.state = true) : p = clean p.state := by
  have hr : p.intermediate.isNone = true ∧ p.curParam = 0 ∧ p.params.all Param.isZero = true := by
    cases hst : p.state <;> simp only [hst, entryClears, Bool.false_eq_true] at he <;>
      simpa [PRegOK, hst, and_assoc] using hreg
  obtain ⟨hlen, -, hok, -⟩ := (pinv_iff p).1 hinv
  have hparams := List.eq_replicate_of_mem (l := p.params) fun q hq =>
    zero_param (hok q hq) (List.all_eq_true.1 hr.2.2 q hq)
  obtain ⟨st, ps, cp, im⟩ := p
  simp only [Option.isNone_iff_eq_none] at hr hparams hlen
  obtain ⟨rfl, rfl, _⟩ := hr
  rw [hparams, hlen]
  rfl

theorem Agree.eq_of_entry {a b : Parser} (h : Agree a b) (he : entryClears a.state = true) : a = b := by
  rw [eq_clean_of_entry h.inva h.rega he, eq_clean_of_entry h.invb h.regb (h.state ▸ he), h.state]

/-- `normP` is sound for one character (`C11_normP_sound` in Props/C11) -/
theorem nstep_eq {a b : Parser} (h : Agree a b) (c : Nat) : nstep (a.feed c) = nstep (b.feed c) := by
  by_cases hpl : paramsLive a.state = true
  · rw [h.eq_of_paramsLive hpl]
  by_cases he : entryClears a.state = true
  · rw [h.eq_of_entry he]
  have hfact := deadFact_all a.state c
  rw [feed_eq_sem, feed_eq_sem, ← h.state]
  generalize williams a.state c = w at hfact ⊢
  obtain ⟨k, s'⟩ := w
  simp only [deadFact, deadParams, hpl, he, Bool.not_false, Bool.and_self, Bool.not_true, Bool.false_or] at hfact
  -- the registers stay as they are and none of them becomes live
  have keep : liveLE s' a.state = true → normP { a with state := s' } = normP { b with state := s' } := by
    intro hle
    simp only [liveLE, Bool.and_eq_true, Bool.or_eq_true, Bool.not_eq_true'] at hle
    exact normP_setState h.norm s' (fun hl => by simpa [hl] using hle.1) (fun hl => by simpa [hl] using hle.2)
  cases k <;> simp only [sem] at hfact ⊢
  case ignore | put | oscPut | print | execute => simp only [nstep, Option.map_some, keep hfact]
  case collect =>
    have : normP { a with state := s', intermediate := some c } = normP { b with state := s', intermediate := some c } :=
      (normP_eq_iff _ _).2 ⟨rfl, fun hl => by simp [hl] at hfact, fun _ => rfl⟩
    simp only [nstep, Option.map_some, this]
  case clear => rw [clear_eq h.inva, clear_eq h.invb, h.state]
  case param => exact absurd hfact (by decide)
  case dispatchCsi =>
    simp only [Bool.and_eq_true, beq_iff_eq] at hfact
    obtain ⟨hst, rfl⟩ := hfact
    have him := h.im (by rw [hst]; rfl)
    obtain ⟨i, hi, h1, h2⟩ := imIn_elim (by simpa [PRegOK, hst] using h.rega : imIn 0x20 0x2f a.intermediate = true)
    rw [csiDispatch_dead_params a b c i hi (him ▸ hi) h1 h2]
    have hG := normP_toGround h.norm
    cases b.csiDispatch c with
    | none => rfl
    | some f => simp only [nstep, Option.map_some, hG]
  case dispatchEsc =>
    simp only [Bool.and_eq_true, beq_iff_eq] at hfact
    obtain ⟨hst, rfl⟩ := hfact
    rw [escDispatch_total _ c rfl, escDispatch_total _ c rfl]
    simp only [nstep, Option.map_some]
    rw [normP_toGround h.norm, h.im (by rw [hst]; rfl)]

/-- a `Vt` step seen up to `normD` is determined by the parser step seen up to `normP`, the terminal
    up to `normT` and, if a function is emitted, its execution up to `normT` -/
theorem feed_normD (a b : Vt) (c : Nat) (hstep : nstep (a.parser.feed c) = nstep (b.parser.feed c))
    (ht : normT a.terminal = normT b.terminal)
    (hexec : ∀ p' f, a.parser.feed c = some (p', some f) →
      (a.terminal.execute f).map normT = (b.terminal.execute f).map normT) :
    (a.feed c).map normD = (b.feed c).map normD := by
  unfold Vt.feed
  cases hfa : a.parser.feed c with
  | none =>
    cases hfb : b.parser.feed c with
    | none => rfl
    | some rb => simp [nstep, hfa, hfb] at hstep
  | some ra =>
    cases hfb : b.parser.feed c with
    | none => simp [nstep, hfa, hfb] at hstep
    | some rb =>
      obtain ⟨pa, fa⟩ := ra
      obtain ⟨pb, fb⟩ := rb
      simp only [nstep, hfa, hfb, Option.map_some, Option.some.injEq, Prod.mk.injEq] at hstep
      obtain ⟨hpn, rfl⟩ := hstep
      cases fa with
      | none => simp only [Option.map_some, normD, hpn, ht]
      | some f =>
        have hs := hexec pa f hfa
        simp only
        cases hea : a.terminal.execute f with
        | none =>
          cases heb : b.terminal.execute f with
          | none => rfl
          | some tb => simp [hea, heb] at hs
        | some ta =>
          cases heb : b.terminal.execute f with
          | none => simp [hea, heb] at hs
          | some tb =>
            simp only [hea, heb, Option.map_some, Option.some.injEq] at hs
            simp only [Option.map_some, normD, hpn, hs]

/-- `normD` is sound for one character whose emitted function (if any) touches no buffer
    (`C11_norm_sound_feed_partial` in Props/C11) -/
theorem norm_sound_feed (a b : Vt) (hp : Agree a.parser b.parser) (ht : normT a.terminal = normT b.terminal)
    (c : Nat) (hsimple : ∀ p' f, a.parser.feed c = some (p', some f) → simpleFn f = true) :
    (a.feed c).map normD = (b.feed c).map normD :=
  feed_normD a b c (nstep_eq hp c) ht fun p' f hf => norm_sound_execute f (hsimple p' f hf) _ _ ht

end Lemmas.C11
end Avt
