/-
  Avt.Lemmas.C11KF7Eval — finding KF7, the check on the witness state (NOT part of the default build; what
  it refutes is drawn from it in Lemmas/C11KF7.lean).

  The witness runs on a 70000-column screen, and one pass of the kernel over a row of that width is
  dearer than everything else here together, so the row is never evaluated.  The five calls before the
  resize are an excursion to the alternate screen and back: the primary buffer afterwards is the blank
  one `Vt.new` made (`Props.C16.during_leave`; `kf7Pre_spec`, at any width).  Narrowing a blank row is
  `Terminal.resize_blank_row`, which gives the final state as a function `kf7Resized` of the state before
  the resize.  The kernel evaluates the parser on the five inputs and the check on `kf7Resized` of the
  evaluated state, whose parked 70000-column buffer nothing looks at.

  Declared in `Avt.Props.C11`, beside the other witnesses (`kf1Hist` … of Props/C11.lean, which this file
  does not import).
-/
import Avt.Lemmas.C11Witness
import Avt.Lemmas.ResizeBlank
import Avt.Props.C16
import Avt.Props.C02

namespace Avt.Props.C11
open Avt Avt.Spec.C11 Avt.Lemmas.C11 Avt.Props.C16

def kf7State : Option Vt := (Vt.new 70000 1 none).bind fun v => runHist v kf7Hist

/-- on the state `o`: the classifier says KF7 and nothing else, the parked position is column 65536 on a
    10-column screen, and the restored state differs.  The refutation does not use the second and third test
    (`kf7Check_spec` drops them): with them the kernel confirms that the state it evaluated is the one the
    docstring of `kf7Hist` describes. -/
def kf7Check (o : Option Vt) : Bool :=
  match o with
  | some s => (findings s.terminal == [.kf7]) && (s.terminal.alternateSavedCtx.cursorCol == 65536)
      && (s.terminal.cols == 10)
      && (match restoreOf s with | some r => normD r != normD s | none => false)
  | none => false

/-- what a positive check says, for any `o`: stated apart from `kf7State` so that the kernel runs the
    history once, in `kf7_refutes`, and nowhere else -/
theorem kf7Check_spec {o : Option Vt} (h : kf7Check o = true) :
    ∃ s r, o = some s ∧ findings s.terminal = [.kf7] ∧ restoreOf s = some r ∧ normD r ≠ normD s := by
  cases o with
  | none => cases h
  | some s =>
    simp only [kf7Check, Bool.and_eq_true, beq_iff_eq] at h
    cases hres : restoreOf s with
    | none => simp [hres] at h
    | some r =>
      simp only [hres, bne_iff_ne, ne_eq] at h
      exact ⟨s, r, rfl, h.1.1.1, hres, h.2⟩

/-- the parser between the calls: back in the ground state, the first parameter and the intermediate
    of the last sequence still in its registers -/
def kf7Parser (x : Nat) (im : Option Nat) : Parser :=
  { Parser.new with params := Parser.new.params.set 0 ⟨0, [x, 0, 0, 0, 0, 0]⟩, intermediate := im }

/-- what the five calls make the parser emit (it never looks at the terminal) -/
theorem kf7_parse :
    Spec.C03.run Parser.new [esc, 0x5b, 0x3f, 0x31, 0x30, 0x34, 0x37, 0x68]
        = some (kf7Parser 1047 (some 0x3f), [.decset [.altScreenBuffer]])
      ∧ Spec.C03.run (kf7Parser 1047 (some 0x3f)) [esc, 0x5b, 0x36, 0x35, 0x35, 0x33, 0x35, 0x43]
        = some (kf7Parser 65535 none, [.cuf 65535])
      ∧ Spec.C03.run (kf7Parser 65535 none) [esc, 0x5b, 0x31, 0x43] = some (kf7Parser 1 none, [.cuf 1])
      ∧ Spec.C03.run (kf7Parser 1 none) [esc, 0x37] = some (Parser.new, [.decsc])
      ∧ Spec.C03.run Parser.new [esc, 0x5b, 0x3f, 0x31, 0x30, 0x34, 0x37, 0x6c]
        = some (kf7Parser 1047 (some 0x3f), [.decrst [.altScreenBuffer]]) := by
  decide +kernel

/-- the state before the resize, at any width `n`: the excursion has left the primary screen as
    `Vt.new` made it, one blank row of `n` cells.  The width is a variable so that no `rfl` or `simp` of the
    proof can unfold a row of 70000 cells.  `kf7State_eq` uses this at 70000 only to rewrite the last call, the
    resize, by `Terminal.resize_blank_row`; the state itself is left to the kernel (`kf7_refutes`). -/
theorem kf7Pre_spec (n : Nat) (hn : 1 ≤ n) :
    ∃ v, (Vt.new n 1 none).bind (fun v => runHist v kf7Hist.dropLast) = some v
      ∧ v.terminal.buffer.sb = [] ∧ v.terminal.buffer.view = [Line.blank n Pen.default]
      ∧ v.terminal.buffer.cols = n ∧ v.terminal.buffer.rows = 1 ∧ v.terminal.cursor.row = 0 := by
  obtain ⟨h1, h2, h3, h4, h5⟩ := kf7_parse
  obtain ⟨m, hm, km⟩ := Terminal.new_ok none hn (Nat.le_refl 1)
  have hmb : m.buffer = Buffer.new n 1 none none ∧ m.activeBufferType = .primary ∧ m.rows = 1 := by
    obtain ⟨-, rfl⟩ := Terminal.new_eq_some_iff.1 hm; exact ⟨rfl, rfl, rfl⟩
  -- every call returns (C02); between entering and leaving, each keeps `During`
  obtain ⟨t1, e1, -⟩ := C02.C02_execute resizeOK (.decset [.altScreenBuffer]) km.TInv
  have d1 := during_finish (during_enter km.TInv hmb.2.1 rfl e1)
  obtain ⟨t2, e2, -⟩ := C02.C02_execute resizeOK (.cuf 65535) d1.inv
  have d2 := during_finish (during_step d1 rfl e2)
  obtain ⟨t3, e3, -⟩ := C02.C02_execute resizeOK (.cuf 1) d2.inv
  have d3 := during_finish (during_step d2 rfl e3)
  obtain ⟨t4, e4, -⟩ := C02.C02_execute resizeOK .decsc d3.inv
  have d4 := during_finish (during_step d3 rfl e4)
  obtain ⟨t5, e5, i5⟩ := C02.C02_execute resizeOK (.decrst [.altScreenBuffer]) d4.inv
  obtain ⟨-, a2, a3, -⟩ := during_leave km.TInv d4 (ml := .altScreenBuffer) rfl e5
  have g2 := C16.gc_trimmed t5.buffer (by rw [a3])
  obtain ⟨g1, g3, g4, -⟩ := Frame.gc_view t5.buffer
  refine ⟨⟨kf7Parser 1047 (some 0x3f), Spec.finishT t5⟩, ?_, ?_⟩
  · rw [Vt.new, hm]
    simp only [Option.map_some, Option.bind_some, kf7Hist, List.dropLast]
    rw [runHist_feedStr _ h1 e1, runHist_feedStr _ h2 e2, runHist_feedStr _ h3 e3, runHist_feedStr _ h4 e4,
      runHist_feedStr _ h5 e5, runHist]
  · have hr : t5.rows = 1 := ((C16.geo_parts a2).2.trans d4.size.2).trans hmb.2.2
    have hc := (TOK.of_TInv i5).crow
    show t5.buffer.gc.1.sb = [] ∧ t5.buffer.gc.1.view = _ ∧ t5.buffer.gc.1.cols = n ∧ t5.buffer.gc.1.rows = 1
      ∧ t5.cursor.row = 0
    rw [g1, g2, g3, g4, a3, hmb.1]
    exact ⟨rfl, rfl, rfl, rfl, by omega⟩

def kf7Pre : Option Vt := (Vt.new 70000 1 none).bind fun v => runHist v kf7Hist.dropLast

/-- `resize 10 1` of a state whose screen is one blank row, as `Terminal.resize_blank_row` gives it -/
def kf7Resized (v : Vt) : Vt :=
  let b : Buffer := { v.terminal.buffer with view := [Line.blank 10 Pen.default], cols := 10, trimNeeded := true }
  (Vt.finish { v with terminal := (v.terminal.resized 10 1).reflowed b (min v.terminal.cursor.col 9, 0) }).1

theorem kf7State_eq : kf7State = kf7Pre.map kf7Resized := by
  obtain ⟨v, hv, h1, h2, h3, h4, h5⟩ := kf7Pre_spec 70000 (by decide)
  have hr := v.terminal.resize_blank_row (k := 10) h1 h2 h3 h4 h5 (by decide) (by decide)
  have : kf7State = kf7Pre.bind fun v => runHist v [.resize 10 1] := by
    simp only [kf7State, kf7Pre, Option.bind_assoc, ← runHist_append]
    rfl
  rw [this, kf7Pre, hv]
  simp only [Option.bind_some, runHist, HOp.run, Vt.resize_of_terminal hr, Option.map_some]
  rfl

theorem kf7_refutes : kf7Check kf7State = true := by
  rw [kf7State_eq]
  decide +kernel

end Avt.Props.C11
