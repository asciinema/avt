/-
  Avt.Lemmas.C11StepsBase — the compositional interface for the restore half of C11.

  `Feeds s t t'`: from ANY parser resting in `Ground` (registers arbitrary but satisfying `PInv`),
  feeding the string `s` to a `Vt` whose terminal is `t` succeeds, leaves terminal `t'`, and the parser
  is again resting in `Ground`.  `Feeds` composes under concatenation, so `Terminal.dump` can be
  replayed fragment by fragment.  `Emits s fs` is the parser half: `s` makes the parser emit exactly the
  functions `fs`; what a CSI or escape sequence emits is read off the reference table of C03.
-/
import Avt.Lemmas.C11Blank
import Avt.Props.C03
import Avt.Props.C04
import Avt.Props.Closed
import Avt.Lemmas.C09Vt

namespace Avt
namespace Lemmas.C11
open Avt.Spec.C11 Avt.Spec.C04

def GP (q : Parser) : Prop := q.state = .Ground ∧ PInv q = true

theorem GP_new : GP Parser.new := ⟨rfl, by decide⟩

theorem GP_conc (A : Regs) (hA : RegsOK A) : GP (conc .Ground none A) := ⟨rfl, PInv_conc _ _ _ hA⟩

def Emits (s : List Nat) (fs : List Function) : Prop :=
  ∀ q, GP q → ∃ q', pfeedAll q s = some (q', fs) ∧ GP q'

theorem Emits.nil : Emits [] [] := fun q hq => ⟨q, rfl, hq⟩

theorem Emits.append {s1 s2 : List Nat} {f1 f2 : List Function} (h1 : Emits s1 f1) (h2 : Emits s2 f2) :
    Emits (s1 ++ s2) (f1 ++ f2) := by
  intro q hq
  obtain ⟨q1, e1, g1⟩ := h1 q hq
  obtain ⟨q2, e2, g2⟩ := h2 q1 g1
  exact ⟨q2, by rw [pfeedAll_append, e1]; simp [e2], g2⟩

/-- a whole CSI sequence given by its parts emits what the reference table selects for them -/
theorem emits_csiText (intro : List Nat) (hi : intro = [0x1B, 0x5B] ∨ intro = [0x9B]) (t : Spec.C20.CsiText)
    (ht : t.wf = true) (f : Function) (hf : t.fn = some f) : Emits (intro ++ t.body) [f] := by
  intro q hq
  obtain ⟨q', e, g, i⟩ := Props.C03.C03_csi_sequence hq.2 intro hi t ht
  rw [run_eq_pfeedAll, show Spec.C03.refDispatchCsi t.eff t.final (Spec.C03.parseParams t.params) = some f from hf] at e
  exact ⟨q', e, g, i⟩

theorem emits_escText (t : Spec.C20.EscText) (ht : t.wf = true) (f : Function) (hf : t.fn = some f) :
    Emits (0x1B :: t.body) [f] := by
  intro q hq
  obtain ⟨q', e, g, i⟩ := Props.C03.C03_esc_sequence hq.2 t ht
  rw [run_eq_pfeedAll, show Spec.C03.refDispatchEsc t.ints.getLast? t.final = some f from hf] at e
  exact ⟨q', e, g, i⟩

theorem feed_printableCh (p : Parser) (hp : p.state = .Ground) {ch : Nat} (h : printableCh ch = true) :
    p.feed ch = some (p, some (.print ch)) := by
  simp only [printableCh, Bool.or_eq_true, Bool.and_eq_true, decide_eq_true_eq] at h
  exact ParserSeq.feed_ground_print p hp h

theorem emits_one {c : Nat} {f : Function}
    (h : ∀ q : Parser, q.state = .Ground → q.feed c = some (q, some f)) : Emits [c] [f] := by
  intro q hq
  exact ⟨q, by simp [pfeedAll, h q hq.1], hq⟩

theorem emits_print {c : Nat} (h : printableCh c = true) : Emits [c] [.print c] :=
  emits_one fun q hq => feed_printableCh q hq h

theorem emits_cr : Emits [0x0d] [.cr] := emits_one Lemmas.feed_cr

theorem emits_lf : Emits [0x0a] [.lf] := emits_one Lemmas.feed_lf

theorem feed_so (p : Parser) (hp : p.state = .Ground) : p.feed 0x0e = some (p, some .so) :=
  ParserSeq.feed_ground_ctl p hp (by decide)

theorem emits_so : Emits [0x0e] [.so] := emits_one feed_so

theorem emits_csi (intro : List Nat) (hi : intro = [0x1B, 0x5B] ∨ intro = [0x9B]) (A : Regs) (hA : RegsOK A)
    (fin : Nat) (h1 : 64 ≤ fin) (h2 : fin ≤ 126) (f : Function)
    (hd : Spec.C03.refDispatchCsi none fin A = some f) :
    Emits (intro ++ renderAll A ++ [fin]) [f] := by
  intro q hq
  refine ⟨conc .Ground none A, ?_, GP_conc A hA⟩
  rw [List.append_assoc, pfeed_csi hq.2 hi hA h1 h2, hd]
  rfl

theorem regsOK_one (n : Nat) (h : n < 65536) : RegsOK [[n]] := by
  refine ⟨by simp, by simp, ?_⟩
  intro ps hps
  simp only [List.mem_singleton] at hps
  subst hps
  exact ⟨by simp, by simp, by simpa using h⟩

theorem regsOK_two (a b : Nat) (ha : a < 65536) (hb : b < 65536) : RegsOK [[a], [b]] := by
  refine ⟨by simp, by simp, ?_⟩
  intro ps hps
  simp only [List.mem_cons, List.not_mem_nil, or_false] at hps
  rcases hps with rfl | rfl
  · exact ⟨by simp, by simp, by simpa using ha⟩
  · exact ⟨by simp, by simp, by simpa using hb⟩

theorem renderAll_one (n : Nat) : renderAll [[n]] = renderDec n := by
  simp [renderAll_single, renderParts]

theorem renderAll_two (a b : Nat) : renderAll [[a], [b]] = renderDec a ++ 0x3b :: renderDec b := by
  simp [renderAll_cons₂, renderAll_single, renderParts]

theorem emits_csi1 (intro : List Nat) (hi : intro = [0x1B, 0x5B] ∨ intro = [0x9B]) (n : Nat) (hn : n < 65536)
    (fin : Nat) (g : Nat → Function) (hd : Spec.C03.refDispatchCsi none fin [[n]] = some (g n))
    (h1 : 64 ≤ fin) (h2 : fin ≤ 126) :
    Emits (intro ++ renderDec n ++ [fin]) [g n] := by
  have := emits_csi intro hi [[n]] (regsOK_one n hn) fin h1 h2 (g n) hd
  rwa [renderAll_one] at this

theorem emits_csi2 (a b : Nat) (ha : a < 65536) (hb : b < 65536) (fin : Nat) (g : Nat → Nat → Function)
    (hd : Spec.C03.refDispatchCsi none fin [[a], [b]] = some (g a b))
    (h1 : 64 ≤ fin) (h2 : fin ≤ 126) :
    Emits (0x9b :: renderDec a ++ 0x3b :: renderDec b ++ [fin]) [g a b] := by
  have := emits_csi [0x9b] (Or.inr rfl) [[a], [b]] (regsOK_two a b ha hb) fin h1 h2 (g a b) hd
  rw [renderAll_two] at this
  simpa using this

/-- `Pen.dump p` emits one SGR whose execution sets the pen to `p` -/
theorem emits_pen (p : Pen) (h : PenOK p) :
    ∃ d, p.dump = some d ∧ Emits d [.sgr (penOps p)] := by
  refine ⟨_, pen_dump_eq p, ?_⟩
  intro q hq
  exact ⟨_, pfeed_sgr q hq.2 _ (regsOK_penRegs p h) _ (sgrOps_penRegs p h), GP_conc _ (regsOK_penRegs p h)⟩

theorem exec_sgr_pen (p : Pen) (h : PenOK p) (t : Terminal) :
    t.execute (.sgr (penOps p)) = some { t with pen := p } := by
  simp [Terminal.execute, Terminal.sgr, apply_penOps p t.pen h]

def Feeds (s : List Nat) (t t' : Terminal) : Prop :=
  ∀ q, GP q → ∃ q', Vt.feedAll ⟨q, t⟩ s = some ⟨q', t'⟩ ∧ GP q'

theorem Feeds.nil (t : Terminal) : Feeds [] t t := fun q hq => ⟨q, rfl, hq⟩

theorem Feeds.append {s1 s2 : List Nat} {t t1 t2 : Terminal} (h1 : Feeds s1 t t1) (h2 : Feeds s2 t1 t2) :
    Feeds (s1 ++ s2) t t2 := by
  intro q hq
  obtain ⟨q1, e1, g1⟩ := h1 q hq
  obtain ⟨q2, e2, g2⟩ := h2 q1 g1
  exact ⟨q2, by rw [Lemmas.C19.feedAll_append, e1]; exact e2, g2⟩

theorem Feeds.of_emits {s : List Nat} {fs : List Function} {t t' : Terminal} (h : Emits s fs)
    (he : Terminal.foldM' Terminal.execute fs t = some t') : Feeds s t t' := by
  intro q hq
  obtain ⟨q', e, g⟩ := h q hq
  refine ⟨q', ?_, g⟩
  rw [feedAll_eq_pfeedAll]
  simp [e, he]

theorem Feeds.one {s : List Nat} {f : Function} {t t' : Terminal} (h : Emits s [f])
    (he : t.execute f = some t') : Feeds s t t' :=
  Feeds.of_emits h (by simp [Terminal.foldM', he])

theorem Feeds.cast {s s' : List Nat} {t t' : Terminal} (h : Feeds s t t') (e : s = s') : Feeds s' t t' := e ▸ h

theorem Feeds.to {s : List Nat} {t t1 t2 : Terminal} (h : Feeds s t t1) (e : t1 = t2) : Feeds s t t2 := e ▸ h

theorem Feeds.ite {c : Prop} [Decidable c] {s : List Nat} {t t' : Terminal}
    (h1 : c → Feeds s t t') (h2 : ¬ c → t' = t) : Feeds (if c then s else []) t t' := by
  split
  · exact h1 ‹_›
  · rw [h2 ‹_›]; exact Feeds.nil t

theorem feeds_print {c : Nat} (hc : printableCh c = true) (t : Terminal) (h : TInv t = true) :
    Feeds [c] t (printSpec t c) :=
  Feeds.one (emits_print hc) (Props.C04.C04_print t c h)

theorem feeds_rep (n : Nat) (hn : n < 65536) (t : Terminal) (h : TInv t = true) :
    Feeds ([0x1b, 0x5b] ++ renderDec n ++ [0x62]) t (repSpec t n) :=
  Feeds.one (emits_csi1 _ (Or.inl rfl) n hn 0x62 Function.rep rfl (by decide) (by decide)) (Props.C04.C04_rep t n h)

theorem feeds_pen (p : Pen) (hp : PenOK p) :
    ∃ d, p.dump = some d ∧ ∀ t, Feeds d t { t with pen := p } := by
  obtain ⟨d, hd, he⟩ := emits_pen p hp
  exact ⟨d, hd, fun t => Feeds.one he (exec_sgr_pen p hp t)⟩

end Lemmas.C11
end Avt
