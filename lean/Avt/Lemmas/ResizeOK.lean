/-
  Avt.Lemmas.ResizeOK — `Buffer.resize` never panics and re-establishes the buffer invariant
  (`resizeOK`, the contract `ResizeOK` of Avt/Spec/ResizeOK.lean; C01 + C02 for resize).  With it the
  hypothesis `ResizeOK` of Lemmas/InvTerminal.lean is discharged: `Terminal.execute_tinv`.
-/
import Avt.Lemmas.Resize
import Avt.Lemmas.InvBuffer
import Avt.Lemmas.InvTerminal
import Avt.Spec.ResizeOK

namespace Avt

theorem resizeOK : ResizeOK := by
  intro b c r cur hinv hc hr hcur
  have hb := BOK.of_BInv hinv
  obtain ⟨hlen, hw, hlu⟩ := hb.lines_facts
  obtain ⟨lp, hlp⟩ := Buffer.logicalPosition_ok b.lines cur b.cols b.rows hlen
  obtain ⟨ls1, cur1, oR, h1, hw1, hlu1, hlen1, hoR, hcase⟩ :=
    Buffer.rsStep1_ok b.lines b.cols b.rows c cur lp hc hb.hr hlen hw hlu
  have hcur1 : cur1.2 < oR ∨ cur1.2 < r := by
    by_cases hcc : c = b.cols
    · rw [if_pos hcc] at hcase
      obtain ⟨_, h2, h3⟩ := hcase
      rw [h2, h3]; exact hcur
    · rw [if_neg hcc] at hcase
      exact Or.inl hcase.2
  obtain ⟨ls2, cur2, h2, hw2, hlu2, hlen2, hcol2, hrow2⟩ :=
    Buffer.rsStep2_ok c r ls1 cur1 oR hr hw1 hlu1 hlen1 hoR hcur1
  refine ⟨{ b with sb := ls2.take (ls2.length - r), view := ls2.drop (ls2.length - r), cols := c,
                    rows := r, trimNeeded := true }, cur2, ?_, BOK.BInv ?_, rfl, rfl, rfl, hrow2, ?_⟩
  · rw [Buffer.resize_eq]
    simp only [hlp, h1, h2, csub_eq_some hlen2]
  · exact hb.of_lines hc hr hw2 hlu2 hlen2
  · by_cases hcc : c = b.cols
    · rw [if_pos hcc] at hcase ⊢
      rw [hcol2, hcase.2.1]
    · rw [if_neg hcc] at hcase ⊢
      rw [hcol2]; exact hcase.1

/-- the hypotheses are satisfiable on a non-trivial state (a wrapped scrollback line, a width and a
    height change at once) -/
example :
    let c (n : Nat) : Cell := ⟨n, Pen.default⟩
    let b0 : Buffer :=
      { sb := [⟨[c 97, c 98, c 99, c 100], true⟩],
        view := [⟨[c 101, c 102, c 32, c 32], false⟩, Line.blank 4 Pen.default],
        cols := 4, rows := 2, limit := some (Buffer.mkLimit 10), trimNeeded := false }
    ResizeOKAt b0 3 1 (1, 0) := by
  intro c b0
  exact resizeOK b0 3 1 (1, 0) (by decide) (by decide) (by decide) (Or.inl (by decide))

/-- with the contract discharged: whatever a function returns satisfies the terminal invariant -/
theorem Terminal.execute_tinv {t t' : Terminal} {f : Function} (hinv : TInv t = true)
    (h : t.execute f = some t') : TInv t' = true := by
  obtain ⟨_, h', hok⟩ := Terminal.execute_ok resizeOK f (TOK.of_TInv hinv)
  cases h.symm.trans h'
  exact hok.TInv

end Avt
