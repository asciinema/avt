/-
  Avt.Lemmas.C11CellsExec — `CellsInv` is kept by EVERY control function the parser can emit
  (`cellsInv_execute`, given `FnOK`) and holds in every reachable state (`cellsInv_of_reach`).
  `core`, the part of the terminal `CellsInv` looks at, is kept by whatever writes none of the fields it
  is made of (the table of Lemmas/Writes.lean).  Whatever a function that writes cells stores — a blank
  under the pen, a printable character under the pen, the `E` of DECALN — satisfies `CellOK`
  (`ops_ink_ok`), so the active buffer keeps the invariant call by call (`Spec.C08.paint_st` at
  `Q := CellOK`), and the rest of the state is what `Draws` leaves alone.
-/
import Avt.Lemmas.C11CellsParser
import Avt.Lemmas.C11CellsResize
import Avt.Lemmas.Writes
import Avt.Lemmas.Paint
import Avt.Lemmas.C11Reach

namespace Avt
namespace Lemmas.C11
open Avt.Spec.C11 Avt.Spec.C08

def core (t : Terminal) : Buffer × Buffer × Pen × Pen × Pen :=
  (t.buffer, t.otherBuffer, t.pen, t.savedCtx.pen, t.alternateSavedCtx.pen)

theorem cellsInv_of_core {t t' : Terminal} (k : core t' = core t) (h : CellsInv t) : CellsInv t' := by
  simp only [core, Prod.mk.injEq] at k
  obtain ⟨k1, k2, k3, k4, k5⟩ := k
  exact ⟨k3 ▸ h.pen, k4 ▸ h.sctx, k5 ▸ h.actx, k1 ▸ h.sb, k1 ▸ h.view, k2 ▸ h.osb, k2 ▸ h.oview⟩

theorem core_of_same {W : Field → Bool} {t t' : Terminal} (h : Same W t t')
    (w : W .buffer = false ∧ W .otherBuffer = false ∧ W .pen = false ∧ W .savedCtx = false
      ∧ W .alternateSavedCtx = false) : core t' = core t := by
  unfold core
  rw [h .buffer w.1, h .otherBuffer w.2.1, h .pen w.2.2.1, h .savedCtx w.2.2.2.1,
    h .alternateSavedCtx w.2.2.2.2]

/-- the state carried through one function: the pen is `pen` all along (the blanks a function stores
    carry it) and the cell / pen invariant holds -/
def St2 (pen : Pen) (t : Terminal) : Prop := t.pen = pen ∧ CellsInv t

theorem St2.penOK {pen : Pen} {t : Terminal} (h : St2 pen t) : PenOK pen := h.1 ▸ h.2.pen

theorem St2.st {pen : Pen} {t : Terminal} (h : St2 pen t) : St CellOK CellOK pen t :=
  ⟨h.1, h.2.sb.imp fun _ => .inl, h.2.view⟩

theorem St2.draws {pen : Pen} {t t' : Terminal} (hs : St2 pen t) (d : Draws t t')
    (h' : St CellOK CellOK pen t') : St2 pen t' :=
  ⟨h'.1, by rw [h'.1]; exact hs.penOK, by rw [d .savedCtx rfl]; exact hs.2.sctx,
    by rw [d .alternateSavedCtx rfl]; exact hs.2.actx, h'.2.1.imp fun _ h => h.elim id id, h'.2.2,
    by rw [d .otherBuffer rfl]; exact hs.2.osb, by rw [d .otherBuffer rfl]; exact hs.2.oview⟩

theorem gfxChars_printable : ∀ c ∈ Gen.gfxChars, printableCh c = true := by decide

theorem translate_printable {cs : Charset} {ch ch' : Nat} (hp : printableCh ch = true)
    (h : cs.translate ch = some ch') : printableCh ch' = true := by
  unfold Charset.translate at h
  cases cs with
  | ascii => simp only [Option.some.injEq] at h; subst h; exact hp
  | drawing =>
    simp only at h
    split at h
    · split at h
      · exact gfxChars_printable _ (List.mem_of_getElem? h)
      · cases h
    · simp only [Option.some.injEq] at h; subst h; exact hp

theorem cellOK_E : CellOK ⟨0x45, Pen.default⟩ := ⟨by decide, penOK_default⟩

/-- what a function the parser can emit stores satisfies `CellOK`: `Print` comes with a printable
    character, REP repeats one of the view -/
theorem ops_ink_ok {pen : Pen} {t : Terminal} {f : Function} (hs : St2 pen t) (hf : FnOK f)
    {op : BufOp} (ho : f.ops t op) {c : Cell} (hc : op.ink = some c) : CellOK c := by
  have hb : CellOK (Cell.blank t.pen) := cellOK_blank hs.2.pen
  have hp : ∀ {x : Cell}, CellOK x → Paint.printOps t.topMargin t.bottomMargin t.pen x op → CellOK c := by
    rintro x hx (rfl | ⟨_, rfl⟩ | ⟨_, _, rfl⟩ | ⟨_, _, rfl⟩) <;> cases hc <;> first | exact hb | exact hx
  cases f <;> first | exact ho.elim | skip
  case print =>
    obtain ⟨_, _, e, ho⟩ := ho
    exact hp ⟨translate_printable hf e, hs.2.pen⟩ ho
  case rep =>
    obtain ⟨l, hl, x, hx, _, _, e, ho⟩ := ho
    exact hp ⟨translate_printable (hs.2.view l hl x hx).1 e, hs.2.pen⟩ ho
  case decaln => obtain ⟨_, _, rfl⟩ := ho; cases hc; exact cellOK_E
  case dch => obtain ⟨_, rfl⟩ := ho; cases hc; exact hb
  case ech | ed | el => obtain ⟨_, rfl⟩ := ho; cases hc; exact hb
  all_goals cases ho; cases hc; exact hb

theorem draws_st {pen : Pen} {t t' : Terminal} {f : Function} (hd : f.draws = true) (hf : FnOK f)
    (hs : St2 pen t) (h : t.execute f = some t') : St2 pen t' :=
  have p := Paint.execute hd h
  hs.draws p.draws ((paint_st p fun _ ho _ hc => ops_ink_ok hs hf ho hc).2 hs.st)

theorem cellsInv_saveCursor {t t' : Terminal} (hc : CellsInv t) (h : t.saveCursor = some t') :
    CellsInv t' := by
  cases Terminal.saveCursor_eq h
  exact ⟨hc.pen, hc.pen, hc.actx, hc.sb, hc.view, hc.osb, hc.oview⟩

theorem cellsInv_restoreCursor {t : Terminal} (hc : CellsInv t) : CellsInv t.restoreCursor :=
  ⟨hc.sctx, hc.sctx, hc.actx, hc.sb, hc.view, hc.osb, hc.oview⟩

theorem cellsInv_softReset {t t' : Terminal} (hc : CellsInv t) (h : t.softReset = some t') :
    CellsInv t' := by
  obtain ⟨-, rfl⟩ := Terminal.softReset_eq_some_iff.1 h
  exact ⟨penOK_default, penOK_default, hc.actx, hc.sb, hc.view, hc.osb, hc.oview⟩

theorem cellsInv_hardReset {t t' : Terminal} (h : t.hardReset = some t') : CellsInv t' := by
  obtain ⟨hr, rfl⟩ := Terminal.hardReset_eq_some_iff.1 h
  -- `hardResetT t` is `freshT` but for `xtwinops`, which `CellsInv` does not read: the components of the proof
  -- for `freshT` fit one by one
  exact { new_cells (Terminal.new_eq_some_iff.2 ⟨hr, rfl⟩) with }

theorem cellsInv_switchTo {t t' : Terminal} {to : BufferType} (hc : CellsInv t)
    (h : t.switchTo to = some t') : CellsInv t' := by
  rcases Terminal.switchTo_cases h with ⟨_, rfl⟩ | ⟨_, d, rfl⟩
  · exact hc
  · cases to
    · exact ⟨hc.pen, hc.actx, hc.sctx, hc.osb, hc.oview, hc.sb, hc.view⟩
    · have hb := bufOK_new t.cols t.rows (some 0) (some t.pen) (fun p hp => by cases hp; exact hc.pen)
      exact ⟨hc.pen, hc.actx, hc.sctx, hb.1, hb.2, hc.sb, hc.view⟩

theorem cellsInv_decsetOne {t t' : Terminal} {m : DecMode} (hc : CellsInv t)
    (h : t.decsetOne m = some t') : CellsInv t' := by
  cases hm : Spec.C16.isAltScreenMode m
  · cases m
    case altScreenBuffer | saveCursorAltScreenBuffer => cases hm
    case saveCursor => exact cellsInv_saveCursor hc h
    all_goals
      exact cellsInv_of_core (core_of_same (Terminal.decsetOne_same h) ⟨rfl, rfl, rfl, rfl, rfl⟩) hc
  · obtain ⟨t1, h1, h2⟩ := Terminal.decsetOne_screen hm h
    refine reflow_cells (cellsInv_switchTo ?_ h1) h2
    cases m <;> cases hm
    · exact hc
    · exact ⟨hc.pen, hc.pen, hc.actx, hc.sb, hc.view, hc.osb, hc.oview⟩

theorem cellsInv_decrstOne {t t' : Terminal} {m : DecMode} (hc : CellsInv t)
    (h : t.decrstOne m = some t') : CellsInv t' := by
  cases hm : Spec.C16.isAltScreenMode m
  · cases m
    case altScreenBuffer | saveCursorAltScreenBuffer => cases hm
    case saveCursor => cases h; exact cellsInv_restoreCursor hc
    all_goals
      exact cellsInv_of_core (core_of_same (Terminal.decrstOne_same h) ⟨rfl, rfl, rfl, rfl, rfl⟩) hc
  · obtain ⟨t1, h1, h2⟩ := Terminal.decrstOne_screen hm h
    refine reflow_cells ?_ h2
    split
    · exact cellsInv_restoreCursor (cellsInv_switchTo hc h1)
    · exact cellsInv_switchTo hc h1

theorem cellsInv_execute {t t' : Terminal} {f : Function} (hc : CellsInv t) (hf : FnOK f)
    (h : t.execute f = some t') : CellsInv t' := by
  have hs : St2 t.pen t := ⟨rfl, hc⟩
  cases hd : f.draws
  case true => exact (draws_st hd hf hs h).2
  cases f
  case sgr ops =>
    simp only [Terminal.execute, Option.some.injEq] at h; subst h
    exact ⟨penOK_foldl_applySgr ops t.pen hc.pen hf, hc.sctx, hc.actx, hc.sb, hc.view, hc.osb, hc.oview⟩
  case decsc | scosc => exact cellsInv_saveCursor hc h
  case decrc | scorc =>
    simp only [Terminal.execute, Option.some.injEq] at h; subst h; exact cellsInv_restoreCursor hc
  case decstr => exact cellsInv_softReset hc h
  case ris => exact cellsInv_hardReset h
  case decset ms =>
    exact Terminal.foldM'_inv (f := Terminal.decsetOne) CellsInv (ms := ms)
      (fun b a b' _ hb hs => cellsInv_decsetOne hb hs) hc h
  case decrst ms =>
    exact Terminal.foldM'_inv (f := Terminal.decrstOne) CellsInv (ms := ms)
      (fun b a b' _ hb hs => cellsInv_decrstOne hb hs) hc h
  case xtwinops c r =>
    simp only [Terminal.execute, Terminal.xtwinopsF] at h
    split at h
    · exact resize_cells hc h
    · cases h; exact hc
  -- the rest write neither a buffer nor a pen
  case sm ms | rm ms =>
    refine cellsInv_of_core (core_of_same (Terminal.execute_same h) ⟨?_, ?_, ?_, ?_, ?_⟩) hc <;>
      exact any_writes_false ms (by intro m; cases m <;> rfl)
  all_goals first
    | exact cellsInv_of_core (core_of_same (Terminal.execute_same h) ⟨rfl, rfl, rfl, rfl, rfl⟩) hc
    | cases hd  -- a drawing constructor, where `hd : f.draws = false` is absurd

theorem keeps_cellsInv : Vt.Keeps fun v => CellsInv v.terminal where
  feed := fun {v v' c} hi hc h => by
    obtain ⟨f, hp, ht⟩ := Vt.feed_cases h
    cases f with
    | none => exact ht ▸ hc
    | some f => exact cellsInv_execute hc (parser_emits_fnOK ((Vt.inv_iff v).1 hi).1 hp) ht
  finish := fun _ hc => finish_cells hc
  resize := fun _ hc _ _ h => vtResize_cells hc h

/-- every reachable state satisfies the cell / pen invariant (`Avt.Reach`; `reach_cellsInv` below is the same
    for the histories of C11, `Lemmas.C11.Reach`) -/
theorem cellsInv_of_reach {v : Vt} (h : Avt.Reach v) : CellsInv v.terminal :=
  (Props.Closed.Reach_induct keeps_cellsInv (fun e => new_cells (Vt.new_fields e).2) h).2

theorem reach_cellsInv {s : Vt} (h : Reach s) : CellsInv s.terminal := cellsInv_of_reach h.pub

end Lemmas.C11
end Avt
