/-
  Avt.Lemmas.C11CellsDef — the cell / pen invariant of reachable states, defined.  `CellsInv t`: every pen the
  terminal holds (current, both saved contexts) is a pen the SGR decoder can produce (`PenOK`: five attribute
  bits, `u8` colour components), and every cell of BOTH buffers, scrollback included, holds a character the
  resting parser prints (`printableCh`, after charset translation; `E` of DECALN and the blank are among them)
  and such a pen.  `FnOK f`: what the parser guarantees about an emitted function.  Proved in C11CellsParser
  (`FnOK` of what the parser emits), C11CellsResize (resize, reflow, `Terminal::new`) and C11CellsExec (every
  control function, every reachable state), with the `AllCells` lemmas and `paint_st` of Avt.Lemmas.C08Cells.
-/
import Avt.Spec.C11
import Avt.Lemmas.C08Cells
import Avt.Lemmas.C08Pen

namespace Avt
namespace Lemmas.C11
open Avt.Spec.C11 Avt.Spec.C08

def ColorOK : Color → Prop
  | .indexed n => n < 256
  | .rgb r g b => r < 256 ∧ g < 256 ∧ b < 256

/-- what every pen the terminal can hold satisfies (`attrs` is a `u8` with five flag bits; colour
    components are `u8`) -/
def PenOK (p : Pen) : Prop :=
  p.attrs < 32 ∧ (∀ c, p.fg = some c → ColorOK c) ∧ (∀ c, p.bg = some c → ColorOK c)

/-- what the resting parser prints: 0x20..0x7F and everything from 0xA0 on -/
def printableCh (c : Nat) : Bool := (0x20 ≤ c && c ≤ 0x7F) || 0xA0 ≤ c

/-- the cells the dump can reproduce: a character the resting parser prints, a pen `Pen::dump` can
    write -/
def CellOK (c : Cell) : Prop := printableCh c.ch = true ∧ PenOK c.pen

def LinesOK (ls : List Line) : Prop := AllCells CellOK ls

structure CellsInv (t : Terminal) : Prop where
  pen : PenOK t.pen
  sctx : PenOK t.savedCtx.pen
  actx : PenOK t.alternateSavedCtx.pen
  sb : LinesOK t.buffer.sb
  view : LinesOK t.buffer.view
  osb : LinesOK t.otherBuffer.sb
  oview : LinesOK t.otherBuffer.view

def SgrOpOK : SgrOp → Prop
  | .setFg c => ColorOK c
  | .setBg c => ColorOK c
  | _ => True

def FnOK : Function → Prop
  | .print ch => printableCh ch = true
  | .sgr ops => ∀ op ∈ ops, SgrOpOK op
  | _ => True

theorem penOK_default : PenOK ({} : Pen) :=
  ⟨by decide, (fun c h => by cases h), (fun c h => by cases h)⟩

theorem cellOK_blank {p : Pen} (h : PenOK p) : CellOK (Cell.blank p) := ⟨rfl, h⟩

theorem penOK_applySgr (p : Pen) (op : SgrOp) (hp : PenOK p) (hop : SgrOpOK op) :
    PenOK (Terminal.applySgr p op) :=
  ⟨attrs_applySgr p op hp.1,
   fun c h => (fg_applySgr h).elim (fun e => by subst e; exact hop) (hp.2.1 c),
   fun c h => (bg_applySgr h).elim (fun e => by subst e; exact hop) (hp.2.2 c)⟩

theorem penOK_foldl_applySgr (ops : List SgrOp) (p : Pen) (hp : PenOK p) (hops : ∀ op ∈ ops, SgrOpOK op) :
    PenOK (ops.foldl Terminal.applySgr p) := by
  induction ops generalizing p with
  | nil => exact hp
  | cons op ops ih =>
    simp only [List.foldl_cons]
    exact ih _ (penOK_applySgr p op hp (hops op List.mem_cons_self))
      (fun o ho => hops o (List.mem_cons_of_mem _ ho))

def BufOK (b : Buffer) : Prop := LinesOK b.sb ∧ LinesOK b.view

theorem bufOK_new (cols rows : Nat) (limit : Option Nat) (pen : Option Pen)
    (hp : ∀ p, pen = some p → PenOK p) : BufOK (Buffer.new cols rows limit pen) := by
  refine ⟨allCells_nil, ?_⟩
  simp only [Buffer.new]
  refine allCells_replicate (blank_ok (cellOK_blank ?_))
  cases pen with
  | none => exact penOK_default
  | some p => exact hp p rfl

theorem bufClear_bufOK {b b' : Buffer} {a c : Nat} {pen : Pen} (hp : PenOK pen) (hb : BufOK b)
    (h : b.clear a c pen = some b') : BufOK b' :=
  ⟨by rw [bufClear_sb h]; exact hb.1, bufClear_ok (cellOK_blank hp) hb.2 h⟩

end Lemmas.C11
end Avt
