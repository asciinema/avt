/-
  Avt.Lemmas.Reflow — the reflow iterator (`Reflow::next`; in the model `reflowGo`, on fuel).  One
  iteration does one of two things with the current line (`Step`): it hands a line out, or it swallows
  the next input line and goes round again (`step`, tied to the model by `reflowBody_step`).  The
  potential `rmu` falls with every iteration, so the model's fuel suffices, and along it the output
  invariant holds: every line `cols` wide, the last one unwrapped if the input's was (`reflowGo_ok`,
  `reflow_ok`).  `reflowGo_induct` is induction over a successful run.  Before that, `lastUnwrapped`
  through `List.getLast?` and the outcomes of `Line.contract` / `Line.extend`.
-/
import Avt.Spec.Inv
import Avt.Lemmas.Prim

namespace Avt

theorem Lemmas.exists_snoc {α} {xs : List α} (h : xs ≠ []) : ∃ ini l, xs = ini ++ [l] :=
  ⟨_, _, (List.dropLast_concat_getLast h).symm⟩

/-- `lastUnwrapped` reads the last line and nothing else: what follows is core's `List.getLast?` -/
theorem lastUnwrapped_eq : ∀ ls : List Line, lastUnwrapped ls = ls.getLast?.all (!·.wrapped)
  | [] => rfl
  | [_] => rfl
  | _ :: y :: ys => (lastUnwrapped_eq (y :: ys)).trans (by rw [List.getLast?_cons_cons])

theorem lastUnwrapped_append (xs : List Line) {ys : List Line} (hy : ys ≠ []) :
    lastUnwrapped (xs ++ ys) = lastUnwrapped ys := by
  rw [lastUnwrapped_eq, lastUnwrapped_eq, List.getLast?_append, List.getLast?_eq_some_getLast hy,
    Option.some_or]

theorem lastUnwrapped_snoc (ini : List Line) (l : Line) : lastUnwrapped (ini ++ [l]) = !l.wrapped := by
  rw [lastUnwrapped_eq, List.getLast?_concat]; rfl

theorem lastUnwrapped_cons_of_ne_nil (x : Line) {ls : List Line} (h : ls ≠ []) :
    lastUnwrapped (x :: ls) = lastUnwrapped ls := lastUnwrapped_append [x] h

theorem lastUnwrapped_tail {x : Line} {ls : List Line} (h : lastUnwrapped (x :: ls) = true) :
    lastUnwrapped ls = true := by
  cases ls with
  | nil => rfl
  | cons y ys => exact h

theorem lastUnwrapped_singleton {l : Line} (h : lastUnwrapped [l] = true) : l.wrapped = false := by
  simpa [lastUnwrapped] using h

/-- only the wrap mark of a line matters -/
theorem lastUnwrapped_cons_congr {x y : Line} (ls : List Line) (h : x.wrapped = y.wrapped) :
    lastUnwrapped (x :: ls) = lastUnwrapped (y :: ls) := by
  cases ls with
  | nil => exact congrArg (!·) h
  | cons z zs => rfl

theorem lastUnwrapped_drop {ls : List Line} (k : Nat) (h : lastUnwrapped ls = true)
    (hk : k < ls.length) : lastUnwrapped (ls.drop k) = true := by
  rwa [lastUnwrapped_eq, List.getLast?_drop, if_neg (Nat.not_le_of_lt hk), ← lastUnwrapped_eq]

theorem lastUnwrapped_replicate (n : Nat) {l : Line} (h : l.wrapped = false) :
    lastUnwrapped (List.replicate n l) = true := by
  rw [lastUnwrapped_eq, List.getLast?_replicate]; split <;> simp [h]

theorem lastUnwrapped_append_blank (ls : List Line) (n cols : Nat) (pen : Pen) (hn : 0 < n) :
    lastUnwrapped (ls ++ List.replicate n (Line.blank cols pen)) = true := by
  rw [lastUnwrapped_append ls (by simp; omega)]; exact lastUnwrapped_replicate n rfl

theorem lastUnwrapped_pad {ls : List Line} (h : lastUnwrapped ls = true) (n cols : Nat) (pen : Pen) :
    lastUnwrapped (ls ++ List.replicate n (Line.blank cols pen)) = true := by
  cases n with
  | zero => rw [List.replicate_zero, List.append_nil]; exact h
  | succ n => exact lastUnwrapped_append_blank ls _ cols pen (Nat.succ_pos n)

namespace Line

theorem trim_len_le (l : Line) : l.trim.len ≤ l.len := by
  simp only [trim, len, List.length_take]
  omega

theorem blank_len (cols : Nat) (pen : Pen) : (Line.blank cols pen).cells.length = cols := by
  simp [Line.blank]

theorem blank_wrapped (cols : Nat) (pen : Pen) : (Line.blank cols pen).wrapped = false := rfl

theorem blank_cells (cols : Nat) (pen : Pen) (c : Nat) :
    (Line.blank cols pen).cells[c]? = if c < cols then some (Cell.blank pen) else none := by
  simp only [Line.blank, List.getElem?_replicate]

theorem blank_text (c : Nat) (pen : Pen) : (Line.blank c pen).text = List.replicate c 0x20 := by
  simp [Line.blank, Line.text, Cell.blank]

theorem _root_.Avt.Cell.blank_default_isDefault : (Cell.blank Pen.default).isDefault = true := by decide

theorem blank_isBlank (cols : Nat) : (Line.blank cols Pen.default).isBlank = true := by
  simp [Line.isBlank, Line.blank, Cell.blank_default_isDefault]

theorem trailers_blank (n : Nat) : (blank n Pen.default).trailers = n := by
  simp [trailers, blank, Cell.blank_default_isDefault]

@[simp] theorem trim_wrapped (l : Line) : l.trim.wrapped = l.wrapped := rfl

theorem expand_eq_some_iff {l l' : Line} {n : Nat} {pen : Pen} :
    l.expand n pen = some l' ↔
      l.len ≤ n ∧ l' = { l with cells := l.cells ++ List.replicate (n - l.len) (Cell.blank pen) } :=
  csub_map_eq_some_iff

theorem expand_ok (l : Line) (n : Nat) (pen : Pen) (h : l.len ≤ n) :
    ∃ l', l.expand n pen = some l' ∧ l'.len = n ∧ l'.wrapped = l.wrapped := by
  refine ⟨_, expand_eq_some_iff.2 ⟨h, rfl⟩, ?_, rfl⟩
  · simp only [len] at *
    simp
    omega

/-- what `extend` takes cells from: the next row, trimmed if it ends its logical line -/
def donor (other : Line) : Line := if !other.wrapped then other.trim else other

theorem donor_wrapped (other : Line) : (donor other).wrapped = other.wrapped := by
  unfold donor; split <;> rfl

theorem donor_len_le (other : Line) : (donor other).len ≤ other.len := by
  unfold donor; split
  · exact trim_len_le other
  · exact Nat.le_refl _

/-- `extend` fails only on the checked subtraction -/
theorem extend_isSome (l other : Line) {len : Nat} (h : l.len ≤ len) : ∃ res, l.extend other len = some res := by
  unfold extend
  rw [csub_eq_some h]
  dsimp only
  generalize (if (!other.wrapped) = true then other.trim else other) = o
  by_cases h0 : len - l.len = 0
  · rw [if_pos h0]; exact ⟨_, rfl⟩
  rw [if_neg h0]
  by_cases hw : (!l.wrapped) = true
  · rw [if_pos hw, expand, csub_eq_some h]; exact ⟨_, rfl⟩
  rw [if_neg hw]
  by_cases hn : len - l.len < o.len
  · rw [if_pos hn]; exact ⟨_, rfl⟩
  rw [if_neg hn]
  by_cases how : (!o.wrapped) = true
  · rw [if_pos how]
    split
    · next h2 => rw [expand, csub_eq_some (Nat.le_of_lt h2)]; exact ⟨_, rfl⟩
    · exact ⟨_, rfl⟩
  · rw [if_neg how]; exact ⟨_, rfl⟩

/-- the five outcomes of `extend` -/
theorem extend_cases {l other l' : Line} {len : Nat} {e : Bool} {r : Option Line}
    (h : l.extend other len = some (l', e, r)) :
    (len = l.len ∧ l' = l ∧ e = true ∧ r = some other)
    ∨ (l.len < len ∧ l.wrapped = false ∧ e = true ∧ r = some other
        ∧ l' = { l with cells := l.cells ++ List.replicate (len - l.len) (Cell.blank Pen.default) })
    ∨ (l.len < len ∧ l.wrapped = true ∧ len - l.len < (donor other).len ∧ e = true
        ∧ l' = { l with cells := l.cells ++ (donor other).cells.take (len - l.len) }
        ∧ r = some { cells := (donor other).cells.drop (len - l.len), wrapped := other.wrapped })
    ∨ (l.wrapped = true ∧ other.wrapped = false ∧ e = true ∧ r = none ∧ ∃ k,
        l.len + (donor other).len + k = len
        ∧ l' = { cells := l.cells ++ (donor other).cells ++ List.replicate k (Cell.blank Pen.default),
                 wrapped := false })
    ∨ (l.wrapped = true ∧ other.wrapped = true ∧ e = false ∧ r = none
        ∧ l' = { l with cells := l.cells ++ other.cells }) := by
  unfold extend at h
  cases hk : csub len l.len with
  | none => rw [hk] at h; cases h
  | some needed =>
    obtain ⟨hle, rfl⟩ := csub_eq_some_iff.1 hk
    rw [hk] at h
    dsimp only at h
    by_cases h0 : len - l.len = 0
    · rw [if_pos h0] at h; cases h
      exact .inl ⟨Nat.le_antisymm (Nat.le_of_sub_eq_zero h0) hle, rfl, rfl, rfl⟩
    have hlt : l.len < len := Nat.lt_of_sub_ne_zero h0
    rw [if_neg h0] at h
    cases hw : l.wrapped with
    | false =>
      simp only [hw, Bool.not_false, if_true, expand, hk, Option.map_some, Option.some.injEq,
        Prod.mk.injEq] at h
      obtain ⟨rfl, rfl, rfl⟩ := h
      exact .inr (.inl ⟨hlt, rfl, rfl, rfl, rfl⟩)
    | true =>
      simp only [hw, Bool.not_true, Bool.false_eq_true, if_false] at h
      simp only [show (if (!other.wrapped) = true then other.trim else other) = donor other from rfl] at h
      have hdw := donor_wrapped other
      by_cases hn : len - l.len < (donor other).len
      · rw [if_pos hn] at h; cases h
        exact .inr (.inr (.inl ⟨hlt, rfl, hn, rfl, rfl, by rw [hdw]⟩))
      rw [if_neg hn] at h
      cases how : other.wrapped with
      | true =>
        have hd : donor other = other := by unfold donor; rw [how]; rfl
        rw [hd] at h
        simp only [how, Bool.not_true, Bool.false_eq_true, if_false, Option.some.injEq, Prod.mk.injEq] at h
        obtain ⟨rfl, rfl, rfl⟩ := h
        exact .inr (.inr (.inr (.inr ⟨rfl, rfl, rfl, rfl, rfl⟩)))
      | false =>
        rw [how] at hdw
        simp only [hdw, Bool.not_false, if_true] at h
        refine .inr (.inr (.inr (.inl ⟨rfl, rfl, ?_⟩)))
        split at h
        · obtain ⟨l3, hx, hh⟩ := Option.map_eq_some_iff.1 h
          cases hh
          unfold expand at hx
          obtain ⟨k, hk', rfl⟩ := Option.map_eq_some_iff.1 hx
          have := csub_add hk'
          exact ⟨rfl, rfl, k, by simp only [Line.len, List.length_append] at this ⊢; omega, rfl⟩
        · next h2 =>
          cases h
          refine ⟨rfl, rfl, 0, ?_, by rw [List.replicate_zero, List.append_nil]⟩
          simp only [Line.len, List.length_append] at h2 hn hlt ⊢
          omega

/-- the cells `contract` works on: a row that ends its logical line first loses its trailing blanks
    beyond `len` -/
def keep (l : Line) (len : Nat) : List Cell :=
  if !l.wrapped then l.cells.take (max len (l.len - l.trailers)) else l.cells

/-- what `contract` leaves over after `len` cells, trimmed like the `donor` of `extend` -/
def over (l : Line) (len : Nat) : Line := donor { cells := (l.keep len).drop len, wrapped := l.wrapped }

/-- the three outcomes of `contract`: it fits; it is cut and only blanks are left over; it is cut
    and there is a rest -/
theorem contract_cases (l : Line) (len : Nat) :
    ((l.keep len).length ≤ len ∧ l.contract len = ({ cells := l.keep len, wrapped := l.wrapped }, none))
    ∨ (len < (l.keep len).length ∧ (l.over len).cells = [] ∧
        l.contract len = ({ cells := (l.keep len).take len, wrapped := l.wrapped }, none))
    ∨ (len < (l.keep len).length ∧ (l.over len).cells ≠ [] ∧
        l.contract len = ({ cells := (l.keep len).take len, wrapped := true }, some (l.over len))) := by
  unfold contract
  simp only [show (if (!l.wrapped) = true then l.cells.take (max len (l.len - l.trailers)) else l.cells)
    = l.keep len from rfl]
  by_cases h : (l.keep len).length > len
  · simp only [if_pos h]
    simp only [show (if (!l.wrapped) = true then
      ({ cells := (l.keep len).drop len, wrapped := l.wrapped } : Line).trim
      else { cells := (l.keep len).drop len, wrapped := l.wrapped }) = l.over len from rfl]
    split
    · next he => exact .inr (.inl ⟨h, List.isEmpty_iff.1 he, rfl⟩)
    · next he => exact .inr (.inr ⟨h, fun e => he (List.isEmpty_iff.2 e), rfl⟩)
  · rw [if_neg h]; exact .inl ⟨Nat.le_of_not_lt h, rfl⟩

theorem keep_length (l : Line) {n : Nat} (h : n < l.len) : n ≤ (l.keep n).length ∧ (l.keep n).length ≤ l.len := by
  unfold keep
  simp only [Line.len] at h ⊢
  split
  · rw [List.length_take]; omega
  · omega

/-- `contract` when the line is longer than `n`: the kept part has exactly `n` cells; a returned
    rest is shorter by at least `n` and inherits the wrap flag; with no rest the wrap flag stays. -/
theorem contract_spec (l : Line) (n : Nat) (h : n < l.len) :
    (l.contract n).1.len = n ∧
    (match (l.contract n).2 with
     | none => (l.contract n).1.wrapped = l.wrapped
     | some r => r.wrapped = l.wrapped ∧ r.len + n ≤ l.len ∧ 0 < r.len) := by
  obtain ⟨h1, h2⟩ := keep_length l h
  rcases contract_cases l n with ⟨hk, e⟩ | ⟨hk, -, e⟩ | ⟨hk, hne, e⟩ <;> rw [e]
  · exact ⟨Nat.le_antisymm hk h1, rfl⟩
  · exact ⟨by simp only [Line.len, List.length_take]; omega, rfl⟩
  · have hd := donor_len_le { cells := (l.keep n).drop n, wrapped := l.wrapped }
    simp only [Line.len, List.length_drop] at hd h2
    refine ⟨by simp only [Line.len, List.length_take]; omega, donor_wrapped _, ?_, List.length_pos_iff.2 hne⟩
    show (l.over n).cells.length + n ≤ l.cells.length
    unfold over; omega

/-- `extend` when the line is shorter than `n`: it never panics, and
    * either it emits a line of exactly `n` cells together with a rest that is no longer than `other`
      and has its wrap flag,
    * or it emits an unwrapped line of exactly `n` cells and no rest,
    * or (`other` wrapped and too short) it emits nothing and the accumulated line stays wrapped. -/
theorem extend_spec (l other : Line) (n : Nat) (h : l.len < n) :
    ∃ l' e r, l.extend other n = some (l', e, r) ∧
      ((∃ r', e = true ∧ r = some r' ∧ l'.len = n ∧ r'.wrapped = other.wrapped ∧ r'.len ≤ other.len)
       ∨ (e = true ∧ r = none ∧ l'.len = n ∧ l'.wrapped = false)
       ∨ (e = false ∧ l'.wrapped = true ∧ other.wrapped = true ∧ l'.len ≤ l.len + other.len)) := by
  obtain ⟨⟨l', e, r⟩, he⟩ := extend_isSome l other (Nat.le_of_lt h)
  refine ⟨l', e, r, he, ?_⟩
  have hd := donor_len_le other
  simp only [len] at h hd
  rcases extend_cases he with ⟨h0, -⟩ | ⟨-, -, rfl, rfl, rfl⟩ | ⟨-, -, hn, rfl, rfl, rfl⟩
      | ⟨-, -, rfl, rfl, k, hk, rfl⟩ | ⟨hw, how, rfl, rfl, rfl⟩
  · exact absurd h0 (Nat.ne_of_gt h)
  · refine .inl ⟨other, rfl, rfl, ?_, rfl, Nat.le_refl _⟩
    simp only [len, List.length_append, List.length_replicate]; omega
  · refine .inl ⟨_, rfl, rfl, ?_, rfl, ?_⟩
    · simp only [len, List.length_append, List.length_take] at hn ⊢; omega
    · simp only [len, List.length_drop]; omega
  · refine .inr (.inl ⟨rfl, rfl, ?_, rfl⟩)
    simp only [len, List.length_append, List.length_replicate] at hk ⊢; omega
  · exact .inr (.inr ⟨rfl, hw, how, by simp only [len, List.length_append]; omega⟩)

end Line

theorem widths_append_blank {c : Nat} {ls : List Line} (n : Nat) (pen : Pen)
    (hw : ∀ l ∈ ls, l.len = c) : ∀ l ∈ ls ++ List.replicate n (Line.blank c pen), l.len = c :=
  fun l hl => (List.mem_append.1 hl).elim (hw l)
    fun h => (List.mem_replicate.1 h).2 ▸ Line.blank_len c pen

namespace Buffer

/-- the body of one `Reflow::next` iteration once the current line has been picked -/
def reflowBody (cols fuel : Nat) (line : Line) (iter : List Line) : Option (List Line) :=
  if cols < line.len then
    let (line', rest') := line.contract cols
    (reflowGo cols fuel rest' iter).map fun out => line' :: out
  else if cols = line.len then
    (reflowGo cols fuel none iter).map fun out => line :: out
  else
    match iter with
    | next :: iter' =>
      match line.extend next cols with
      | none => none
      | some (line', true, some r) => (reflowGo cols fuel (some r) iter').map fun out => line' :: out
      | some (line', true, none) => (reflowGo cols fuel none iter').map fun out => line' :: out
      | some (line', false, _) => reflowGo cols fuel (some line') iter'
    | [] =>
      match line.expand cols Pen.default with
      | none => none
      | some l' => (reflowGo cols fuel none []).map fun out => { l' with wrapped := false } :: out

theorem reflowGo_some (cols fuel : Nat) (l : Line) (iter : List Line) :
    reflowGo cols (fuel + 1) (some l) iter = reflowBody cols fuel l iter := by
  conv => lhs; unfold reflowGo
  rfl

theorem reflowGo_none_cons (cols fuel : Nat) (l : Line) (ls : List Line) :
    reflowGo cols (fuel + 1) none (l :: ls) = reflowBody cols fuel l ls := by
  conv => lhs; unfold reflowGo
  rfl

theorem reflowGo_none_nil (cols fuel : Nat) : reflowGo cols (fuel + 1) none [] = some [] := by
  rw [reflowGo]

/-- what one iteration does with the current line: hand a line out and leave a state, or swallow the
    next input line and go round again -/
inductive Step where
  | emit (out : Line) (rest : Option Line) (iter : List Line)
  | merge (cur : Line) (iter : List Line)

def step (cols : Nat) (line : Line) (iter : List Line) : Option Step :=
  if cols < line.len then some (.emit (line.contract cols).1 (line.contract cols).2 iter)
  else if cols = line.len then some (.emit line none iter)
  else
    match iter with
    | nx :: iter' =>
      match line.extend nx cols with
      | none => none
      | some (l', true, r) => some (.emit l' r iter')
      | some (l', false, _) => some (.merge l' iter')
    | [] =>
      match line.expand cols Pen.default with
      | none => none
      | some l' => some (.emit { l' with wrapped := false } none [])

/-- everything a step leaves, in order: the emitted line, the pending rest, the remaining input -/
def Step.lines : Step → List Line
  | .emit o r it => o :: (r.toList ++ it)
  | .merge l it => l :: it

/-- a loop written over `step`: what it does on `emit`, what on `merge` -/
def onStep {β} (s : Option Step) (e : Line → Option Line → List Line → Option β)
    (m : Line → List Line → Option β) : Option β :=
  match s with
  | none => none
  | some (.emit o r it) => e o r it
  | some (.merge l it) => m l it

theorem onStep_congr {β} (s : Option Step) {e e' : Line → Option Line → List Line → Option β}
    {m m' : Line → List Line → Option β} (he : ∀ o r it, s = some (.emit o r it) → e o r it = e' o r it)
    (hm : ∀ l it, s = some (.merge l it) → m l it = m' l it) : onStep s e m = onStep s e' m' := by
  cases s with
  | none => rfl
  | some st => cases st with
    | emit o r it => exact he o r it rfl
    | merge l it => exact hm l it rfl

theorem onStep_map {β γ} (f : Option β → Option γ) (hf : f none = none) (s : Option Step) (e m) :
    f (onStep s e m) = onStep s (fun o r it => f (e o r it)) (fun l it => f (m l it)) := by
  cases s with
  | none => exact hf
  | some st => cases st <;> rfl

/-- `reflowBody` cannot be defined as this: the model's text (`reflowGo_some` is `rfl` against it) has
    two arms for an emitting `extend`, with and without a rest, where `step` has one -/
theorem reflowBody_step (cols fuel : Nat) (l : Line) (iter : List Line) :
    reflowBody cols fuel l iter =
      onStep (step cols l iter) (fun o r it => (reflowGo cols fuel r it).map (o :: ·))
        (fun l' it => reflowGo cols fuel (some l') it) := by
  unfold reflowBody step
  by_cases h1 : cols < l.len
  · simp only [h1, if_true]; rfl
  · by_cases h2 : cols = l.len
    · simp only [h1, if_false]; simp only [if_pos h2]; rfl
    · simp only [h1, h2, if_false]
      cases iter with
      | nil => simp only; cases Line.expand l cols Pen.default <;> rfl
      | cons nx iter' =>
        simp only
        cases Line.extend l nx cols with
        | none => rfl
        | some t => obtain ⟨l', e, r⟩ := t; cases e <;> cases r <;> rfl

/-- the four ways a step succeeds, by what it leaves: the row is too long and is cut, fits, is too
    short with nothing behind it and is padded, or is too short and takes cells from the next row -/
theorem step_cases {cols : Nat} {line : Line} {iter : List Line} {st : Step}
    (h : step cols line iter = some st) :
    (cols < line.len ∧ st.lines = (line.contract cols).1 :: ((line.contract cols).2.toList ++ iter))
    ∨ (cols = line.len ∧ st.lines = line :: iter)
    ∨ (line.len < cols ∧ iter = [] ∧ ∃ l', line.expand cols Pen.default = some l'
        ∧ st.lines = [{ l' with wrapped := false }])
    ∨ (line.len < cols ∧ ∃ nx it l' e r, iter = nx :: it ∧ line.extend nx cols = some (l', e, r)
        ∧ st.lines = l' :: ((if e then r else none).toList ++ it)) := by
  unfold step at h
  split at h
  · next h1 => cases h; exact .inl ⟨h1, rfl⟩
  · next h1 =>
    split at h
    · next h2 => cases h; exact .inr (.inl ⟨h2, rfl⟩)
    · next h2 =>
      have hlt : line.len < cols := Nat.lt_of_le_of_ne (Nat.le_of_not_lt h1) fun e => h2 e.symm
      cases iter with
      | nil =>
        dsimp only at h
        cases he : line.expand cols Pen.default with
        | none => rw [he] at h; cases h
        | some l' => rw [he] at h; cases h; exact .inr (.inr (.inl ⟨hlt, rfl, l', rfl, rfl⟩))
      | cons nx it =>
        dsimp only at h
        cases he : line.extend nx cols with
        | none => rw [he] at h; cases h
        | some res =>
          obtain ⟨l', e, r⟩ := res
          rw [he] at h
          refine .inr (.inr (.inr ⟨hlt, nx, it, l', e, r, rfl, he, ?_⟩))
          cases e <;> cases h <;> rfl

/-- a step that goes round again has consumed an input line -/
theorem step_iter_lt {cols : Nat} {l : Line} {iter : List Line} {l' : Line} {it : List Line}
    (h : step cols l iter = some (.merge l' it)) : it.length < iter.length := by
  unfold step at h
  split at h
  · cases h
  · split at h
    · cases h
    · cases iter with
      | nil => simp only at h; split at h <;> cases h
      | cons nx it' =>
        simp only at h
        split at h
        · cases h
        · cases h
        · cases h; simp

/-- induction over a successful run of the iterator -/
theorem reflowGo_induct {cols : Nat} (I : Option Line → List Line → List Line → Prop)
    (nil : I none [] [])
    (pick : ∀ l ls out, I (some l) ls out → I none (l :: ls) out)
    (emit : ∀ line iter o r it out, step cols line iter = some (.emit o r it) → I r it out →
      I (some line) iter (o :: out))
    (merge : ∀ line iter l' it out, step cols line iter = some (.merge l' it) → I (some l') it out →
      I (some line) iter out) :
    ∀ fuel rest iter out, reflowGo cols fuel rest iter = some out → I rest iter out := by
  intro fuel
  induction fuel with
  | zero => intro rest iter out h; simp [reflowGo] at h
  | succ fuel ih =>
    have body : ∀ line iter out, reflowBody cols fuel line iter = some out → I (some line) iter out := by
      intro line iter out h
      rw [reflowBody_step] at h
      cases hs : step cols line iter with
      | none => rw [hs] at h; cases h
      | some st =>
        rw [hs] at h
        cases st with
        | emit o r it =>
          obtain ⟨out', ho, rfl⟩ := Option.map_eq_some_iff.1 h
          exact emit _ _ _ _ _ _ hs (ih _ _ _ ho)
        | merge l' it => exact merge _ _ _ _ _ hs (ih _ _ _ h)
    intro rest iter out h
    cases rest with
    | some l => rw [reflowGo_some] at h; exact body _ _ _ h
    | none =>
      cases iter with
      | nil => rw [reflowGo_none_nil] at h; cases h; exact nil
      | cons l ls => rw [reflowGo_none_cons] at h; exact pick _ _ _ (body _ _ _ h)

/-- potential of an iterator state: every iteration of `Reflow::next` decreases it.  A pending rest
    counts one more than its cells and an input line two more, so that taking an input line into the
    rest, and dropping an exhausted rest, decrease it too -/
def rmu (rest : Option Line) (iter : List Line) : Nat :=
  (match rest with | some l => l.len + 1 | none => 0) + (iter.map Line.len).sum + 2 * iter.length

/-- what a run of `reflowGo` returns: lines `cols` wide, the last unwrapped.  `empty`: nothing was emitted;
    `GoOK_cons` then asks the line put in front, now the last, to be unwrapped -/
def GoOK (cols : Nat) (res : Option (List Line)) (empty : Bool) : Prop :=
  ∃ out, res = some out ∧ (∀ l ∈ out, l.len = cols) ∧ out.isEmpty = empty ∧ lastUnwrapped out = true

theorem GoOK_cons {cols : Nat} {res : Option (List Line)} {e : Bool} (line : Line)
    (h : GoOK cols res e) (hl : line.len = cols) (hw : e = true → line.wrapped = false) :
    GoOK cols (res.map fun out => line :: out) false := by
  obtain ⟨out, hr, hall, hem, hlu⟩ := h
  refine ⟨line :: out, by simp [hr], ?_, rfl, ?_⟩
  · intro l hl'
    cases hl' with
    | head => exact hl
    | tail _ h' => exact hall l h'
  · cases out with
    | nil =>
      have : line.wrapped = false := hw (by simpa using hem.symm)
      simp [lastUnwrapped, this]
    | cons y ys => exact hlu

theorem rmu_some (l : Line) (iter : List Line) : rmu (some l) iter = l.len + 1 + rmu none iter := by
  simp only [rmu]; omega

theorem rmu_cons (l : Line) (iter : List Line) : rmu none (l :: iter) = l.len + 2 + rmu none iter := by
  simp only [rmu, List.map_cons, List.sum_cons, List.length_cons]; omega

/-- what a step promises for `cols ≥ 1`: an emitted line has `cols` cells, the potential does not rise
    (picking the current line already lowered it), the last pending line keeps its wrap mark, and a
    line emitted with nothing left behind is unwrapped if the input ended unwrapped -/
def Step.OK (cols : Nat) (line : Line) (iter : List Line) : Step → Prop
  | .emit out r it => out.len = cols ∧ rmu r it ≤ line.len + rmu none iter ∧
      (lastUnwrapped (line :: iter) = true → lastUnwrapped (r.toList ++ it) = true) ∧
      (r = none → it = [] → lastUnwrapped (line :: iter) = true → out.wrapped = false)
  | .merge l' it => rmu (some l') it ≤ line.len + rmu none iter ∧
      (lastUnwrapped (line :: iter) = true → lastUnwrapped (l' :: it) = true)

theorem step_spec (cols : Nat) (hc : 1 ≤ cols) (line : Line) (iter : List Line) :
    ∃ st, step cols line iter = some st ∧ st.OK cols line iter := by
  unfold step
  by_cases h1 : cols < line.len
  · -- too long: cut off `cols` cells
    rw [if_pos h1]
    refine ⟨_, rfl, ?_⟩
    have hs := Line.contract_spec line cols h1
    generalize line.contract cols = pr at hs
    obtain ⟨line', rest'⟩ := pr
    obtain ⟨hlen, hrest⟩ := hs
    show Step.OK cols line iter (.emit line' rest' iter)
    cases rest' with
    | none =>
      exact ⟨hlen, Nat.le_add_left _ _, lastUnwrapped_tail,
        fun _ hi hJ => hrest.trans (lastUnwrapped_singleton (hi ▸ hJ))⟩
    | some r =>
      obtain ⟨hrw, hrl, _⟩ := hrest
      exact ⟨hlen, by rw [rmu_some]; omega, fun hJ => (lastUnwrapped_cons_congr iter hrw).trans hJ,
        fun h => nomatch h⟩
  · rw [if_neg h1]
    by_cases h2 : cols = line.len
    · rw [if_pos h2]
      exact ⟨_, rfl, h2.symm, by omega, lastUnwrapped_tail,
        fun _ hi hJ => lastUnwrapped_singleton (hi ▸ hJ)⟩
    · -- too short: take cells from the next line, or pad at the end of the input
      rw [if_neg h2]
      have h3 : line.len < cols := by omega
      cases iter with
      | nil =>
        obtain ⟨l', he, hl, _⟩ := Line.expand_ok line cols Pen.default (Nat.le_of_lt h3)
        simp only [he]
        exact ⟨_, rfl, hl, by omega, fun _ => rfl, fun _ _ _ => rfl⟩
      | cons nx iter' =>
        obtain ⟨l', e, r, hex, hcases⟩ := Line.extend_spec line nx cols h3
        simp only [hex]
        have hmu := rmu_cons nx iter'
        rcases hcases with ⟨r', rfl, rfl, hl, hrw, hrl⟩ | ⟨rfl, rfl, hl, hw⟩ | ⟨rfl, hw, how, hl⟩
        · exact ⟨_, rfl, hl, by rw [rmu_some]; omega,
            fun hJ => (lastUnwrapped_cons_congr iter' hrw).trans (lastUnwrapped_tail hJ), fun h => nomatch h⟩
        · exact ⟨_, rfl, hl, by omega, fun hJ => lastUnwrapped_tail (lastUnwrapped_tail hJ), fun _ _ _ => hw⟩
        · exact ⟨_, rfl, by rw [rmu_some]; omega,
            fun hJ => (lastUnwrapped_cons_congr iter' (hw.trans how.symm)).trans (lastUnwrapped_tail hJ)⟩

theorem reflowBody_ok (cols fuel : Nat) (hc : 1 ≤ cols)
    (IH : ∀ rest iter, rmu rest iter < fuel → lastUnwrapped (rest.toList ++ iter) = true →
      GoOK cols (reflowGo cols fuel rest iter) (rest.isNone && iter.isEmpty))
    (line : Line) (iter : List Line) (hm : line.len + rmu none iter < fuel)
    (hJ : lastUnwrapped (line :: iter) = true) :
    GoOK cols (reflowBody cols fuel line iter) false := by
  obtain ⟨st, hst, hok⟩ := step_spec cols hc line iter
  rw [reflowBody_step, hst]
  cases st with
  | emit out r it =>
    obtain ⟨hl, hmu, hlu, hw⟩ := hok
    refine GoOK_cons out (IH r it (by omega) (hlu hJ)) hl fun he => ?_
    cases r with
    | some _ => cases he
    | none => cases it with
      | nil => exact hw rfl rfl hJ
      | cons _ _ => cases he
  | merge l' it =>
    obtain ⟨hmu, hlu⟩ := hok
    exact IH (some l') it (by omega) (hlu hJ)

/-- The reflow iterator terminates within any fuel exceeding the potential, every line it yields has
    exactly `cols` cells, it yields something unless there is nothing to process, and its last line
    is not wrapped when the last pending input line is not wrapped. -/
theorem reflowGo_ok (cols : Nat) (hc : 1 ≤ cols) :
    ∀ (fuel : Nat) (rest : Option Line) (iter : List Line), rmu rest iter < fuel →
      lastUnwrapped (rest.toList ++ iter) = true →
      GoOK cols (reflowGo cols fuel rest iter) (rest.isNone && iter.isEmpty) := by
  intro fuel
  induction fuel with
  | zero => intro rest iter h; omega
  | succ fuel IH =>
    intro rest iter hm hJ
    cases rest with
    | some l =>
      rw [reflowGo_some]
      exact reflowBody_ok cols fuel hc IH l iter (by rw [rmu_some] at hm; omega) hJ
    | none =>
      cases iter with
      | nil => rw [reflowGo_none_nil]; exact ⟨[], rfl, by simp, rfl, rfl⟩
      | cons l ls =>
        rw [reflowGo_none_cons]
        exact reflowBody_ok cols fuel hc IH l ls (by rw [rmu_cons] at hm; omega) hJ

theorem reflowGo_of_reflow {ls out : List Line} {c : Nat} (h : reflow ls c = some out) :
    reflowGo c (reflowFuel ls) none ls = some out := by
  unfold reflow at h
  split at h
  · cases h
  · split at h
    · cases h
    · next o hg => split at h <;> cases h; exact hg

theorem reflowFuel_gt (lines : List Line) : rmu none lines < reflowFuel lines := by
  simp only [rmu, reflowFuel]; omega

/-- `reflow` never panics for `cols ≥ 1` (the iterator terminates and the final `assert!` holds);
    all output lines have `cols` cells; non-empty input gives non-empty output; if the last input
    line is unwrapped so is the last output line. -/
theorem reflow_ok (lines : List Line) (cols : Nat) (hc : 1 ≤ cols)
    (hlu : lastUnwrapped lines = true) :
    ∃ out, reflow lines cols = some out ∧ (∀ l ∈ out, l.len = cols) ∧
      (lines ≠ [] → out ≠ []) ∧ lastUnwrapped out = true := by
  obtain ⟨out, hr, hall, hem, hl⟩ :=
    reflowGo_ok cols hc (reflowFuel lines) none lines (reflowFuel_gt lines) hlu
  have hall' : out.all (fun l => l.len == cols) = true := by
    rw [List.all_eq_true]; intro l hl'; simpa using hall l hl'
  refine ⟨out, ?_, hall, ?_, hl⟩
  · have : ¬ cols = 0 := by omega
    simp only [reflow, this, if_false, hr, hall', if_true]
  · intro hne he
    subst he
    cases lines with
    | nil => exact hne rfl
    | cons a b => simp at hem

end Buffer

end Avt
