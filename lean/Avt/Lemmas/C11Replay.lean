/-
  Avt.Lemmas.C11Replay — `dump_general`: under `DumpOK`, feeding `T.dump` to the fresh terminal of `T`'s size
  yields `T` up to `normT`, either screen active, arbitrary saved contexts, both routes of step 9 (steps
  numbered as in Lemmas/DumpCut.lean, whose cut of `Terminal.dump` gives the texts).

  The buffer of step 1 is typed into the fresh terminal, whose cursor and pen are known exactly
  (`head_replay`); from there to step 8 the state is known up to `rcore` only, a chain of `Rep`s applied once;
  `tail_replay` ends it.  The screen switches of steps 4–6 (`ESC [ m` with `CSI ?1047h`, `CSI ?1047l`) are
  record updates, by the closed forms `C16.enterAlt` (C16Switch) and `leaveAlt` (C11Sound2); `rep_456` is steps 4–6
  with the primary screen showing.
-/
import Avt.Lemmas.C11Stages
import Avt.Lemmas.C11Sound2

namespace Avt
namespace Lemmas.C11
open Avt.Spec.C11 Avt.Spec.C04 Avt.C04L Avt.Terminal

/-- `reflow` at an unchanged geometry flags the buffer for trimming -/
def trimmed (b : Buffer) : Buffer := { b with trimNeeded := true }

/-- `ESC [ m` then `CSI ?1047h`: the blank alternate buffer is made with the default pen -/
theorem feeds_enterAlt {t : Terminal} (ht : TInv t = true) (hp : t.activeBufferType = .primary) :
    Feeds ([0x1b, 0x5b, 0x6d] ++ [csi, 0x3f, 0x31, 0x30, 0x34, 0x37, 0x68]) t
      { t with pen := {}, buffer := trimmed (Buffer.new t.cols t.rows (some 0) (some {})), otherBuffer := t.buffer,
               activeBufferType := .alternate, savedCtx := clampCtx t.alternateSavedCtx t.cols t.rows,
               alternateSavedCtx := t.savedCtx, dirtyLines := List.replicate t.rows true } := by
  refine (feeds_sgr0 t).append ((Feeds.one emits_1047h (t' := C16.enterAlt { t with pen := {} })
    (Props.C16.exec_decset_one.trans (decsetOne_alt _ (TInv_withPen ht {}) rfl))).to ?_)
  unfold C16.enterAlt
  rw [if_neg (by rw [hp]; nofun)]
  rfl

theorem rep_leaveAlt {a : Terminal} (ha : a.activeBufferType = .alternate)
    (hg : a.otherBuffer.cols = a.cols ∧ a.otherBuffer.rows = a.rows) :
    Rep [csi, 0x3f, 0x31, 0x30, 0x34, 0x37, 0x6c] a
      { a with buffer := trimmed a.otherBuffer, otherBuffer := a.buffer, activeBufferType := .primary,
               savedCtx := clampCtx a.alternateSavedCtx a.cols a.rows, alternateSavedCtx := a.savedCtx } :=
  Rep.intro fun j ht => by
    refine ⟨_, Feeds.one emits_1047l (t' := leaveAlt (withJunk a j) false)
      (Props.C16.exec_decrst_one.trans (decrstOne_alt _ ht (by simp [resizedOnAlt, hg]) rfl)), ?_⟩
    unfold leaveAlt
    rw [if_neg (by rw [show (withJunk a j).activeBufferType = .alternate from ha]; nofun)]
    rfl

theorem clampCtx_idem (c : SavedCtx) (cols rows : Nat) :
    clampCtx (clampCtx c cols rows) cols rows = clampCtx c cols rows := by
  simp only [clampCtx, Nat.min_assoc, Nat.min_self]

/-- **steps 4–6 with the primary screen showing**: unless the parked context `ctx` is the default one, enter the
    alternate screen (a blank buffer), configure and save its context there, and leave again — the primary buffer
    comes back flagged for trimming, its context untouched.  `B`, `O`, `asc` are what this leaves of the two
    screens and the parked context. -/
theorem rep_456 {a : Terminal} (ctx : SavedCtx) {s5 : List Nat} (hs5 : dumpCtx ctx = some s5) (hp : PenOK ctx.pen)
    (hpos : ctx.isDefault = true ∨ (ctx.cursorCol < 65535 ∧ ctx.cursorRow < 65535))
    (ha : a.activeBufferType = .primary) (hc1 : 1 ≤ a.cols) (ho : a.originMode = false) (haw : a.autoWrapMode = true)
    (hmg : a.topMargin = 0 ∧ a.bottomMargin = a.rows - 1) (hb : a.buffer.cols = a.cols ∧ a.buffer.rows = a.rows)
    (hs : a.savedCtx.cursorCol < a.cols ∧ a.savedCtx.cursorRow < a.rows) (h0 : a.alternateSavedCtx = {}) :
    ∃ B O asc, Rep ([0x1b, 0x5b, 0x6d] ++ ((if !ctx.isDefault then [csi, 0x3f, 0x31, 0x30, 0x34, 0x37, 0x68] else [])
          ++ (s5 ++ (if !ctx.isDefault then [csi, 0x3f, 0x31, 0x30, 0x34, 0x37, 0x6c] else [])))) a
        { a with buffer := B, otherBuffer := O, alternateSavedCtx := asc }
      ∧ normB B = normB a.buffer ∧ clampCtx asc a.cols a.rows = clampCtx ctx a.cols a.rows := by
  by_cases hdef : ctx.isDefault = true
  · rw [dumpCtx, if_pos hdef] at hs5
    cases hs5
    refine ⟨a.buffer, a.otherBuffer, a.alternateSavedCtx, ?_, rfl, by rw [h0, ctx_default_eq ctx hdef hp]⟩
    simp only [hdef, Bool.not_true, Bool.false_eq_true, if_false, List.append_nil]
    exact Rep.intro fun _ _ => ⟨_, feeds_sgr0 _, rfl⟩
  · let a4 : Terminal := { a with
      buffer := trimmed (Buffer.new a.cols a.rows (some 0) (some {})), otherBuffer := a.buffer,
      activeBufferType := .alternate, savedCtx := clampCtx a.alternateSavedCtx a.cols a.rows,
      alternateSavedCtx := a.savedCtx }
    have r4 : Rep _ a a4 := Rep.intro fun _ ht => ⟨_, feeds_enterAlt ht ha, rfl⟩
    have r5 := rep_ctx (a := a4) ctx hs5 hp (hpos.resolve_left hdef) hc1 ho haw hmg
    rw [if_neg hdef] at r5
    refine ⟨trimmed a.buffer, trimmed (Buffer.new a.cols a.rows (some 0) (some {})), clampCtx ctx a.cols a.rows,
      (((r4.append (r5.append (rep_leaveAlt rfl hb))).cast ?_).to ?_), rfl, clampCtx_idem _ _ _⟩
    · simp only [hdef, Bool.not_false, if_true, List.append_assoc]
    · show rcore { a with
        buffer := trimmed a.buffer, otherBuffer := trimmed (Buffer.new a.cols a.rows (some 0) (some {})),
        activeBufferType := .primary, savedCtx := clampCtx a.savedCtx a.cols a.rows,
        alternateSavedCtx := clampCtx ctx a.cols a.rows } = _
      rw [clampCtx_id _ _ _ hs.1 hs.2, ← ha]

/-- what is assumed of the dumped terminal (`gen : GenOK T` is what the single steps use): the invariant,
    well-formed cells and pens (both hold in every reachable state), the geometry exception KF2, the size
    bound KF6 — also for the parked saved position of the alternate screen, which no resize clamps (KF7) —
    and the faithfulness of step 9 (KF1 / KF3) -/
structure DumpOK (T : Terminal) : Prop where
  gen : GenOK T
  geo : resizedOnAlt T = false
  cells : ∀ l ∈ T.buffer.view, ∀ c ∈ l.cells, CellOK c
  ocells : T.activeBufferType = .alternate → ∀ l ∈ T.otherBuffer.view, ∀ c ∈ l.cells, CellOK c
  spen : PenOK T.savedCtx.pen
  apen : PenOK T.alternateSavedCtx.pen
  parked : T.activeBufferType = .primary → T.alternateSavedCtx.isDefault = true
    ∨ (T.alternateSavedCtx.cursorCol < 65535 ∧ T.alternateSavedCtx.cursorRow < 65535)
  faithful : cursorStepFaithful T = true

/-- the dumped terminal satisfies the invariant and shows the primary screen, its cells and pen are well
    formed, its size is within the KF6 bound, and step 9 takes the CUP route (`inside`) -/
structure PrimOK (T : Terminal) : Prop where
  inv : TInv T = true
  prim : T.activeBufferType = .primary
  cells : ∀ l ∈ T.buffer.view, ∀ c ∈ l.cells, CellOK c
  pen : PenOK T.pen
  cols : T.cols < 65535
  rows : T.rows ≤ 65535
  inside : T.originMode = false ∨ (T.topMargin ≤ T.cursor.row ∧ T.cursor.row ≤ T.bottomMargin)

theorem freshT_TInv (cols rows : Nat) (hc : 1 ≤ cols) (hr : 1 ≤ rows) : TInv (freshT cols rows none) = true := by
  obtain ⟨v, hv, hi⟩ := Props.C02.C02_init none hc hr
  obtain ⟨-, rfl⟩ := Vt.new_eq_some_iff.1 hv
  simp only [Inv, Bool.and_eq_true] at hi
  exact hi.2

theorem freshT_DMode (cols rows : Nat) (hr : 1 ≤ rows) : DMode (freshT cols rows none) :=
  ⟨rfl, by show rows - 1 + 1 = rows; omega, rfl, rfl, ⟨rfl, rfl⟩⟩

theorem ctx_result (ctx : SavedCtx) (cols rows : Nat) (hp : PenOK ctx.pen) (h1 : ctx.cursorCol < cols)
    (h2 : ctx.cursorRow < rows) : (if ctx.isDefault then ({} : SavedCtx) else clampCtx ctx cols rows) = ctx := by
  by_cases hd : ctx.isDefault = true
  · rw [if_pos hd]; exact (ctx_default_eq ctx hd hp).symm
  · rw [if_neg hd]; exact clampCtx_id ctx cols rows h1 h2

theorem clampCtx_default (cols rows : Nat) : clampCtx {} cols rows = {} := by
  simp [clampCtx]

/-- a saved-context block for a context inside the screen, the active saved context still fresh: steps 3 and 5
    on the screen they dump -/
theorem rep_ctx_in {a : Terminal} (ctx : SavedCtx) {s : List Nat} (hs : dumpCtx ctx = some s) (hp : PenOK ctx.pen)
    (hin : ctx.cursorCol < a.cols ∧ ctx.cursorRow < a.rows) (hsz : a.cols ≤ 65535 ∧ a.rows ≤ 65535)
    (h0 : a.savedCtx = {}) (ho : a.originMode = false) (haw : a.autoWrapMode = true)
    (hmg : a.topMargin = 0 ∧ a.bottomMargin = a.rows - 1) : Rep s a { a with savedCtx := ctx } :=
  (rep_ctx ctx hs hp (by omega) (by omega) ho haw hmg).to
    (by rw [h0, ctx_result ctx a.cols a.rows hp hin.1 hin.2])

/-- the replaying terminal after steps 1–3, up to `rcore`: fresh, but for the view `V`, the tab stops and the
    active saved context `pc` -/
def ref3 (T : Terminal) (V : List Line) (pc : SavedCtx) : Terminal :=
  { freshT T.cols T.rows none with
    buffer := { (freshT T.cols T.rows none).buffer with view := V }, tabs := T.tabs, savedCtx := pc }

/-- steps 1–3: the primary buffer, the tab stops, the primary screen's saved context.
    `P` is the primary buffer, `pc` the primary screen's saved context (which of the terminal's fields they
    are depends on the active screen). -/
theorem head_replay {T : Terminal} (h : GenOK T) (P : Buffer) (pc : SavedCtx) {d1 s3 : List Nat}
    (hd1 : P.dump = some d1) (hs3 : dumpCtx pc = some s3) (hP : BInv P = true) (hPc : P.cols = T.cols)
    (hPr : P.rows = T.rows) (hcells : ∀ l ∈ P.view, ∀ c ∈ l.cells, CellOK c) (hpp : PenOK pc.pen)
    (hpc : pc.cursorCol < T.cols ∧ pc.cursorRow < T.rows) :
    ∃ t3, Feeds (d1 ++ (tabsText T ++ s3)) (freshT T.cols T.rows none) t3 ∧ TInv t3 = true
      ∧ rcore t3 = rcore (ref3 T P.view pc) := by
  have ht := TOK.of_TInv h.inv
  obtain ⟨d, t1, hd, f1, i1, c1⟩ := buffer_dump_rcore P (freshT_TInv T.cols T.rows ht.c1 ht.r1) hP hPc hPr hcells
    (Nat.le_succ_of_le (Nat.le_of_lt h.cols)) (freshT_DMode _ _ ht.r1) rfl ⟨rfl, rfl⟩ rfl
  cases hd1.symm.trans hd
  obtain ⟨t3, f3, i3, c3⟩ := ((rep_tabs (a := { ref3 T P.view {} with tabs := Tabs.new T.cols }) T.tabs ht.tabs
      (Nat.le_of_lt h.cols) rfl).append
    (rep_ctx_in (a := ref3 T P.view {}) pc hs3 hpp hpc ⟨Nat.le_of_lt h.cols, h.rows⟩ rfl rfl rfl ⟨rfl, rfl⟩))
    t1 i1 c1
  exact ⟨t3, f1.append f3, i3, c3⟩

theorem dump_general_primary (T : Terminal) (h : DumpOK T) (hp : T.activeBufferType = .primary) :
    ∃ d t', T.dump = some d ∧ Feeds d (freshT T.cols T.rows none) t' ∧ normT t' = normT T := by
  have ht := TOK.of_TInv h.gen.inv
  obtain ⟨d1, hd1⟩ := Buffer.dump_ok ht.bok.hr
  obtain ⟨s3, hs3⟩ := dumpCtx_ok T.savedCtx
  obtain ⟨s5, hs5⟩ := dumpCtx_ok T.alternateSavedCtx
  obtain ⟨pd, hpd⟩ := T.pen.dump_ok
  obtain ⟨s9, hs9⟩ := pendingText_ok ht
  obtain ⟨t3, f3, i3, c3⟩ := head_replay h.gen T.buffer T.savedCtx hd1 hs3 ht.bok.BInv ht.bcols ht.brows h.cells h.spen
    ht.sctx
  obtain ⟨B, O, asc, r5, hB, hasc⟩ := rep_456 (a := ref3 T T.buffer.view T.savedCtx) T.alternateSavedCtx hs5 h.apen
    (h.parked hp) rfl ht.c1 rfl rfl ⟨rfl, rfl⟩ ⟨rfl, rfl⟩ ht.sctx rfl
  obtain ⟨t6, f6, i6, c6⟩ := r5 t3 i3 c3
  obtain ⟨t', ft, hn⟩ := tail_replay h.gen h.faithful h.cells (hB.trans ((normB_eq_iff _ _).2 ⟨rfl, ht.bcols.symm, ht.brows.symm⟩))
    (Or.inl hp) hasc hs9 hpd i6 (c6.trans (by rw [headRef, hp]; rfl))
  exact ⟨_, t', dump_eq_primary hp ht.r1 hd1 hs3 hs5 hpd hs9,
    (f3.append (f6.append ft)).cast (by simp only [List.append_assoc]), hn⟩

theorem feeds_home {t : Terminal} (ht : TInv t = true) (ho : t.originMode = false) :
    Feeds [csi, 0x31, 0x3b, 0x31, 0x48] t (Spec.C05.cursorAt t 0 0) :=
  (feeds_move emits_home ht rfl).to (by simp [Spec.C05.moveSpec, Spec.C05.arg, Spec.C05.absCol, Spec.C05.absRow, ho])

/-- step 4 with the alternate screen showing: `ESC [ m`, `CSI ?1047h` (a blank alternate buffer), `CSI 1;1H`,
    the dump of the alternate buffer `P`; cursor and pen are exact from `CSI 1;1H` on, as `buffer_dump` needs -/
theorem rep_altBuffer {a : Terminal} (P : Buffer) {d : List Nat} (hd : P.dump = some d) (hP : BInv P = true)
    (hPc : P.cols = a.cols) (hPr : P.rows = a.rows) (hcells : ∀ l ∈ P.view, ∀ c ∈ l.cells, CellOK c)
    (hcols : a.cols ≤ 65536) (ha : a.activeBufferType = .primary) (hm : DMode a) (ho : a.originMode = false) :
    Rep ([0x1b, 0x5b, 0x6d] ++ ([csi, 0x3f, 0x31, 0x30, 0x34, 0x37, 0x68] ++ ([csi, 0x31, 0x3b, 0x31, 0x48] ++ d))) a
      { a with buffer := { trimmed (Buffer.new a.cols a.rows (some 0) (some {})) with view := P.view },
               otherBuffer := a.buffer, activeBufferType := .alternate,
               savedCtx := clampCtx a.alternateSavedCtx a.cols a.rows, alternateSavedCtx := a.savedCtx } :=
  Rep.intro fun _ ht => by
    have f4 := feeds_enterAlt ht ha
    have i4 := f4.TInv ht
    have f4b := feeds_home i4 ho
    obtain ⟨d', t1, hd', f, -, e⟩ := buffer_dump_rcore P (f4b.TInv i4) hP hPc hPr hcells hcols
      ⟨hm.top, hm.bottom, hm.autoWrap, hm.replace, hm.charset⟩ rfl ⟨rfl, rfl⟩ rfl
    cases hd.symm.trans hd'
    exact ⟨t1, (f4.append (f4b.append f)).cast (by simp only [List.append_assoc]), e⟩

/-- the alternate screen active (the parked primary has the terminal's geometry): the primary buffer and its
    context first, then the alternate buffer on a blank alternate screen, its context; no switch back -/
theorem dump_general_alternate (T : Terminal) (h : DumpOK T) (hp : T.activeBufferType = .alternate) :
    ∃ d t', T.dump = some d ∧ Feeds d (freshT T.cols T.rows none) t' ∧ normT t' = normT T := by
  have ht := TOK.of_TInv h.gen.inv
  obtain ⟨hgeo, hactx⟩ := parked_inside ht hp h.geo
  obtain ⟨d1, hd1⟩ := Buffer.dump_ok ht.ook.hr
  obtain ⟨s3, hs3⟩ := dumpCtx_ok T.alternateSavedCtx
  obtain ⟨d4, hd4⟩ := Buffer.dump_ok ht.bok.hr
  obtain ⟨s5, hs5⟩ := dumpCtx_ok T.savedCtx
  obtain ⟨pd, hpd⟩ := T.pen.dump_ok
  obtain ⟨s9, hs9⟩ := pendingText_ok ht
  obtain ⟨t3, f3, i3, c3⟩ := head_replay h.gen T.otherBuffer T.alternateSavedCtx hd1 hs3 ht.ook.BInv hgeo.1 hgeo.2
    (h.ocells hp) h.apen hactx
  have r4 := rep_altBuffer (a := ref3 T T.otherBuffer.view T.alternateSavedCtx) T.buffer hd4 ht.bok.BInv ht.bcols
    ht.brows h.cells (Nat.le_succ_of_le (Nat.le_of_lt h.gen.cols)) rfl
    ⟨rfl, (freshT_DMode T.cols T.rows ht.r1).bottom, rfl, rfl, rfl, rfl⟩ rfl
  obtain ⟨t5, f5, i5, c5⟩ := (r4.append (rep_ctx_in T.savedCtx hs5 h.spen ht.sctx
    ⟨Nat.le_of_lt h.gen.cols, h.gen.rows⟩ (clampCtx_default _ _) rfl rfl ⟨rfl, rfl⟩)) t3 i3 c3
  obtain ⟨t', ft, hn⟩ := tail_replay h.gen h.faithful h.cells
    (B := { trimmed (Buffer.new T.cols T.rows (some 0) (some {})) with view := T.buffer.view })
    (O := (ref3 T T.otherBuffer.view {}).buffer) (asc := T.alternateSavedCtx)
    ((normB_eq_iff _ _).2 ⟨rfl, ht.bcols.symm, ht.brows.symm⟩)
    (Or.inr ((normB_eq_iff _ _).2 ⟨rfl, hgeo.1.symm, hgeo.2.symm⟩)) rfl hs9 hpd i5
    (c5.trans (by rw [headRef, hp]; rfl))
  exact ⟨_, t', dump_eq_alternate hp ht.r1 hd1 hs3 hd4 hs5 hpd hs9,
    (f3.append (f5.append ft)).cast (by simp only [List.append_assoc]), hn⟩

theorem dump_general (T : Terminal) (h : DumpOK T) :
    ∃ d t', T.dump = some d ∧ Feeds d (freshT T.cols T.rows none) t' ∧ normT t' = normT T := by
  cases hp : T.activeBufferType with
  | primary => exact dump_general_primary T h hp
  | alternate => exact dump_general_alternate T h hp

end Lemmas.C11
end Avt
