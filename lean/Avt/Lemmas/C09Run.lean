/-
  Avt.Lemmas.C09Run — from the single steps to whole inputs: a fresh terminal fed printable lines
  joined by CR LF ends in the typewriter state for exactly those lines.
-/
import Avt.Lemmas.C09Steps
import Avt.Lemmas.FoldM
import Avt.Lemmas.PowerOn

namespace Avt.Lemmas
open Avt Avt.Spec.C09

theorem TW_init {c r : Nat} {t : Terminal} (hc : 1 ≤ c) (hr : 1 ≤ r)
    (h : Terminal.new c r none = some t) : TWMode t ∧ TWGeom t ∧ TW t [[]] := by
  obtain ⟨-, rfl⟩ := Terminal.new_eq_some_iff.1 h
  unfold C11.freshT
  refine ⟨⟨rfl, by show r - 1 + 1 = r; omega, rfl, rfl, ⟨rfl, rfl⟩, rfl, rfl⟩,
    ⟨hc, hr, rfl, rfl, by simp [Buffer.new], by show 0 < r; omega, Or.inr ⟨rfl, by show 0 < c; omega⟩,
      by simp [Dirty.new]⟩, ?_⟩
  refine TW_iff.2 ⟨[], [], [], [], Line.blank c Pen.default, List.replicate (r - 1) (Line.blank c Pen.default), c,
    rfl,
    { lines := ?_
      closed_last := rfl
      closed_text := rfl
      closed_prefix := rfl
      ws_wrapped := by simp
      lr_unwrapped := rfl
      lens := ?_
      cur_text := by rw [List.nil_append, rowsText_singleton, Line.blank_text]; rfl
      cur_len := by show 0 = 0 * c + 0; simp
      row := by show 0 + 0 = 0 + 0; rfl
      below := fun l hl => (List.mem_replicate.1 hl).2 ▸ ⟨rfl, Line.blank_text _ _⟩ }⟩
  · show [] ++ List.replicate r (Line.blank c Pen.default) = _
    simp only [List.nil_append]
    have : r = (r - 1) + 1 := by omega
    conv => lhs; rw [this, List.replicate_succ]
    simp
  · intro l hl
    simp only [List.nil_append, List.mem_append, List.mem_singleton, List.mem_replicate] at hl
    rcases hl with hl | hl
    · rw [hl]; exact Line.blank_len ..
    · rw [hl.2]; exact Line.blank_len ..

/-- the functions the parser dispatches for printable lines joined by CR LF -/
def textFuns : List (List Nat) → List Function
  | [] => []
  | [l] => l.map Function.print
  | l :: ls => l.map Function.print ++ [Function.cr, Function.lf] ++ textFuns ls

def execAll (t : Terminal) (fs : List Function) : Option Terminal := Terminal.foldM' Terminal.execute fs t

theorem execAll_nil (t : Terminal) : execAll t [] = some t := rfl

theorem execAll_cons (t : Terminal) (f : Function) (fs : List Function) :
    execAll t (f :: fs) = (t.execute f).bind fun t' => execAll t' fs := by
  simp only [execAll, Terminal.foldM']
  cases t.execute f <;> rfl

theorem execAll_append (t : Terminal) (fs gs : List Function) :
    execAll t (fs ++ gs) = (execAll t fs).bind fun t' => execAll t' gs :=
  Terminal.foldM'_append _ fs gs t

/-- the typed text after typing the characters of `l` -/
def typeChars (logical : List (List Nat)) (l : List Nat) : List (List Nat) := l.foldl typeChar logical

theorem typeChars_snoc (done : List (List Nat)) (cur l : List Nat) :
    typeChars (done ++ [cur]) l = done ++ [cur ++ l] := by
  induction l generalizing cur with
  | nil => simp [typeChars]
  | cons c cs ih =>
    simp only [typeChars, List.foldl_cons] at ih ⊢
    rw [typeChar_snoc, ih]; simp

theorem TW_nonempty {t : Terminal} {logical : List (List Nat)} (h : TW t logical) :
    ∃ done cur, logical = done ++ [cur] := by
  obtain ⟨done, cur, _, _, _, _, _, rfl, _⟩ := h
  exact ⟨done, cur, rfl⟩

theorem TW_line {t : Terminal} {logical : List (List Nat)} (hm : TWMode t) (hg : TWGeom t)
    (h : TW t logical) (l : List Nat) :
    ∃ t', execAll t (l.map .print) = some t' ∧ TWMode t' ∧ TWGeom t' ∧ TW t' (typeChars logical l) := by
  induction l generalizing t logical with
  | nil => exact ⟨t, rfl, hm, hg, h⟩
  | cons c cs ih =>
    obtain ⟨t1, h1, hm1, hg1, hw1⟩ := TW_print hm hg h c
    obtain ⟨t2, h2, hm2, hg2, hw2⟩ := ih hm1 hg1 hw1
    refine ⟨t2, ?_, hm2, hg2, hw2⟩
    rw [List.map_cons, execAll_cons, show t.execute (.print c) = t.print c from rfl, h1]
    exact h2

/-- the typed text after typing whole lines separated by CR LF -/
def typeText : List (List Nat) → List (List Nat) → List (List Nat)
  | logical, [] => logical
  | logical, [l] => typeChars logical l
  | logical, l :: ls => typeText (typeNewline (typeChars logical l)) ls

theorem typeText_snoc (done : List (List Nat)) (cur : List Nat) :
    ∀ (ls : List (List Nat)), ls ≠ [] → typeText (done ++ [cur]) ls = done ++ [cur ++ ls.headD []] ++ ls.tail
  | [], h => absurd rfl h
  | [l], _ => by simp [typeText, typeChars_snoc]
  | l :: l2 :: rest, _ => by
    have ih := typeText_snoc (done ++ [cur ++ l]) [] (l2 :: rest) (by simp)
    simp only [typeText, typeChars_snoc, typeNewline]
    rw [ih]; simp

theorem typeText_fresh (ls : List (List Nat)) (h : ls ≠ []) : typeText [[]] ls = ls := by
  have := typeText_snoc [] [] ls h
  simp only [List.nil_append] at this
  rw [this]
  cases ls with
  | nil => exact absurd rfl h
  | cons a b => simp

theorem crlf_eq (t : Terminal) :
    execAll t [Function.cr, Function.lf] = (t.execute .cr).bind fun t1 => t1.execute .lf := by
  simp only [execAll_cons, execAll_nil]
  cases t.execute Function.cr with
  | none => rfl
  | some t1 => simp

theorem TW_text_run {t : Terminal} {logical : List (List Nat)} (hm : TWMode t) (hg : TWGeom t)
    (h : TW t logical) : ∀ (ls : List (List Nat)),
    ∃ t', execAll t (textFuns ls) = some t' ∧ TWMode t' ∧ TWGeom t' ∧ TW t' (typeText logical ls) := by
  intro ls
  induction ls generalizing t logical with
  | nil => exact ⟨t, rfl, hm, hg, h⟩
  | cons l rest ih =>
    cases rest with
    | nil => exact TW_line hm hg h l
    | cons l2 rest2 =>
      obtain ⟨t1, h1, hm1, hg1, hw1⟩ := TW_line hm hg h l
      obtain ⟨t2, h2, hm2, hg2, hw2⟩ := TW_crlf hm1 hg1 hw1
      obtain ⟨t3, h3, hm3, hg3, hw3⟩ := ih hm2 hg2 hw2
      refine ⟨t3, ?_, hm3, hg3, hw3⟩
      show execAll t (l.map Function.print ++ [Function.cr, Function.lf] ++ textFuns (l2 :: rest2)) = some t3
      rw [execAll_append, execAll_append, h1]
      simp only [Option.bind_some, crlf_eq, h2]
      exact h3

end Avt.Lemmas
